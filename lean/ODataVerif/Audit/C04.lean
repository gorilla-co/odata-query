-- GENERATED by harness/common.py: axiom audit for C04
import ODataVerif.Tie.Orm
import ODataVerif.Props.C04
#print axioms OQ.Tie.orm_djangoHandlers_tie
#print axioms OQ.Tie.orm_saOrmHandlers_tie
#print axioms OQ.Tie.orm_saCoreHandlers_tie
#print axioms OQ.Tie.orm_djangoLiterals_tie
#print axioms OQ.Tie.orm_saLiterals_tie
#print axioms OQ.Tie.orm_djangoSubstr_tie
#print axioms OQ.Tie.orm_saSubstr_tie
#print axioms OQ.Tie.orm_model_handlers
#print axioms OQ.Tie.orm_django_arities_tie
#print axioms OQ.Tie.orm_literals_are_parameters
#print axioms OQ.C04.tableOk_table
#print axioms OQ.C04.idsOk_of_dbOk
#print axioms OQ.C04.colUnique_le
#print axioms OQ.C04.keysOk_prop
#print axioms OQ.C04.schOk_of_schemaOk
#print axioms OQ.C04.keysOk_toMany
#print axioms OQ.C04.keysOk_of_dbOk
#print axioms OQ.C04.reverse_reaches
#print axioms OQ.C04.dj_sound_partial
#print axioms OQ.C04.sa_sound_partial
#print axioms OQ.C04.orms_agree
#print axioms OQ.C04.dj_sound_typed
#print axioms OQ.C04.sa_sound_typed
#print axioms OQ.C04.vSchema_ok
#print axioms OQ.C04.cx1Db_ok
#print axioms OQ.C04.kids_rev
#print axioms OQ.C04.cx2Db_ok
#print axioms OQ.C04.cx1E_elab
#print axioms OQ.C04.dj_sound_original_false_toOne
#print axioms OQ.C04.sa_sound_original_false_toOne
#print axioms OQ.C04.dj_sound_original_false_ns
#print axioms OQ.C04.cx2Db_keys
#print axioms OQ.C04.okE_elab
#print axioms OQ.C04.n_eq_1
#print axioms OQ.C04.cx3Sch_ok
#print axioms OQ.C04.cx3Db_ok
#print axioms OQ.C04.cx3R_mem
#print axioms OQ.C04.cx3E_elab
#print axioms OQ.C04.cx3_dj
#print axioms OQ.C04.cx3_sa
#print axioms OQ.C04.dj_sound_false_without_keysOk
#print axioms OQ.C04.sa_sound_false_without_keysOk
#print axioms OQ.C04.nkDb_ok
#print axioms OQ.C04.nkDb_keys
#print axioms OQ.C04.nkE1_elab
#print axioms OQ.C04.nkE2_elab
#print axioms OQ.C04.n_eq_2
