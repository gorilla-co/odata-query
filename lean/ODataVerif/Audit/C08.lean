-- GENERATED by harness/common.py: axiom audit for C08
import ODataVerif.Tie.Orm
import ODataVerif.Props.C08
#print axioms OQ.Tie.orm_djangoHandlers_tie
#print axioms OQ.Tie.orm_saOrmHandlers_tie
#print axioms OQ.Tie.orm_saCoreHandlers_tie
#print axioms OQ.Tie.orm_djangoLiterals_tie
#print axioms OQ.Tie.orm_saLiterals_tie
#print axioms OQ.Tie.orm_djangoSubstr_tie
#print axioms OQ.Tie.orm_saSubstr_tie
#print axioms OQ.Tie.orm_model_handlers
#print axioms OQ.Tie.orm_django_arities_tie
#print axioms OQ.Tie.orm_literals_are_parameters
#print axioms OQ.C08.lits_null_of
#print axioms OQ.C08.params_tree
#print axioms OQ.C08.params_trees
#print axioms OQ.C08.params_treeLam
#print axioms OQ.C08.dj_params
#print axioms OQ.C08.sa_params
#print axioms OQ.C08.relit_inv
#print axioms OQ.C08.dj_skeleton
#print axioms OQ.C08.relitSa_inv
#print axioms OQ.C08.relitSa_esc
#print axioms OQ.C08.relitSaList_esc2
#print axioms OQ.C08.sa_skeleton
#print axioms OQ.C08.relit_of_relitSa
#print axioms OQ.C08.relitList_of_relitSaList
#print axioms OQ.C08.relitLam_of_relitSaLam
#print axioms OQ.C08.kf_key
#print axioms OQ.C08.kf_handler
#print axioms OQ.C08.kf_plan
#print axioms OQ.C08.kf_field
#print axioms OQ.C08.kf_typecheck
#print axioms OQ.C08.kf_litParam
#print axioms OQ.C08.containsE_visit
#print axioms OQ.C08.kf_autoescape_top
#print axioms OQ.C08.kf_autoescape
