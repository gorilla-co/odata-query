-- GENERATED by harness/common.py: axiom audit for C16
import ODataVerif.Props.C16
#print axioms OQ.C16.wf_induct
#print axioms OQ.C16.trace_all
#print axioms OQ.C16.preorder
#print axioms OQ.C16.trace_fields
#print axioms OQ.C16.trace_items
#print axioms OQ.C16.length_nodesOf
#print axioms OQ.C16.length_nodesOfList
#print axioms OQ.C16.each_once
#print axioms OQ.C16.dispatch
#print axioms OQ.C16.handlerName_node
#print axioms OQ.C16.id_all
#print axioms OQ.C16.transform_id
#print axioms OQ.C16.tfields_none
#print axioms OQ.C16.titems_none
#print axioms OQ.C16.isKind_node
#print axioms OQ.C16.override_all
#print axioms OQ.C16.transform_override
#print axioms OQ.C16.tfields_rec
#print axioms OQ.C16.titems_rec
#print axioms OQ.C16.topdown_all
#print axioms OQ.C16.transform_override_topdown
#print axioms OQ.C16.tfields_td
#print axioms OQ.C16.titems_td
#print axioms OQ.C16.mapBU_absent
#print axioms OQ.C16.mapBUList_absent
#print axioms OQ.C16.override_absent_kind
#print axioms OQ.C16.toTree_isNode
#print axioms OQ.C16.wfFields_cons
#print axioms OQ.C16.wf_toTree_all
#print axioms OQ.C16.wf_toTree
#print axioms OQ.C16.wfItems_toTrees
#print axioms OQ.C16.wf_optLam
