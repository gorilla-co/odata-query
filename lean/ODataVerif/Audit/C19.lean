-- GENERATED by harness/common.py: axiom audit for C19
import ODataVerif.Props.Accepted
import ODataVerif.Tie.ParserTables
import ODataVerif.Props.C19
import ODataVerif.Props.C13Text
import ODataVerif.Props.C19Text
#print axioms OQ.Accepted.respell_accepted
#print axioms OQ.Accepted.grouping_accepted
#print axioms OQ.Accepted.injection_free_accepted
#print axioms OQ.Accepted.mirror_accepted
#print axioms OQ.Tie.lexerRules_tie
#print axioms OQ.Tie.lexerLiterals_tie
#print axioms OQ.Tie.lexerFlags_tie
#print axioms OQ.Tie.parserPrecedence_tie
#print axioms OQ.Tie.productions_tie
#print axioms OQ.Tie.lrTables_tie
#print axioms OQ.C19.layout_invariant
#print axioms OQ.C19.bool_value_case
#print axioms OQ.C13.tokOk_of_lexable
#print axioms OQ.C13.goodE
#print axioms OQ.C13.goodArgs
#print axioms OQ.C13.goodNamed
#print axioms OQ.C13.chain_printToks
#print axioms OQ.C13.lex_render_printToks_sep
#print axioms OQ.C13.lex_render_printToks
#print axioms OQ.C13.parse_sep_printToks
#print axioms OQ.C13.parse_text
#print axioms OQ.C13.parse_text_afterMinus
#print axioms OQ.C13.roundtrip_text
#print axioms OQ.C13.cexNeg_toks
#print axioms OQ.C13.cexNot_toks
#print axioms OQ.C13.cexAdd_toks
#print axioms OQ.C13.lex_render_printToks_original_false
#print axioms OQ.C13.parse_text_original_false
#print axioms OQ.C13.parse_text_original_false'
#print axioms OQ.C19.insWs_dropWs
#print axioms OQ.C19.insWs_length
#print axioms OQ.C19.lex_respell_ins
#print axioms OQ.C19.lex_respell
#print axioms OQ.C19.sepG_irrel
#print axioms OQ.C19.wsHead_G
#print axioms OQ.C19.insWs_sepG
#print axioms OQ.C19.parse_respell
#print axioms OQ.C19.respell_concat
#print axioms OQ.C19.blank
#print axioms OQ.C19.ci
#print axioms OQ.C19.exA_toks
#print axioms OQ.C19.exB_toks
#print axioms OQ.C19.exC_toks
#print axioms OQ.C19.exD_toks
#print axioms OQ.C19.exE_toks
#print axioms OQ.C19.exF_toks
#print axioms OQ.C19.exG_toks
#print axioms OQ.C19.exA_respell
#print axioms OQ.C19.exB_respell
#print axioms OQ.C19.exC_respell
#print axioms OQ.C19.exD_respell
#print axioms OQ.C19.exE_respell
#print axioms OQ.C19.exF_respell
#print axioms OQ.C19.exG_respell
#print axioms OQ.C19.ex_lexable
#print axioms OQ.C19.exA_parse
#print axioms OQ.C19.exB_parse
#print axioms OQ.C19.exC_parse
#print axioms OQ.C19.exD_parse
#print axioms OQ.C19.exE_parse
#print axioms OQ.C19.exF_parse
#print axioms OQ.C19.exG_parse
#print axioms OQ.C19.ex_eval
