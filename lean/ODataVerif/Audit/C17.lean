-- GENERATED by harness/common.py: axiom audit for C17
import ODataVerif.Props.C17
import ODataVerif.Props.C17Path
#print axioms OQ.C17.isAttr_mkAttr
#print axioms OQ.C17.attr_cases
#print axioms OQ.C17.pathView_nonAttr
#print axioms OQ.C17.pathView_mkAttr
#print axioms OQ.C17.pathView_attr_ne_nil
#print axioms OQ.C17.buildPath_snoc
#print axioms OQ.C17.strip_mkAttr
#print axioms OQ.C17.strip_nonAttr
#print axioms OQ.C17.strip_path_step
#print axioms OQ.C17.strip_path
#print axioms OQ.C17.strip_reroot
#print axioms OQ.C17.stripFields_reroot
#print axioms OQ.C17.stripItems_reroot
#print axioms OQ.C17.strip_eq_reroot
#print axioms OQ.C17.strip_eq_reroot_expr
#print axioms OQ.C17.reroot_absent
#print axioms OQ.C17.rerootList_absent
#print axioms OQ.C17.absent_id
#print axioms OQ.C17.pathView_foldl
#print axioms OQ.C17.pathView_buildPath
#print axioms OQ.C17.rooted_at_variable
#print axioms OQ.C17.rooted_elsewhere
