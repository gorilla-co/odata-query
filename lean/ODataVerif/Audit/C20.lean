-- GENERATED by harness/common.py: axiom audit for C20
import ODataVerif.Tie.ParserTables
import ODataVerif.Props.C20
#print axioms OQ.Tie.lexerRules_tie
#print axioms OQ.Tie.lexerLiterals_tie
#print axioms OQ.Tie.lexerFlags_tie
#print axioms OQ.Tie.parserPrecedence_tie
#print axioms OQ.Tie.productions_tie
#print axioms OQ.Tie.lrTables_tie
#print axioms OQ.C20.tokNext_indep
#print axioms OQ.C20.tokRun_indep
#print axioms OQ.C20.stepsOf_succ
#print axioms OQ.C20.stepsOf_indep
#print axioms OQ.C20.interleave_indep
#print axioms OQ.C20.reset_clean
#print axioms OQ.C20.parse_state_independent
#print axioms OQ.C20.history_independent
#print axioms OQ.C20.parseOn_is_parse
