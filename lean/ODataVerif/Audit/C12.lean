-- GENERATED by harness/common.py: axiom audit for C12
import ODataVerif.Props.C12Sql
import ODataVerif.Props.C12Orm
import ODataVerif.Props.C12Complete
import ODataVerif.Props.C12Accepted
import ODataVerif.Tie.Sql
import ODataVerif.Tie.SqlTemplates
import ODataVerif.Tie.ExceptionTree
import ODataVerif.Tie.ParserTables
import ODataVerif.Props.C12
import ODataVerif.Props.C10Image
import ODataVerif.Props.C06Image
#print axioms OQ.C12.callsOk_of_path
#print axioms OQ.C12.callsOk_all
#print axioms OQ.C12.callsOkList_of_args
#print axioms OQ.C12.callsOkList_of_named
#print axioms OQ.C12.callsOk_of_printable
#print axioms OQ.C12.sql_never_leaks_accepted
#print axioms OQ.C12Orm.leaks_iff_nl
#print axioms OQ.C12Orm.not_list_of_sType
#print axioms OQ.C12Orm.nl_cmp_tail
#print axioms OQ.C12Orm.djVisit_nl
#print axioms OQ.C12Orm.djArgs_ok
#print axioms OQ.C12Orm.dj_never_leaks
#print axioms OQ.C12Orm.saVisit_nl
#print axioms OQ.C12Orm.saArgs_ok
#print axioms OQ.C12Orm.sa_never_leaks
#print axioms OQ.C12Orm.pyLitOk_ok
#print axioms OQ.C12Orm.djVisitList_ok
#print axioms OQ.C12Orm.dj_never_leaks_welltyped
#print axioms OQ.C12Orm.saVisitList_ok
#print axioms OQ.C12Orm.sa_never_leaks_welltyped
#print axioms OQ.C12Orm.cols_on1
#print axioms OQ.C12Orm.cols_on2
#print axioms OQ.C12Orm.cols_on3
#print axioms OQ.C12Orm.cols_pint
#print axioms OQ.C12Orm.cols_const
#print axioms OQ.C12Orm.cols_col
#print axioms OQ.C12Orm.cols_param
#print axioms OQ.C12Orm.cols_node
#print axioms OQ.C12Orm.colsL_nil
#print axioms OQ.C12Orm.colsL_cons
#print axioms OQ.C12Orm.colsL_ofList_nil
#print axioms OQ.C12Orm.colsL_ofList_cons
#print axioms OQ.C12Orm.cols_shift
#print axioms OQ.C12Orm.planTree_cols
#print axioms OQ.C12Orm.colOf_attrStep
#print axioms OQ.C12Orm.cols_attrStep
#print axioms OQ.C12Orm.fieldRefs_null_of
#print axioms OQ.C12Orm.colOf_tree
#print axioms OQ.C12Orm.cols_tree
#print axioms OQ.C12Orm.cols_trees
#print axioms OQ.C12Orm.cols_treeLam
#print axioms OQ.C12Orm.dj_columns
#print axioms OQ.C12Orm.sa_columns
#print axioms OQ.C12Orm.pyLitOk'_inv
#print axioms OQ.C12Orm.dj_never_leaks_welltyped'
#print axioms OQ.C12Orm.sa_never_leaks_welltyped'
#print axioms OQ.C12Orm.prov_pyLitOk'
#print axioms OQ.C12Orm.provL_pyLitOk'
#print axioms OQ.C12Orm.provLam_pyLitOk'
#print axioms OQ.C12Orm.accepted_pyLitOk'
#print axioms OQ.C12Orm.dj_never_leaks_accepted
#print axioms OQ.C12Orm.sa_never_leaks_accepted
#print axioms OQ.Tie.sql_stdFuncs_tie
#print axioms OQ.Tie.sql_sqliteFuncs_tie
#print axioms OQ.Tie.sql_athenaFuncs_tie
#print axioms OQ.Tie.sql_stdVisits_tie
#print axioms OQ.Tie.sql_sqliteVisits_tie
#print axioms OQ.Tie.sql_athenaVisits_tie
#print axioms OQ.Tie.sql_precConsts_tie
#print axioms OQ.Tie.sql_funcPrec_tie
#print axioms OQ.Tie.sql_model_handlers
#print axioms OQ.Tie.sql_model_funcPrec
#print axioms OQ.Tie.sql_model_precConsts
#print axioms OQ.Tie.sqlTemplates_tie
#print axioms OQ.Tie.tplTable_in_source
#print axioms OQ.Tie.hassubset_athena
#print axioms OQ.Tie.selectTpl_in_source
#print axioms OQ.Tie.exceptionTree_tie
#print axioms OQ.Tie.lexerRules_tie
#print axioms OQ.Tie.lexerLiterals_tie
#print axioms OQ.Tie.lexerFlags_tie
#print axioms OQ.Tie.parserPrecedence_tie
#print axioms OQ.Tie.productions_tie
#print axioms OQ.Tie.lrTables_tie
#print axioms OQ.C12.sql_never_leaks
#print axioms OQ.C12.sql_never_leaks_list
#print axioms OQ.C10.parseToks_printable
#print axioms OQ.C10.parse_image
#print axioms OQ.C06.boolText_nodq
#print axioms OQ.C06.boolOrIdent_shape
#print axioms OQ.C06.lexOne_shape
#print axioms OQ.C06.lexFuel_shape
#print axioms OQ.C06.lexAll_shape
#print axioms OQ.C06.accepted_litOk
