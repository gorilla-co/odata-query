-- GENERATED by harness/common.py: axiom audit for C07
import ODataVerif.Props.Accepted
import ODataVerif.Tie.Sql
import ODataVerif.Tie.SqlTemplates
import ODataVerif.Tie.ParserTables
import ODataVerif.Props.C07
import ODataVerif.Props.C07Lex
import ODataVerif.Props.C07Shape
import ODataVerif.Props.C06Image
#print axioms OQ.Accepted.respell_accepted
#print axioms OQ.Accepted.grouping_accepted
#print axioms OQ.Accepted.injection_free_accepted
#print axioms OQ.Accepted.mirror_accepted
#print axioms OQ.Tie.sql_stdFuncs_tie
#print axioms OQ.Tie.sql_sqliteFuncs_tie
#print axioms OQ.Tie.sql_athenaFuncs_tie
#print axioms OQ.Tie.sql_stdVisits_tie
#print axioms OQ.Tie.sql_sqliteVisits_tie
#print axioms OQ.Tie.sql_athenaVisits_tie
#print axioms OQ.Tie.sql_precConsts_tie
#print axioms OQ.Tie.sql_funcPrec_tie
#print axioms OQ.Tie.sql_model_handlers
#print axioms OQ.Tie.sql_model_funcPrec
#print axioms OQ.Tie.sql_model_precConsts
#print axioms OQ.Tie.sqlTemplates_tie
#print axioms OQ.Tie.tplTable_in_source
#print axioms OQ.Tie.hassubset_athena
#print axioms OQ.Tie.selectTpl_in_source
#print axioms OQ.Tie.lexerRules_tie
#print axioms OQ.Tie.lexerLiterals_tie
#print axioms OQ.Tie.lexerFlags_tie
#print axioms OQ.Tie.parserPrecedence_tie
#print axioms OQ.Tie.productions_tie
#print axioms OQ.Tie.lrTables_tie
#print axioms OQ.C07.str_token_any_content
#print axioms OQ.C07.like_literal_one_token
#print axioms OQ.C07.qid_token_any_name
#print axioms OQ.C07.kf_escape_clause
#print axioms OQ.C07.kf_escape_clause_only_suffix
#print axioms OQ.C07.lex_pieces
#print axioms OQ.C07.lex_text
#print axioms OQ.C07.shapeP_eq
#print axioms OQ.C07.skel_of_sameSkel_all
#print axioms OQ.C07.skel_of_sameSkel
#print axioms OQ.C07.skelList_of_sameSkelList
#print axioms OQ.C07.shapeO_eq_of_OEq
#print axioms OQ.C07.noninterference
#print axioms OQ.C07.noninterference_tokens
#print axioms OQ.C06.boolText_nodq
#print axioms OQ.C06.boolOrIdent_shape
#print axioms OQ.C06.lexOne_shape
#print axioms OQ.C06.lexFuel_shape
#print axioms OQ.C06.lexAll_shape
#print axioms OQ.C06.accepted_litOk
