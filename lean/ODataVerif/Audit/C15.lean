-- GENERATED by harness/common.py: axiom audit for C15
import ODataVerif.Tie.Orm
import ODataVerif.Tie.SaFunctions
import ODataVerif.Props.C15
#print axioms OQ.Tie.orm_djangoHandlers_tie
#print axioms OQ.Tie.orm_saOrmHandlers_tie
#print axioms OQ.Tie.orm_saCoreHandlers_tie
#print axioms OQ.Tie.orm_djangoLiterals_tie
#print axioms OQ.Tie.orm_saLiterals_tie
#print axioms OQ.Tie.orm_djangoSubstr_tie
#print axioms OQ.Tie.orm_saSubstr_tie
#print axioms OQ.Tie.orm_model_handlers
#print axioms OQ.Tie.orm_django_arities_tie
#print axioms OQ.Tie.orm_literals_are_parameters
#print axioms OQ.Tie.saFunctions_tie
#print axioms OQ.Tie.saFunctions_not_in_default
#print axioms OQ.C15.keep_append_where
#print axioms OQ.C15.addJoins_eq
#print axioms OQ.C15.sa_conjoins
#print axioms OQ.C15.dj_conjoins
#print axioms OQ.C15.sa_keeps
#print axioms OQ.C15.dj_keeps
#print axioms OQ.C15.joinedAttrs_mono
#print axioms OQ.C15.joinedAttrs_addJoins
#print axioms OQ.C15.sa_no_double_join
#print axioms OQ.C15.sa_adds_needed
#print axioms OQ.C15.lookup_register_other
#print axioms OQ.C15.lookup_foldl_register
#print axioms OQ.C15.registry_default_untouched
