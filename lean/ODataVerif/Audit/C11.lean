-- GENERATED by harness/common.py: axiom audit for C11
import ODataVerif.Tie.OdataFunctions
import ODataVerif.Props.C11
import ODataVerif.Props.C05Roundtrip
#print axioms OQ.Tie.odataFunctions_tie
#print axioms OQ.C11.table_eq_spec
#print axioms OQ.C11.lookup_eq_spec
#print axioms OQ.C11.functionCall_validated
#print axioms OQ.C11.unknown_payload
#print axioms OQ.C11.argcount_payload
#print axioms OQ.C11.accept
#print axioms OQ.C11.accept_iff
#print axioms OQ.C11.accepted_is_call
#print axioms OQ.C11.other_namespace_any_arity
#print axioms OQ.C11.outcome_cases
#print axioms OQ.C05.parse_printToks
#print axioms OQ.C05.BinTok.level_mk
#print axioms OQ.C05.BinTok.printable_mk
#print axioms OQ.C05.BinTok.printToks_mk
#print axioms OQ.C05.operand_minimal_left
#print axioms OQ.C05.operand_minimal_right
#print axioms OQ.C05.operand_minimal_left_paren
#print axioms OQ.C05.operand_minimal_right_paren
#print axioms OQ.C05.printToks_mk_minimal
#print axioms OQ.C05.binary_tighter_first
#print axioms OQ.C05.binary_left_assoc
#print axioms OQ.C05.binary_tighter_second
#print axioms OQ.C05.parens_win_right
#print axioms OQ.C05.parens_win_left
#print axioms OQ.C05.not_tighter_than_binary
#print axioms OQ.C05.in_tighter_than_not
#print axioms OQ.C11.arg_order
