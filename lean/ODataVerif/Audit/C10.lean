-- GENERATED by harness/common.py: axiom audit for C10
import ODataVerif.Tie.ExceptionTree
import ODataVerif.Tie.ParserTables
import ODataVerif.Props.C10
import ODataVerif.Props.C10Total
import ODataVerif.Props.C10Image
#print axioms OQ.Tie.exceptionTree_tie
#print axioms OQ.Tie.lexerRules_tie
#print axioms OQ.Tie.lexerLiterals_tie
#print axioms OQ.Tie.lexerFlags_tie
#print axioms OQ.Tie.parserPrecedence_tie
#print axioms OQ.Tie.productions_tie
#print axioms OQ.Tie.lrTables_tie
#print axioms OQ.C10.lib_hierarchy
#print axioms OQ.C10.all_rooted
#print axioms OQ.C10.functionCall_outcomes
#print axioms OQ.C10.pathCons_ident
#print axioms OQ.C10.explode_rebuild
#print axioms OQ.C10.deterministic
#print axioms OQ.C10.lex_progress
#print axioms OQ.C10.lex_fuel_irrelevant
#print axioms OQ.C10.lexAll_eq
#print axioms OQ.C10.parse_no_fuel_of_le
#print axioms OQ.C10.parse_no_fuel
#print axioms OQ.C10.parse_no_foreign'
#print axioms OQ.C10.parse_no_foreign
#print axioms OQ.C10.parseToks_total
#print axioms OQ.C10.total
#print axioms OQ.C10.parseToks_printable
#print axioms OQ.C10.parse_image
