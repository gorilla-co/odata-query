-- GENERATED by harness/common.py: axiom audit for C05
import ODataVerif.Props.Accepted
import ODataVerif.Tie.ParserTables
import ODataVerif.Props.C05
import ODataVerif.Props.C05Roundtrip
import ODataVerif.Props.C13Text
import ODataVerif.Props.C05Text
import ODataVerif.Props.C10Image
#print axioms OQ.Accepted.respell_accepted
#print axioms OQ.Accepted.grouping_accepted
#print axioms OQ.Accepted.injection_free_accepted
#print axioms OQ.Accepted.mirror_accepted
#print axioms OQ.Tie.lexerRules_tie
#print axioms OQ.Tie.lexerLiterals_tie
#print axioms OQ.Tie.lexerFlags_tie
#print axioms OQ.Tie.parserPrecedence_tie
#print axioms OQ.Tie.productions_tie
#print axioms OQ.Tie.lrTables_tie
#print axioms OQ.C05.model_levels_match_declaration
#print axioms OQ.C05.model_levels_match_spec
#print axioms OQ.C05.unary_between
#print axioms OQ.C05.parse_printToks
#print axioms OQ.C05.BinTok.level_mk
#print axioms OQ.C05.BinTok.printable_mk
#print axioms OQ.C05.BinTok.printToks_mk
#print axioms OQ.C05.operand_minimal_left
#print axioms OQ.C05.operand_minimal_right
#print axioms OQ.C05.operand_minimal_left_paren
#print axioms OQ.C05.operand_minimal_right_paren
#print axioms OQ.C05.printToks_mk_minimal
#print axioms OQ.C05.binary_tighter_first
#print axioms OQ.C05.binary_left_assoc
#print axioms OQ.C05.binary_tighter_second
#print axioms OQ.C05.parens_win_right
#print axioms OQ.C05.parens_win_left
#print axioms OQ.C05.not_tighter_than_binary
#print axioms OQ.C05.in_tighter_than_not
#print axioms OQ.C11.arg_order
#print axioms OQ.C13.tokOk_of_lexable
#print axioms OQ.C13.goodE
#print axioms OQ.C13.goodArgs
#print axioms OQ.C13.goodNamed
#print axioms OQ.C13.chain_printToks
#print axioms OQ.C13.lex_render_printToks_sep
#print axioms OQ.C13.lex_render_printToks
#print axioms OQ.C13.parse_sep_printToks
#print axioms OQ.C13.parse_text
#print axioms OQ.C13.parse_text_afterMinus
#print axioms OQ.C13.roundtrip_text
#print axioms OQ.C13.cexNeg_toks
#print axioms OQ.C13.cexNot_toks
#print axioms OQ.C13.cexAdd_toks
#print axioms OQ.C13.lex_render_printToks_original_false
#print axioms OQ.C13.parse_text_original_false
#print axioms OQ.C13.parse_text_original_false'
#print axioms OQ.C05.text_grouping
#print axioms OQ.C05.text_parens_win
#print axioms OQ.C10.parseToks_printable
#print axioms OQ.C10.parse_image
