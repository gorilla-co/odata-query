-- GENERATED by harness/common.py: axiom audit for C14
import ODataVerif.Props.C14
import ODataVerif.Props.C14Bij
#print axioms OQ.C14.filt_nil
#print axioms OQ.C14.filt_cons
#print axioms OQ.C14.lookup_filt
#print axioms OQ.C14.rootOf_ident
#print axioms OQ.C14.rootOf_attr
#print axioms OQ.C14.alias_ident
#print axioms OQ.C14.alias_attr
#print axioms OQ.C14.scopeOk_fields
#print axioms OQ.C14.isIdentNode_kind
#print axioms OQ.C14.path_cases
#print axioms OQ.C14.subst_bound
#print axioms OQ.C14.alias_subst_all
#print axioms OQ.C14.alias_subst
#print axioms OQ.C14.aliasFields_subst
#print axioms OQ.C14.aliasItems_subst
#print axioms OQ.C14.rewrite_eq_subst
#print axioms OQ.C14.absent_node
#print axioms OQ.C14.absent_cons
#print axioms OQ.C14.absent_list
#print axioms OQ.C14.lookup_none_of_absent
#print axioms OQ.C14.alias_absent_all
#print axioms OQ.C14.alias_absent
#print axioms OQ.C14.aliasFields_absent
#print axioms OQ.C14.aliasItems_absent
#print axioms OQ.C14.nonmatching_id
#print axioms OQ.C14.empty_id
#print axioms OQ.C14.scopeOk_leaf
#print axioms OQ.C14.scopeOk_of
#print axioms OQ.C14.scopeOkList_one
#print axioms OQ.C14.scopeOk_ident
#print axioms OQ.C14.scopeOk_toTree_all
#print axioms OQ.C14.scopeOk_toTree
#print axioms OQ.C14.scopeOkList_toTrees
#print axioms OQ.C14.scopeOk_optLam
#print axioms OQ.C14.rewrite_eq_subst_expr
#print axioms OQ.C14.bijection_roundtrip
#print axioms OQ.C14.bijection_roundtrip_expr
