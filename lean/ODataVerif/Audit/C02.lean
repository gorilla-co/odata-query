-- GENERATED by harness/common.py: axiom audit for C02
import ODataVerif.Tie.Orm
import ODataVerif.Spec.NumFn
import ODataVerif.Props.DateOrder
import ODataVerif.Props.BoolLit
import ODataVerif.Props.NullFlip
import ODataVerif.Props.C02
#print axioms OQ.Tie.orm_djangoHandlers_tie
#print axioms OQ.Tie.orm_saOrmHandlers_tie
#print axioms OQ.Tie.orm_saCoreHandlers_tie
#print axioms OQ.Tie.orm_djangoLiterals_tie
#print axioms OQ.Tie.orm_saLiterals_tie
#print axioms OQ.Tie.orm_djangoSubstr_tie
#print axioms OQ.Tie.orm_saSubstr_tie
#print axioms OQ.Tie.orm_model_handlers
#print axioms OQ.Tie.orm_django_arities_tie
#print axioms OQ.Tie.orm_literals_are_parameters
#print axioms OQ.Spec.floor_spec
#print axioms OQ.Spec.ceiling_spec
#print axioms OQ.Spec.round_near
#print axioms OQ.Spec.round_midpoint
#print axioms OQ.Spec.round_integral
#print axioms OQ.Spec.ceiling_floor
#print axioms OQ.Spec.kf_trunc_shift_ok
#print axioms OQ.Spec.kf_trunc_shift_wrong
#print axioms OQ.DateSem.iso_order
#print axioms OQ.DateSem.iso_inj
#print axioms OQ.DateSem.ofIso_iso
#print axioms OQ.DateSem.cmp_iso
#print axioms OQ.DateSem.lt_irrefl
#print axioms OQ.DateSem.lt_trans
#print axioms OQ.DateSem.lt_trichotomy
#print axioms OQ.Props.BoolLit.cmp_lit
#print axioms OQ.Props.BoolLit.lit_cmp
#print axioms OQ.Props.BoolLit.eq_true
#print axioms OQ.Props.BoolLit.ne_false
#print axioms OQ.Props.BoolLit.eq_false
#print axioms OQ.Props.BoolLit.ne_true
#print axioms OQ.Props.BoolLit.true_eq
#print axioms OQ.Props.BoolLit.false_ne
#print axioms OQ.Props.BoolLit.false_eq
#print axioms OQ.Props.BoolLit.true_ne
#print axioms OQ.Props.BoolLit.selects_ne_false
#print axioms OQ.Props.BoolLit.selects_eq_false
#print axioms OQ.Props.BoolLit.guard_false_on_null
#print axioms OQ.Props.BoolLit.not_guard_selects_null
#print axioms OQ.Props.BoolLit.not_unknown_not_selected
#print axioms OQ.NullFlip.isNullLit_cases
#print axioms OQ.NullFlip.sql_null_left
#print axioms OQ.NullFlip.mirror_null_left
#print axioms OQ.NullFlip.dj_null_left
#print axioms OQ.NullFlip.sa_null_left
#print axioms OQ.C02.okS
#print axioms OQ.C02.dj_never_leaks
#print axioms OQ.C02.dj_translates
#print axioms OQ.C02.sound
