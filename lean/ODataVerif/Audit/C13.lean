-- GENERATED by harness/common.py: axiom audit for C13
import ODataVerif.Props.C13Accepted
import ODataVerif.Tie.PrinterPrecedence
import ODataVerif.Tie.ParserTables
import ODataVerif.Props.C13
import ODataVerif.Props.C13Roundtrip
import ODataVerif.Props.C13Text
import ODataVerif.Props.C10Image
#print axioms OQ.C13A.opNamed_eq
#print axioms OQ.C13A.kwNamed_eq
#print axioms OQ.C13A.lexed_lexable
#print axioms OQ.C13A.emitted_ident
#print axioms OQ.C13A.emitted_lit
#print axioms OQ.C13A.emitted_name
#print axioms OQ.C13A.emitted_idOk
#print axioms OQ.C13A.prov_lexable
#print axioms OQ.C13A.provL_lexable
#print axioms OQ.C13A.provLam_lexable
#print axioms OQ.C13A.accepted_lexable
#print axioms OQ.C13A.roundtrip_accepted
#print axioms OQ.C13A.render_fixpoint
#print axioms OQ.C13A.accepted_lexable_original_false
#print axioms OQ.C13A.lexable_kwNamed
#print axioms OQ.C13A.lexable_kwFree
#print axioms OQ.C13A.lexables_kwFree
#print axioms OQ.C13A.lexableLam_kwFree
#print axioms OQ.Tie.printerPrecedence_tie
#print axioms OQ.Tie.lexerRules_tie
#print axioms OQ.Tie.lexerLiterals_tie
#print axioms OQ.Tie.lexerFlags_tie
#print axioms OQ.Tie.parserPrecedence_tie
#print axioms OQ.Tie.productions_tie
#print axioms OQ.Tie.lrTables_tie
#print axioms OQ.C13.prec_classes
#print axioms OQ.C13.rtPrec_eq
#print axioms OQ.C13.level_range
#print axioms OQ.C13.level_prec
#print axioms OQ.C13.rtPrec_cases
#print axioms OQ.C13.rtParen_row
#print axioms OQ.C13.rtParen_arith
#print axioms OQ.C13.rtParen_bool
#print axioms OQ.C13.rtParen_cmp
#print axioms OQ.C13.rtParen_unary
#print axioms OQ.C13.rtParen_in_prec
#print axioms OQ.C13.rtParen_in
#print axioms OQ.C13.needsParen_printer_of_minimal
#print axioms OQ.C13.paren_where_needed_arith
#print axioms OQ.C13.paren_where_needed_bool
#print axioms OQ.C13.paren_where_needed_cmp
#print axioms OQ.C13.paren_where_needed_in
#print axioms OQ.C13.paren_where_needed_unary
#print axioms OQ.C13.kf_ident_not_render
#print axioms OQ.C13.kf_ident_not
#print axioms OQ.C13.kf_ident_not_in_image
#print axioms OQ.C13.rtRender_eq_render_of_rtOk
#print axioms OQ.C13.rtRender_eq_render
#print axioms OQ.C13.roundtrip_tokens
#print axioms OQ.C13.roundtrip_text_tokens
#print axioms OQ.C13.tokOk_of_lexable
#print axioms OQ.C13.goodE
#print axioms OQ.C13.goodArgs
#print axioms OQ.C13.goodNamed
#print axioms OQ.C13.chain_printToks
#print axioms OQ.C13.lex_render_printToks_sep
#print axioms OQ.C13.lex_render_printToks
#print axioms OQ.C13.parse_sep_printToks
#print axioms OQ.C13.parse_text
#print axioms OQ.C13.parse_text_afterMinus
#print axioms OQ.C13.roundtrip_text
#print axioms OQ.C13.cexNeg_toks
#print axioms OQ.C13.cexNot_toks
#print axioms OQ.C13.cexAdd_toks
#print axioms OQ.C13.lex_render_printToks_original_false
#print axioms OQ.C13.parse_text_original_false
#print axioms OQ.C13.parse_text_original_false'
#print axioms OQ.C10.parseToks_printable
#print axioms OQ.C10.parse_image
