-- GENERATED by harness/common.py: axiom audit for C01
import ODataVerif.Tie.Sql
import ODataVerif.Tie.SqlTemplates
import ODataVerif.Props.C01
import ODataVerif.Props.C01Chain
import ODataVerif.Props.C01Full
import ODataVerif.Spec.NumFn
import ODataVerif.Props.DateOrder
import ODataVerif.Props.C01Date
import ODataVerif.Props.NullFlip
import ODataVerif.Props.BoolLit
#print axioms OQ.Tie.sql_stdFuncs_tie
#print axioms OQ.Tie.sql_sqliteFuncs_tie
#print axioms OQ.Tie.sql_athenaFuncs_tie
#print axioms OQ.Tie.sql_stdVisits_tie
#print axioms OQ.Tie.sql_sqliteVisits_tie
#print axioms OQ.Tie.sql_athenaVisits_tie
#print axioms OQ.Tie.sql_precConsts_tie
#print axioms OQ.Tie.sql_funcPrec_tie
#print axioms OQ.Tie.sql_model_handlers
#print axioms OQ.Tie.sql_model_funcPrec
#print axioms OQ.Tie.sql_model_precConsts
#print axioms OQ.Tie.sqlTemplates_tie
#print axioms OQ.Tie.tplTable_in_source
#print axioms OQ.Tie.hassubset_athena
#print axioms OQ.Tie.selectTpl_in_source
#print axioms OQ.C01.litOkI
#print axioms OQ.C01.litOkS
#print axioms OQ.C01.litOkIs
#print axioms OQ.C01.litOkSs
#print axioms OQ.C01.litOkB
#print axioms OQ.C01.typed_sqlSafe
#print axioms OQ.C01.typed_litOk
#print axioms OQ.C01.translates
#print axioms OQ.C01.ofVal_int
#print axioms OQ.C01.ofVal_str
#print axioms OQ.C01.nonnegO_of
#print axioms OQ.C01.soundI
#print axioms OQ.C01.soundS
#print axioms OQ.C01.isNullLit_I
#print axioms OQ.C01.isNullLit_S
#print axioms OQ.C01.isNullLit_B
#print axioms OQ.C01.isStrLitE_of_not_lit
#print axioms OQ.C01.soundIs
#print axioms OQ.C01.soundSs
#print axioms OQ.C01.ofVal_bool
#print axioms OQ.C01.soundB
#print axioms OQ.C01.sound
#print axioms OQ.C01.where_text_tokens
#print axioms OQ.C01.kf_like_case
#print axioms OQ.C01.kf_like_computed
#print axioms OQ.C01.where_selects
#print axioms OQ.C01.text_reads_as_mirror
#print axioms OQ.Spec.floor_spec
#print axioms OQ.Spec.ceiling_spec
#print axioms OQ.Spec.round_near
#print axioms OQ.Spec.round_midpoint
#print axioms OQ.Spec.round_integral
#print axioms OQ.Spec.ceiling_floor
#print axioms OQ.Spec.kf_trunc_shift_ok
#print axioms OQ.Spec.kf_trunc_shift_wrong
#print axioms OQ.DateSem.iso_order
#print axioms OQ.DateSem.iso_inj
#print axioms OQ.DateSem.ofIso_iso
#print axioms OQ.DateSem.cmp_iso
#print axioms OQ.DateSem.lt_irrefl
#print axioms OQ.DateSem.lt_trans
#print axioms OQ.DateSem.lt_trichotomy
#print axioms OQ.C01.date_translates
#print axioms OQ.C01.date_sound
#print axioms OQ.C01.date_where_selects
#print axioms OQ.NullFlip.isNullLit_cases
#print axioms OQ.NullFlip.sql_null_left
#print axioms OQ.NullFlip.mirror_null_left
#print axioms OQ.NullFlip.dj_null_left
#print axioms OQ.NullFlip.sa_null_left
#print axioms OQ.Props.BoolLit.cmp_lit
#print axioms OQ.Props.BoolLit.lit_cmp
#print axioms OQ.Props.BoolLit.eq_true
#print axioms OQ.Props.BoolLit.ne_false
#print axioms OQ.Props.BoolLit.eq_false
#print axioms OQ.Props.BoolLit.ne_true
#print axioms OQ.Props.BoolLit.true_eq
#print axioms OQ.Props.BoolLit.false_ne
#print axioms OQ.Props.BoolLit.false_eq
#print axioms OQ.Props.BoolLit.true_ne
#print axioms OQ.Props.BoolLit.selects_ne_false
#print axioms OQ.Props.BoolLit.selects_eq_false
#print axioms OQ.Props.BoolLit.guard_false_on_null
#print axioms OQ.Props.BoolLit.not_guard_selects_null
#print axioms OQ.Props.BoolLit.not_unknown_not_selected
