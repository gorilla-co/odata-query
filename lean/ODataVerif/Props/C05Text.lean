/-
  C05 at the level of TEXT (corollaries of C13Text.parse_text): the minimally parenthesised and the fully
  parenthesised rendering of a tree, under any placement of optional whitespace, are filter TEXTS that parse to that tree — so
  the parser groups an unparenthesised text exactly as the precedence / associativity table says (it agrees with the reading in
  which every sub-expression is parenthesised explicitly), and explicit parentheses always win.
-/
import ODataVerif.Props.C13Text
namespace OQ.C05
open Spec

/-- the text without redundant parentheses and the text with every sub-expression parenthesised parse to the same tree -/
theorem text_grouping (s1 s2 : Style) (e : Expr) (hp : printable e = true) (hl : C13.lexableE' pyCharEnv e = true) :
    parseText pyCharEnv (render (printToks s1 .minimal e)) = parseText pyCharEnv (render (printToks s2 .full e)) := by
  rw [C13.parse_text s1 .minimal e hp hl, C13.parse_text s2 .full e hp hl]

/-- explicit parentheses always win: the fully parenthesised text of ANY tree shape parses to that shape -/
theorem text_parens_win (s : Style) (e : Expr) (hp : printable e = true) (hl : C13.lexableE' pyCharEnv e = true) :
    parseText pyCharEnv (render (printToks s .full e)) = .ok e :=
  C13.parse_text s .full e hp hl

end OQ.C05
