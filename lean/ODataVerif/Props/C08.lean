/-
  C08: "ORM backends pass every filter value to the database as a bound parameter".

  The models of the Django and SQLAlchemy visitors build an `OTree` whose leaves are columns, BOUND PARAMETERS
  (`Value(v)` / `literal(v)`), the library's own integer parameters, or inline constants (TRUE / FALSE / NULL).
  * `dj_params`, `sa_params`      the bound parameters of a successful translation are exactly the filter's
                                  literals, in order (nothing is dropped, nothing else is bound)
  * `dj_skeleton`, `sa_skeleton`  two filters that differ only in literal VALUES (strings, numbers, dates,
                                  GUIDs, durations, list elements) translate to trees with the same skeleton —
                                  everything the compiled SQL text can depend on is the same
  That `Value` / `literal` compile to placeholders is an environment fact, checked on the real compiled SQL.
-/
import ODataVerif.Model.Orm
import ODataVerif.Lemmas.OrmTree
namespace OQ.C08

mutual
/-- the filter's literals in document order (`null` has no value) -/
def lits : Expr → List (LitKind × Str)
  | .ident _ => []
  | .attr o _ => lits o
  | .lit .null _ => []
  | .lit k v => [(k, v)]
  | .list xs => litsList xs
  | .binop _ l r => lits l ++ lits r
  | .compare _ l r => lits l ++ lits r
  | .boolop _ l r => lits l ++ lits r
  | .unary _ e => lits e
  | .named _ e => lits e
  | .call _ args => litsList args
  | .coll o _ l => lits o ++ litsLam l
def litsList : Exprs → List (LitKind × Str)
  | .nil => []
  | .cons h t => lits h ++ litsList t
def litsLam : OptLam → List (LitKind × Str)
  | .none => []
  | .some _ b => lits b
end

/-- kinds whose VALUE may change between the two filters of C08's pairs -/
def valueKind : LitKind → Bool
  | .null | .bool => false
  | _ => true

mutual
/-- the two trees are equal except for the values of literals of a `valueKind` -/
def relit : Expr → Expr → Bool
  | .ident i, .ident j => i == j
  | .attr o n, .attr o' n' => relit o o' && n == n'
  | .lit k v, .lit k' v' => k == k' && (valueKind k || v == v')
  | .list xs, .list ys => relitList xs ys
  | .binop o l r, .binop o' l' r' => o == o' && relit l l' && relit r r'
  | .compare o l r, .compare o' l' r' => o == o' && relit l l' && relit r r'
  | .boolop o l r, .boolop o' l' r' => o == o' && relit l l' && relit r r'
  | .unary o e, .unary o' e' => o == o' && relit e e'
  | .named n e, .named n' e' => n == n' && relit e e'
  | .call f a, .call f' a' => f == f' && relitList a a'
  | .coll o op l, .coll o' op' l' => relit o o' && op == op' && relitLam l l'
  | _, _ => false
def relitList : Exprs → Exprs → Bool
  | .nil, .nil => true
  | .cons h t, .cons h' t' => relit h h' && relitList t t'
  | _, _ => false
def relitLam : OptLam → OptLam → Bool
  | .none, .none => true
  | .some v b, .some v' b' => v == v' && relit b b'
  | _, _ => false
end

mutual
/-- `relit`, and corresponding literals agree on whether they contain a LIKE wildcard (`%`, `_`, `/`):
    the SQLAlchemy visitor passes `autoescape=True` for such a literal substring -/
def relitSa : Expr → Expr → Bool
  | .ident i, .ident j => i == j
  | .attr o n, .attr o' n' => relitSa o o' && n == n'
  | .lit k v, .lit k' v' => k == k' && (valueKind k || v == v') && (litNeedsEscape (.lit k v) == litNeedsEscape (.lit k' v'))
  | .list xs, .list ys => relitSaList xs ys
  | .binop o l r, .binop o' l' r' => o == o' && relitSa l l' && relitSa r r'
  | .compare o l r, .compare o' l' r' => o == o' && relitSa l l' && relitSa r r'
  | .boolop o l r, .boolop o' l' r' => o == o' && relitSa l l' && relitSa r r'
  | .unary o e, .unary o' e' => o == o' && relitSa e e'
  | .named n e, .named n' e' => n == n' && relitSa e e'
  | .call f a, .call f' a' => f == f' && relitSaList a a'
  | .coll o op l, .coll o' op' l' => relitSa o o' && op == op' && relitSaLam l l'
  | _, _ => false
def relitSaList : Exprs → Exprs → Bool
  | .nil, .nil => true
  | .cons h t, .cons h' t' => relitSa h h' && relitSaList t t'
  | _, _ => false
def relitSaLam : OptLam → OptLam → Bool
  | .none, .none => true
  | .some v b, .some v' b' => v == v' && relitSa b b'
  | _, _ => false
end

open OQ.OrmParams OQ.OrmTree

theorem lits_null_of (e) (h : isNullLit e = true) : lits e = [] := by
  obtain ⟨v, rfl⟩ := (isNullLit_iff e).1 h
  rw [lits]

section
variable {leaf : LitKind → Str → OTree} {cmp : CmpOp → Bool → Bool → OTree → OTree → OTree} {plan : String → FPlan}
  {P Q : LitKind × Str → Bool}
  (hleaf : ∀ k v, (leaf k v).params.filter P = (lits (.lit k v)).filter Q)
  (hcmp : ∀ op nl nr a b, (nl = true → a.params.filter P = []) → (nr = true → b.params.filter P = []) →
    (cmp op nl nr a b).params.filter P = a.params.filter P ++ b.params.filter P)
include hleaf hcmp
set_option linter.unusedSectionVars false

mutual
/-- The parameters of an expression's tree are its literals, up to what the backend inlines (filter `Q` on the literals)
    or binds although the literal has no value (filter `P` on the parameters).  `hcmp`: a comparison node may drop or
    move a `null` operand, which contributes nothing. -/
theorem params_tree : (e : Expr) → (tree leaf cmp plan e).params.filter P = (lits e).filter Q
  | .ident _ => rfl
  | .attr o n => by rw [tree, lits, params_attrStep, params_tree o]
  | .lit k v => by rw [tree]; exact hleaf k v
  | .list xs => by rw [tree, lits, params_node, params_trees xs]
  | .binop _ l r => by
      rw [tree, lits, params_on2, List.filter_append, List.filter_append, params_tree l, params_tree r]
  | .compare op l r => by
      rw [tree, lits, List.filter_append, ← params_tree l, ← params_tree r]
      refine hcmp _ _ _ _ _ (fun h => ?_) (fun h => ?_)
      · rw [params_tree l, lits_null_of l h]; rfl
      · rw [params_tree r, lits_null_of r h]; rfl
  | .boolop _ l r => by
      rw [tree, lits, params_on2, List.filter_append, List.filter_append, params_tree l, params_tree r]
  | .unary _ e => by rw [tree, lits, params_on1, params_tree e]
  | .named _ e => by rw [tree, lits, params_on1, params_tree e]
  | .call _ args => by rw [tree, lits, planTree_params, params_trees args]
  | .coll o _ l => by
      rw [tree, lits, params_on2, List.filter_append, List.filter_append, params_tree o, params_treeLam l]
theorem params_trees : (xs : Exprs) → (trees leaf cmp plan xs).params.filter P = (litsList xs).filter Q
  | .nil => rfl
  | .cons h t => by
      rw [trees, litsList, params_cons, List.filter_append, List.filter_append, params_tree h, params_trees t]
theorem params_treeLam : (l : OptLam) → (treeLam leaf cmp plan l).params.filter P = (litsLam l).filter Q
  | .none => rfl
  | .some _ b => by rw [treeLam, litsLam, params_tree b]
end
end

/-- a `null` inside a list is bound as NULL: hence the filter on the left -/
theorem dj_params (e : Expr) (t : OTree) (h : djBuild e = .ok t) :
    t.params.filter (fun p => p.1 != .null) = lits e := by
  rw [djBuild_tree h]
  refine (params_tree (Q := fun _ => true) ?_ ?_ e).trans (List.filter_eq_self.2 fun _ _ => rfl)
  · intro k v; cases k <;> rfl
  · intro op nl nr a b ha hb
    unfold djCmp
    dsimp only
    split
    · rename_i h
      rw [params_on1, ha (Bool.and_eq_true _ _ ▸ h).1]; rfl
    · split
      · rename_i h
        rw [params_on1, hb h, List.append_nil]
      · rw [params_on2, List.filter_append]

/-- a Boolean literal is inlined as TRUE / FALSE, not bound -/
theorem sa_params (fields : List Str) (core : Bool) (e : Expr) (t : OTree) (h : saBuild fields core e = .ok t) :
    t.params = (lits e).filter (fun p => p.1 != .bool) := by
  rw [saBuild_tree h]
  refine (List.filter_eq_self.2 fun _ _ => rfl).symm.trans (params_tree (P := fun _ => true) ?_ ?_ e)
  · intro k v; cases k <;> rfl
  · intro op nl nr a b ha hb
    unfold saCmp
    split
    · rename_i h
      rw [params_on2, List.filter_append, ha (Bool.and_eq_true _ _ ▸ h).1, List.append_nil]; rfl
    · rw [params_on2, List.filter_append]

theorem relit_inv : RelInv valueKind relit relitList relitLam where
  ident := fun {i e'} h => by
    cases e' <;> first | cases h | skip
    rw [relit, beq_iff_eq] at h; rw [h]
  attr := fun {o n e'} h => by
    cases e' <;> first | cases h | skip
    rw [relit, Bool.and_eq_true, beq_iff_eq] at h
    obtain ⟨h1, rfl⟩ := h; exact ⟨_, rfl, h1⟩
  lit := fun {k v e'} h => by
    cases e' <;> first | cases h | skip
    rw [relit, Bool.and_eq_true, beq_iff_eq, Bool.or_eq_true, beq_iff_eq] at h
    obtain ⟨rfl, h1⟩ := h; exact ⟨_, rfl, h1⟩
  list := fun {xs e'} h => by
    cases e' <;> first | cases h | skip
    rw [relit] at h; exact ⟨_, rfl, h⟩
  binop := fun {o l r e'} h => by
    cases e' <;> first | cases h | skip
    rw [relit, Bool.and_eq_true, Bool.and_eq_true, beq_iff_eq] at h
    obtain ⟨⟨rfl, h1⟩, h2⟩ := h; exact ⟨_, _, rfl, h1, h2⟩
  compare := fun {o l r e'} h => by
    cases e' <;> first | cases h | skip
    rw [relit, Bool.and_eq_true, Bool.and_eq_true, beq_iff_eq] at h
    obtain ⟨⟨rfl, h1⟩, h2⟩ := h; exact ⟨_, _, rfl, h1, h2⟩
  boolop := fun {o l r e'} h => by
    cases e' <;> first | cases h | skip
    rw [relit, Bool.and_eq_true, Bool.and_eq_true, beq_iff_eq] at h
    obtain ⟨⟨rfl, h1⟩, h2⟩ := h; exact ⟨_, _, rfl, h1, h2⟩
  unary := fun {o e e'} h => by
    cases e' <;> first | cases h | skip
    rw [relit, Bool.and_eq_true, beq_iff_eq] at h
    obtain ⟨rfl, h1⟩ := h; exact ⟨_, rfl, h1⟩
  named := fun {n e e'} h => by
    cases e' <;> first | cases h | skip
    rw [relit, Bool.and_eq_true, beq_iff_eq] at h
    obtain ⟨rfl, h1⟩ := h; exact ⟨_, rfl, h1⟩
  call := fun {f a e'} h => by
    cases e' <;> first | cases h | skip
    rw [relit, Bool.and_eq_true, beq_iff_eq] at h
    obtain ⟨rfl, h1⟩ := h; exact ⟨_, rfl, h1⟩
  coll := fun {o op l e'} h => by
    cases e' <;> first | cases h | skip
    rw [relit, Bool.and_eq_true, Bool.and_eq_true, beq_iff_eq] at h
    obtain ⟨⟨h1, rfl⟩, h2⟩ := h; exact ⟨_, _, rfl, h1, h2⟩
  nil := fun {ys} h => by cases ys <;> first | rfl | cases h
  cons := fun {a t ys} h => by
    cases ys <;> first | cases h | skip
    rw [relitList, Bool.and_eq_true] at h; exact ⟨_, _, rfl, h⟩
  none := fun {l'} h => by cases l' <;> first | rfl | cases h
  some := fun {v b l'} h => by
    cases l' <;> first | cases h | skip
    rw [relitLam, Bool.and_eq_true, beq_iff_eq] at h
    obtain ⟨rfl, h1⟩ := h; exact ⟨_, rfl, h1⟩

theorem dj_skeleton (e e' : Expr) (t t' : OTree) (hr : relit e e' = true)
    (h : djBuild e = .ok t) (h' : djBuild e' = .ok t') : t.skeleton = t'.skeleton := by
  rw [djBuild_tree h, djBuild_tree h']
  refine skel_tree relit_inv ?_ ?_ ?_ e e' hr
  · intro k v v' hk; cases k <;> first | rfl | cases hk
  · intro op nl nr a b
    unfold djCmp
    dsimp only
    split
    · rw [skel_on1]
    · split
      · rw [skel_on1]
      · rw [skel_on2]
  · intro key args args' ts _
    -- no Django handler looks at a literal's value
    unfold djPlan plans
    split <;> rfl

theorem relitSa_inv : RelInv valueKind relitSa relitSaList relitSaLam where
  ident := fun {i e'} h => by
    cases e' <;> first | cases h | skip
    rw [relitSa, beq_iff_eq] at h; rw [h]
  attr := fun {o n e'} h => by
    cases e' <;> first | cases h | skip
    rw [relitSa, Bool.and_eq_true, beq_iff_eq] at h
    obtain ⟨h1, rfl⟩ := h; exact ⟨_, rfl, h1⟩
  lit := fun {k v e'} h => by
    cases e' <;> first | cases h | skip
    rw [relitSa, Bool.and_eq_true, Bool.and_eq_true, beq_iff_eq, Bool.or_eq_true, beq_iff_eq] at h
    obtain ⟨⟨rfl, h1⟩, -⟩ := h; exact ⟨_, rfl, h1⟩
  list := fun {xs e'} h => by
    cases e' <;> first | cases h | skip
    rw [relitSa] at h; exact ⟨_, rfl, h⟩
  binop := fun {o l r e'} h => by
    cases e' <;> first | cases h | skip
    rw [relitSa, Bool.and_eq_true, Bool.and_eq_true, beq_iff_eq] at h
    obtain ⟨⟨rfl, h1⟩, h2⟩ := h; exact ⟨_, _, rfl, h1, h2⟩
  compare := fun {o l r e'} h => by
    cases e' <;> first | cases h | skip
    rw [relitSa, Bool.and_eq_true, Bool.and_eq_true, beq_iff_eq] at h
    obtain ⟨⟨rfl, h1⟩, h2⟩ := h; exact ⟨_, _, rfl, h1, h2⟩
  boolop := fun {o l r e'} h => by
    cases e' <;> first | cases h | skip
    rw [relitSa, Bool.and_eq_true, Bool.and_eq_true, beq_iff_eq] at h
    obtain ⟨⟨rfl, h1⟩, h2⟩ := h; exact ⟨_, _, rfl, h1, h2⟩
  unary := fun {o e e'} h => by
    cases e' <;> first | cases h | skip
    rw [relitSa, Bool.and_eq_true, beq_iff_eq] at h
    obtain ⟨rfl, h1⟩ := h; exact ⟨_, rfl, h1⟩
  named := fun {n e e'} h => by
    cases e' <;> first | cases h | skip
    rw [relitSa, Bool.and_eq_true, beq_iff_eq] at h
    obtain ⟨rfl, h1⟩ := h; exact ⟨_, rfl, h1⟩
  call := fun {f a e'} h => by
    cases e' <;> first | cases h | skip
    rw [relitSa, Bool.and_eq_true, beq_iff_eq] at h
    obtain ⟨rfl, h1⟩ := h; exact ⟨_, rfl, h1⟩
  coll := fun {o op l e'} h => by
    cases e' <;> first | cases h | skip
    rw [relitSa, Bool.and_eq_true, Bool.and_eq_true, beq_iff_eq] at h
    obtain ⟨⟨h1, rfl⟩, h2⟩ := h; exact ⟨_, _, rfl, h1, h2⟩
  nil := fun {ys} h => by cases ys <;> first | rfl | cases h
  cons := fun {a t ys} h => by
    cases ys <;> first | cases h | skip
    rw [relitSaList, Bool.and_eq_true] at h; exact ⟨_, _, rfl, h⟩
  none := fun {l'} h => by cases l' <;> first | rfl | cases h
  some := fun {v b l'} h => by
    cases l' <;> first | cases h | skip
    rw [relitSaLam, Bool.and_eq_true, beq_iff_eq] at h
    obtain ⟨rfl, h1⟩ := h; exact ⟨_, rfl, h1⟩


theorem relitSa_esc {e e'} (h : relitSa e e' = true) : litNeedsEscape e = litNeedsEscape e' := by
  cases e
  case lit k v =>
    obtain ⟨v', rfl, -⟩ := relitSa_inv.lit h
    rw [relitSa, Bool.and_eq_true, beq_iff_eq] at h
    exact h.2
  case ident => cases relitSa_inv.ident h; rfl
  case attr => obtain ⟨_, rfl, -⟩ := relitSa_inv.attr h; rfl
  case list => obtain ⟨_, rfl, -⟩ := relitSa_inv.list h; rfl
  case binop => obtain ⟨_, _, rfl, -⟩ := relitSa_inv.binop h; rfl
  case compare => obtain ⟨_, _, rfl, -⟩ := relitSa_inv.compare h; rfl
  case boolop => obtain ⟨_, _, rfl, -⟩ := relitSa_inv.boolop h; rfl
  case unary => obtain ⟨_, rfl, -⟩ := relitSa_inv.unary h; rfl
  case named => obtain ⟨_, rfl, -⟩ := relitSa_inv.named h; rfl
  case call => obtain ⟨_, rfl, -⟩ := relitSa_inv.call h; rfl
  case coll => obtain ⟨_, _, rfl, -⟩ := relitSa_inv.coll h; rfl

theorem relitSaList_esc2 {xs ys} (h : relitSaList xs ys = true) : esc2 xs = esc2 ys := by
  rcases xs with _ | ⟨a, _ | ⟨b, r⟩⟩
  · cases relitSa_inv.nil h; rfl
  · obtain ⟨a', t', rfl, -, ht⟩ := relitSa_inv.cons h
    cases relitSa_inv.nil ht; rfl
  · obtain ⟨a', t', rfl, -, ht⟩ := relitSa_inv.cons h
    obtain ⟨b', r', rfl, hb, -⟩ := relitSa_inv.cons ht
    exact relitSa_esc hb

theorem sa_skeleton (fields : List Str) (core : Bool) (e e' : Expr) (t t' : OTree) (hr : relitSa e e' = true)
    (h : saBuild fields core e = .ok t) (h' : saBuild fields core e' = .ok t') : t.skeleton = t'.skeleton := by
  rw [saBuild_tree h, saBuild_tree h']
  refine skel_tree relitSa_inv ?_ ?_ ?_ e e' hr
  · intro k v v' hk; cases k <;> first | rfl | cases hk
  · intro op nl nr a b
    unfold saCmp
    split <;> rw [skel_on2]
  · intro key args args' ts ha
    rw [relitSaList_esc2 ha]

mutual
theorem relit_of_relitSa : (e e' : Expr) → relitSa e e' = true → relit e e' = true
  | .ident i, e', h => by cases relitSa_inv.ident h; rw [relit, beq_self_eq_true]
  | .attr o n, e', h => by
      obtain ⟨o', rfl, ho⟩ := relitSa_inv.attr h
      rw [relit, relit_of_relitSa o o' ho, beq_self_eq_true]; rfl
  | .lit k v, e', h => by
      obtain ⟨v', rfl, hv⟩ := relitSa_inv.lit h
      rw [relit, beq_self_eq_true, Bool.true_and, Bool.or_eq_true, beq_iff_eq]
      exact hv
  | .list xs, e', h => by
      obtain ⟨ys, rfl, hx⟩ := relitSa_inv.list h
      rw [relit, relitList_of_relitSaList xs ys hx]
  | .binop o l r, e', h => by
      obtain ⟨l', r', rfl, hl, hr⟩ := relitSa_inv.binop h
      rw [relit, relit_of_relitSa l l' hl, relit_of_relitSa r r' hr, beq_self_eq_true]; rfl
  | .compare o l r, e', h => by
      obtain ⟨l', r', rfl, hl, hr⟩ := relitSa_inv.compare h
      rw [relit, relit_of_relitSa l l' hl, relit_of_relitSa r r' hr, beq_self_eq_true]; rfl
  | .boolop o l r, e', h => by
      obtain ⟨l', r', rfl, hl, hr⟩ := relitSa_inv.boolop h
      rw [relit, relit_of_relitSa l l' hl, relit_of_relitSa r r' hr, beq_self_eq_true]; rfl
  | .unary o e, e', h => by
      obtain ⟨e1, rfl, he⟩ := relitSa_inv.unary h
      rw [relit, relit_of_relitSa e e1 he, beq_self_eq_true]; rfl
  | .named n e, e', h => by
      obtain ⟨e1, rfl, he⟩ := relitSa_inv.named h
      rw [relit, relit_of_relitSa e e1 he, beq_self_eq_true]; rfl
  | .call f a, e', h => by
      obtain ⟨a', rfl, ha⟩ := relitSa_inv.call h
      rw [relit, relitList_of_relitSaList a a' ha, beq_self_eq_true]; rfl
  | .coll o op l, e', h => by
      obtain ⟨o', l', rfl, ho, hl⟩ := relitSa_inv.coll h
      rw [relit, relit_of_relitSa o o' ho, relitLam_of_relitSaLam l l' hl, beq_self_eq_true]; rfl
theorem relitList_of_relitSaList : (xs ys : Exprs) → relitSaList xs ys = true → relitList xs ys = true
  | .nil, ys, h => by cases relitSa_inv.nil h; rfl
  | .cons a t, ys, h => by
      obtain ⟨a', t', rfl, ha, ht⟩ := relitSa_inv.cons h
      rw [relitList, relit_of_relitSa a a' ha, relitList_of_relitSaList t t' ht]; rfl
theorem relitLam_of_relitSaLam : (l l' : OptLam) → relitSaLam l l' = true → relitLam l l' = true
  | .none, l', h => by cases relitSa_inv.none h; rfl
  | .some v b, l', h => by
      obtain ⟨b', rfl, hb⟩ := relitSa_inv.some h
      rw [relitLam, relit_of_relitSa b b' hb, beq_self_eq_true]; rfl
end

def containsE (s : String) : Expr :=
  .call ⟨"contains".toList, []⟩ (.cons (.ident ⟨"s1".toList, []⟩) (.cons (.lit .str s.toList) .nil))

def topOp : OTree → String
  | .node op _ => op
  | _ => ""

theorem kf_key : String.ofList (pyLower (funcKey ⟨"contains".toList, []⟩)) = "contains" := by decide +kernel
theorem kf_handler : ormHandlers.contains "contains" = true := by decide +kernel
theorem kf_plan : saPlan "contains" = .likeEsc "contains" := by rfl

theorem kf_field : ["s1".toList].contains "s1".toList = true := by decide +kernel
theorem kf_typecheck (v) : substrTypecheck (Expr.ident { name := "s1".toList }) (Expr.lit LitKind.str v) = .ok () := by
  simp [substrTypecheck, inferType]
theorem kf_litParam (v) : litParam .str v = .ok (.param .str v) := rfl

theorem containsE_visit (s : String) :
    saVisit ["s1".toList] false (containsE s) =
      .ok (on2 (if litNeedsEscape (.lit .str s.toList) then "contains" ++ "_autoescape" else "contains")
            (.col ["s1".toList]) (.param .str s.toList), .cond) := by
  unfold containsE
  rw [saVisit]
  simp only [kf_key, kf_handler, saFunc_eq, kf_plan, runPlan]
  rw [saVisit, saVisit.eq_7 _ _ _ _ (by decide) (by decide) (by decide)]
  simp only [kf_typecheck, kf_litParam, kf_field, Bool.not_true, Bool.false_eq_true, if_false, if_true, Outcome.bind_ok, Outcome.pure_eq]

/-- KNOWN FINDING (witness, Boolean form): the root operator differs -/
theorem kf_autoescape_top :
    (saBuild ["s1".toList] false (containsE "ab")).bind (fun t => .ok (topOp t.skeleton)) = .ok "contains" ∧
    (saBuild ["s1".toList] false (containsE "a%b")).bind (fun t => .ok (topOp t.skeleton)) = .ok "contains_autoescape" := by
  have e1 : litNeedsEscape (.lit .str "ab".toList) = false := by decide +kernel
  have e2 : litNeedsEscape (.lit .str "a%b".toList) = true := by decide +kernel
  constructor
  · rw [saBuild, containsE_visit, e1]
    simp [Outcome.bind, on2, topOp]
  · rw [saBuild, containsE_visit, e2]
    simp [Outcome.bind, on2, topOp]

/-- KNOWN FINDING (witness): a wildcard in a literal substring changes the skeleton (autoescape) -/
theorem kf_autoescape :
    (saBuild ["s1".toList] false (containsE "ab")).bind (fun t => .ok t.skeleton)
      ≠ (saBuild ["s1".toList] false (containsE "a%b")).bind (fun t => .ok t.skeleton) := by
  intro h
  have h2 := congrArg (fun o : Outcome OTree => o.bind (fun t => Outcome.ok (topOp t))) h
  have h3 : ∀ x : Outcome OTree, (x.bind (fun t => Outcome.ok t.skeleton)).bind (fun t => Outcome.ok (topOp t))
      = x.bind (fun t => .ok (topOp t.skeleton)) := by
    intro x; cases x <;> rfl
  simp only [h3] at h2
  rw [kf_autoescape_top.1, kf_autoescape_top.2] at h2
  revert h2
  decide

end OQ.C08
