/- C07, "no filter string can inject SQL through the raw dialects": the character-level core, for one string literal,
   one LIKE pattern, one quoted identifier, and the known finding about the conditional `ESCAPE` clause.
   The theorem about whole emitted texts (`lex_pieces`) is in Props/C07Lex.lean. -/
import ODataVerif.Lemmas.SqlLexing
namespace OQ.C07
open Spec

/-- a string literal spelled with its quotes doubled is read back by the independent SQL tokeniser as exactly ONE
    string token holding exactly the content, for EVERY content (quotes, comment markers, semicolons, backslashes,
    NUL, Unicode) -/
theorem str_token_any_content (s : Str) : sqlLex (spellTokSql (.str s)) = some [.str s] := by
  have h := SqlLexing.piece_run (.tok (.str s)) rfl [] [] rfl rfl
  rwa [List.append_nil, List.append_nil] at h

/-- the LIKE pattern of a literal substring (`_to_pattern`): wildcards and escapes are added INSIDE the literal -/
theorem like_literal_one_token (pre suf raw : Str) :
    sqlLex (spellTokSql (.str (pre ++ likeEscape raw ++ suf))) = some [.str (pre ++ likeEscape raw ++ suf)] :=
  str_token_any_content _

/-- a name without a double quote, between double quotes, is exactly one quoted identifier -/
theorem qid_token_any_name (s : Str) (h : s.contains '"' = false) :
    sqlLex (Piece.spell (.dq s)) = some [.qid s] := by
  have h := SqlLexing.piece_run (.dq s) (by rw [Piece.ok, h]; rfl) [] [] rfl rfl
  rwa [List.append_nil, List.append_nil] at h

/-- non-vacuity / concreteness: hostile contents -/
example : sqlLex "'x'' OR 1=1 --'".toList = some [.str "x' OR 1=1 --".toList] := by decide +kernel
example : sqlLex "'x' OR 1=1 --'".toList = none := by decide +kernel      -- an UN-doubled quote is rejected (comment marker)

end OQ.C07

namespace OQ.C07
open Spec
def shapesOf (d : Dialect) (e : Expr) : Option (List SqlTok) :=
  match sqlVisit (fun _ => false) d none e with
  | .ok ps => some ((pieceToks ps).map SqlTok.shape)
  | _ => none

def containsLit (s : String) : Expr :=
  .call ⟨"contains".toList, []⟩ (.cons (.ident ⟨"s1".toList, []⟩) (.cons (.lit .str s.toList) .nil))

/-- KNOWN FINDING (witness): a LIKE wildcard inside a literal substring adds the tokens `ESCAPE '\'` after the
    pattern literal, so the token sequence outside the literal is not literally independent of its content.
    (The added tokens are a fixed suffix that does not depend on the content beyond "contains a wildcard".) -/
theorem kf_escape_clause : shapesOf .sqlite (containsLit "100%") ≠ shapesOf .sqlite (containsLit "x") := by decide +kernel
theorem kf_escape_clause_only_suffix :
    shapesOf .sqlite (containsLit "100%") = (shapesOf .sqlite (containsLit "x")).map (· ++ [.word "ESCAPE".toList, .str []]) := by
  decide +kernel
end OQ.C07
