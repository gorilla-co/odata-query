/-
  C02: "Django apply_odata_query returns exactly the objects the filter denotes", for the typed scalar
  fragment (Spec/ODataSem.lean), about the model of the Django visitor (Model/Orm.lean `djBuild`) composed with the
  environment model of Django's compiler on SQLite (Spec/OrmSql.lean `djSql`) and of SQLite (Spec/SqliteSem.lean).

  * `dj_never_leaks`   the visitor model returns a tree or a library exception for every typed filter
  * `dj_translates`    … and a tree for every filter of `djFrag` (Lemmas/DjangoInv.lean: no unary minus; no bare Boolean
                       field / literal as a condition — both are refused with the library's TypeException)
  * `sound`            for every typed filter b the visitor translates and every row ρ inside `semOkDj`, the SQL Django
                       compiles selects ρ iff OData's three-valued semantics makes b true on ρ
-/
import ODataVerif.Props.C01
import ODataVerif.Spec.OrmSql
import ODataVerif.Spec.OrmSemOk
import ODataVerif.Lemmas.DjangoInv
import ODataVerif.Lemmas.SqlTotal
namespace OQ.C02
open Spec SqliteSound DjangoSound
open SqliteLike OrmSound

theorem okS : (e : StrE) → ∀ t k, djVisit e.toExpr = .ok (t, k) → noNegS e = true :=
  fun e _ _ h => (res_ok (specS e) h).1

theorem dj_never_leaks (b : BoolE) : SqlTotal.clean (djBuild b.toExpr) = true := by
  have h := specB b true
  rw [djBuild]
  cases hv : djVisit b.toExpr with
  | ok p =>
    obtain ⟨t, k⟩ := p
    rw [hv] at h
    rcases h.1 with rfl | rfl | rfl <;> rfl
  | lib e => rfl
  | notImplemented => rw [hv] at h; exact h.elim
  | foreign c => rw [hv] at h; exact h.elim

theorem dj_translates (b : BoolE) (h : djFrag b = true) : ∃ t, djBuild b.toExpr = .ok t := by
  obtain ⟨⟨t, k⟩, hv, hp⟩ := res_run (specB b true) h
  cases hp.2.1 (isCond_of_frag h)
  exact ⟨t, by rw [djBuild, hv]; rfl⟩

theorem sound (b : BoolE) (ρ : Row) (t : OTree) (hw : C01.wfB b = true) (h : semOkDj ρ b = true)
    (hb : djBuild b.toExpr = .ok t) :
    ∃ s, djSql t = some s ∧ sqliteSelects ρ s = some (selects ρ b) := by
  have _ := hw    -- not needed: `semOkDj` already carries the digit condition; field names are irrelevant here
  have hv : ∃ k, djVisit b.toExpr = .ok (t, k) := by
    unfold djBuild at hb
    split at hb
    · rename_i t' k' heq
      split at hb
      · cases hb
      · split at hb
        · cases hb
        · cases hb; exact ⟨k', heq⟩
    · cases hb
    · cases hb
    · cases hb
  obtain ⟨k, hv⟩ := hv
  obtain ⟨s, h1, h2⟩ := (res_ok (specB b true) hv).2.2 ρ h
  refine ⟨s, h1, ?_⟩
  unfold sqliteSelects selects
  rw [h2]
  simp

end OQ.C02
