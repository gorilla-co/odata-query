/-
  The hypotheses of `C12.sql_never_leaks` hold for every accepted ASCII filter text: `callsOk` follows from `printable` (the parser's
  image, C10.parse_image) and `durOk` from the lexer's image (C06.accepted_litOk).  So: for every accepted ASCII text, every dialect and alias, the raw SQL
  visitor model returns SQL or a library exception.
-/
import ODataVerif.Props.C12
import ODataVerif.Props.C10Image
import ODataVerif.Props.C06Image
namespace OQ.C12
open Spec SqlAlias SqlTotal

/-- path owners are identifier chains: they contain no call -/
theorem callsOk_of_path : (e : Expr) → pathOk e = true → callsOk e = true := by
  apply pathOk.induct
  · intro _ _; rw [callsOk]
  · intro _ _ _; rw [callsOk, callsOk]
  · intro o n m ih h
    simp only [pathOk, Bool.and_eq_true] at h
    rw [callsOk]; exact ih h.2
  · intro t _ _ _ h; rw [pathOk] at h <;> first | cases h | assumption

/-- by the recursion of `printable` itself, one case per defining clause; `named` is only ever reached through
    `printableNamed` -/
theorem callsOk_all :
    (∀ e, printable e = true → callsOk e = true) ∧ (∀ xs, printableNamed xs = true → callsOkList xs = true) ∧
      (∀ xs, printableArgs xs = true → callsOkList xs = true) := by
  apply printable.mutual_induct
  case case1 => intro _ _; rw [callsOk]
  case case2 => intro o n h; rw [printable] at h; exact callsOk_of_path _ h
  case case3 => intro _ _ _; rw [callsOk]
  case case4 => intro xs ih h; simp only [printable, Bool.and_eq_true] at h; rw [callsOk]; exact ih h.2
  case case5 =>
    intro o l r ih1 ih2 h
    simp only [printable, Bool.and_eq_true] at h
    rw [callsOk, ih1 h.1, ih2 h.2]; rfl
  case case6 =>
    intro l r ih1 ih2 h
    cases r <;> simp only [printable, Bool.and_eq_true, Bool.false_eq_true, and_false] at h
    rw [callsOk, callsOk, ih1 h.1, ih2 h.2.2]; rfl
  case case7 =>
    intro o l r hne ih1 ih2 h
    rw [printable] at h
    · simp only [Bool.and_eq_true] at h
      rw [callsOk, ih1 h.1, ih2 h.2]; rfl
    · exact hne
  case case8 =>
    intro o l r ih1 ih2 h
    simp only [printable, Bool.and_eq_true] at h
    rw [callsOk, ih1 h.1, ih2 h.2]; rfl
  case case9 => intro o e ih h; rw [printable] at h; rw [callsOk]; exact ih h
  case case10 => intro n e h; rw [printable] at h; cases h
  case case11 =>
    intro f args ih3 ih2 h
    simp only [printable, Bool.and_eq_true, Bool.or_eq_true] at h
    rw [callsOk, h.1]
    rcases h.2 with h2 | h2
    · rw [ih3 h2]; rfl
    · rw [ih2 h2]; rfl
  case case12 =>
    intro ow op lam ih h
    cases lam <;> simp only [printable, Bool.and_eq_true] at h <;> rw [callsOk, callsOk_of_path ow h.1, callsOkLam]
    · rfl
    · rw [ih h.2]; rfl
  case case13 => intro h; rw [printableNamed] at h; cases h
  case case14 => intro n e ih h; rw [printableNamed] at h; rw [callsOkList, callsOk, ih h, callsOkList]; rfl
  case case15 =>
    intro n e rest hne ih1 ih2 h
    rw [printableNamed] at h
    · simp only [Bool.and_eq_true] at h
      rw [callsOkList, callsOk, ih1 h.1, ih2 h.2]; rfl
    · exact hne
  case case16 => intro a t _ _ h; rw [printableNamed] at h <;> first | cases h | assumption
  case case17 => intro _; rw [callsOkList]
  case case18 =>
    intro a rest ih1 ih2 h
    simp only [printableArgs, Bool.and_eq_true] at h
    rw [callsOkList, ih1 h.1, ih2 h.2]; rfl

theorem callsOkList_of_args : (xs : Exprs) → printableArgs xs = true → callsOkList xs = true := callsOk_all.2.2
theorem callsOkList_of_named : (xs : Exprs) → printableNamed xs = true → callsOkList xs = true := callsOk_all.2.1

/-- every built-in call of a tree in the parser's image has an admissible argument count (printable checks `callOk` at every call; named parameters, lambda
    bodies, path owners and list elements are covered) -/
theorem callsOk_of_printable (e : Expr) (h : printable e = true) : callsOk e = true :=
  callsOk_all.1 e h

/-- C12 on the raw SQL dialects for every accepted ASCII filter text -/
theorem sql_never_leaks_accepted (s : Str) (e : Expr) (d : Dialect) (al : Option Str) (ha : s.all C06.isAsciiChar = true)
    (h : parseText pyCharEnv s = .ok e) : clean (sqlVisit pyCharEnv.isDigit d al e) = true :=
  sql_never_leaks pyCharEnv.isDigit d al e (callsOk_of_printable e (C10.parse_image pyCharEnv s e h)) (C06.accepted_litOk s e d ha h).2

end OQ.C12
