/-
  C07 for whole emitted texts: the text the SQL visitors' model produces is read back by the independent SQL
  tokeniser as exactly the tokens its pieces stand for: whatever a string literal contains, it is ONE
  string-literal token; whatever a field is called, it is ONE quoted identifier.
-/
import ODataVerif.Model.SqlPieces
import ODataVerif.Lemmas.SqlLexing
namespace OQ.C07
open Spec

/-- MAIN THEOREM (C07, lexing): for every dialect, alias and filter whose literal texts have the shapes the
    lexer guarantees, the emitted characters tokenise to exactly `pieceToks` of the emitted pieces. -/
theorem lex_pieces (isD : Char → Bool) (d : Dialect) (al : Option Str) (e : Expr) (ps : List Piece)
    (hl : litOk isD d e = true) (ha : aliasOk al = true)
    (hv : sqlVisit isD d al e = .ok ps) :
    sqlLex (renderPieces ps) = some (pieceToks ps) := by
  have hg := SqlLexing.good_visit isD d al ha e ps hl hv
  have h := hg [] [] rfl rfl
  simpa [sqlLex] using h

/-- the same for the text `sqlText` returns: it is the rendering of the emitted pieces and tokenises to
    exactly their tokens -/
theorem lex_text (isD : Char → Bool) (d : Dialect) (al : Option Str) (e : Expr) (s : Str)
    (hl : litOk isD d e = true) (ha : aliasOk al = true)
    (ht : sqlText isD d al e = .ok s) :
    ∃ ps, sqlVisit isD d al e = .ok ps ∧ s = renderPieces ps ∧ sqlLex s = some (pieceToks ps) := by
  unfold sqlText at ht
  cases hv : sqlVisit isD d al e with
  | ok ps =>
    rw [hv] at ht
    simp only [Outcome.bind, Outcome.ok.injEq] at ht
    subst ht
    exact ⟨ps, rfl, rfl, lex_pieces isD d al e ps hl ha hv⟩
  | lib x => rw [hv] at ht; cases ht
  | notImplemented => rw [hv] at ht; cases ht
  | foreign c => rw [hv] at ht; cases ht

end OQ.C07
