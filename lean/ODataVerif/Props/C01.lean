/-
  C01: "the SQLite WHERE clause selects exactly the rows the OData filter denotes", for the typed
  scalar fragment of Spec/ODataSem.lean (integer / string / Boolean terms, any nesting).

  * `typed_sqlSafe`, `typed_litOk`   every filter of the typed grammar satisfies the side conditions of the
                                     lexing / parsing theorems (C07 `lex_pieces`, C09 `parse_mirror`)
  * `translates`                     the SQLite dialect never refuses a filter of the typed grammar
  * `sound`                          for every filter b and every row ρ inside `semOkB`, the expected SQL tree
                                     `Spec.mirror .sqlite (toExpr b)` evaluated by the SQLite model selects ρ
                                     iff OData's three-valued semantics makes b true on ρ
  `semOkB` excludes exactly: negative substring positions (unspecified by OData), rows on which SQLite's ASCII
  case-insensitive LIKE differs from an ordinal match (known finding), computed LIKE patterns whose VALUE contains
  `%` or `_` (known finding), NUL characters, and cells of the wrong storage class.
-/
import ODataVerif.Spec.ODataElab
import ODataVerif.Spec.SqlMirror
import ODataVerif.Model.SqlPieces
import ODataVerif.Lemmas.SqliteSound
import ODataVerif.Lemmas.SqliteSoundB
import ODataVerif.Lemmas.TypedShape
namespace OQ.C01
open Spec SqliteSound SqliteLike TypedShape

mutual
/-- literal texts and field names of a typed term are well-formed (ASCII digits; no `"` in a name) -/
def wfI : IntE → Bool
  | .lit _ ds => asciiDigits ds
  | .col c => !c.contains '"'
  | .neg e => wfI e
  | .arith _ l r => wfI l && wfI r
  | .length s => wfS s
  | .indexof a b => wfS a && wfS b
def wfS : StrE → Bool
  | .lit _ => true
  | .col c => !c.contains '"'
  | .concat a b => wfS a && wfS b
  | .substring s i => wfS s && wfI i
  | .substring3 s i n => wfS s && wfI i && wfI n
  | .tolower s | .toupper s | .trim s => wfS s
end
def wfIs : List IntE → Bool
  | [] => true
  | e :: t => wfI e && wfIs t
def wfSs : List StrE → Bool
  | [] => true
  | e :: t => wfS e && wfSs t
def wfB : BoolE → Bool
  | .cmpI _ l r => wfI l && wfI r
  | .cmpS _ l r => wfS l && wfS r
  | .cmpB k l r => (k == .eq || k == .ne) && wfB l && wfB r
  | .isNull _ c _ => !c.contains '"'
  | .inI e xs => wfI e && wfIs xs && !xs.isEmpty
  | .inS e xs => wfS e && wfSs xs && !xs.isEmpty
  | .and l r | .or l r => wfB l && wfB r
  | .not e => wfB e
  | .like _ a b => wfS a && wfS b
  | .col c => !c.contains '"'
  | .lit _ => true

variable (isD : Char → Bool)

mutual
theorem litOkI (d : Dialect) : (e : IntE) → wfI e = true → litOk isD d e.toExpr = true
  | .lit neg ds, h => by
      rw [IntE.toExpr, litOk]
      cases neg
      · exact isNumText_digits h
      · exact isNumText_neg h
  | .col c, h => nameOk_of d h
  | .neg e, h => litOkI d e h
  | .arith k l r, h => by
      rw [wfI, Bool.and_eq_true] at h
      rw [IntE.toExpr, litOk, litOkI d l h.1, litOkI d r h.2]; rfl
  | .length s, h => litOk_call1 _ (litOkS d s h)
  | .indexof a b, h => by
      rw [wfI, Bool.and_eq_true] at h
      exact litOk_call2 _ (litOkS d a h.1) (litOkS d b h.2)
theorem litOkS (d : Dialect) : (s : StrE) → wfS s = true → litOk isD d s.toExpr = true
  | .lit s, _ => rfl
  | .col c, h => nameOk_of d h
  | .concat a b, h => by
      rw [wfS, Bool.and_eq_true] at h
      exact litOk_call2 _ (litOkS d a h.1) (litOkS d b h.2)
  | .substring s i, h => by
      rw [wfS, Bool.and_eq_true] at h
      exact litOk_call2 _ (litOkS d s h.1) (litOkI d i h.2)
  | .substring3 s i n, h => by
      rw [wfS, Bool.and_eq_true, Bool.and_eq_true] at h
      exact litOk_call3 _ (litOkS d s h.1.1) (litOkI d i h.1.2) (litOkI d n h.2)
  | .tolower s, h => litOk_call1 _ (litOkS d s h)
  | .toupper s, h => litOk_call1 _ (litOkS d s h)
  | .trim s, h => litOk_call1 _ (litOkS d s h)
end

theorem litOkIs (d : Dialect) : (xs : List IntE) → wfIs xs = true → litOkList isD d (intsToExprs xs) = true
  | [], _ => rfl
  | e :: t, h => by
      rw [wfIs, Bool.and_eq_true] at h
      rw [intsToExprs, litOkList, litOkI isD d e h.1, litOkIs d t h.2]; rfl
theorem litOkSs (d : Dialect) : (xs : List StrE) → wfSs xs = true → litOkList isD d (strsToExprs xs) = true
  | [], _ => rfl
  | e :: t, h => by
      rw [wfSs, Bool.and_eq_true] at h
      rw [strsToExprs, litOkList, litOkS isD d e h.1, litOkSs d t h.2]; rfl

theorem litOkB (d : Dialect) : (b : BoolE) → wfB b = true → litOk isD d b.toExpr = true
  | .cmpI _ l r, h => by
      rw [wfB, Bool.and_eq_true] at h
      exact litOk_compare _ (litOkI isD d l h.1) (litOkI isD d r h.2)
  | .cmpS _ l r, h => by
      rw [wfB, Bool.and_eq_true] at h
      exact litOk_compare _ (litOkS isD d l h.1) (litOkS isD d r h.2)
  | .cmpB _ l r, h => by
      rw [wfB, Bool.and_eq_true, Bool.and_eq_true] at h
      exact litOk_compare _ (litOkB d l h.1.2) (litOkB d r h.2)
  | .isNull _ c _, h => litOk_compare _ (nameOk_of d h) rfl
  | .inI e xs, h => by
      rw [wfB, Bool.and_eq_true, Bool.and_eq_true] at h
      exact litOk_compare _ (litOkI isD d e h.1.1) (litOkIs isD d xs h.1.2)
  | .inS e xs, h => by
      rw [wfB, Bool.and_eq_true, Bool.and_eq_true] at h
      exact litOk_compare _ (litOkS isD d e h.1.1) (litOkSs isD d xs h.1.2)
  | .and l r, h => by
      rw [wfB, Bool.and_eq_true] at h
      exact litOk_boolop _ (litOkB d l h.1) (litOkB d r h.2)
  | .or l r, h => by
      rw [wfB, Bool.and_eq_true] at h
      exact litOk_boolop _ (litOkB d l h.1) (litOkB d r h.2)
  | .not e, h => litOkB d e h
  | .like _ a b, h => by
      rw [wfB, Bool.and_eq_true] at h
      exact litOk_call2 _ (litOkS isD d a h.1) (litOkS isD d b h.2)
  | .col c, h => nameOk_of d h
  | .lit b, _ => by
      cases b
      · exact boolText_false
      · exact boolText_true

theorem typed_sqlSafe (d : Dialect) (b : BoolE) : sqlSafe d b.toExpr = true :=
  bool_safe d b

theorem typed_litOk (d : Dialect) (b : BoolE) (h : wfB b = true) : litOk isD d b.toExpr = true :=
  litOkB isD d b h

theorem translates (al : Option Str) (b : BoolE) : ∃ ps, sqlVisit isD .sqlite al b.toExpr = .ok ps :=
  visB b


section Sound
variable (ρ : Row)

theorem ofVal_int (c : Str) (h : (match ρ.get c with
                                   | .str _ => false
                                   | _ => true) = true) : SqlVal.ofVal (ρ.get c) = valI (ρ.int c) := by
  unfold Row.int
  cases hg : ρ.get c <;> simp [hg, SqlVal.ofVal] at h ⊢

theorem ofVal_str (c : Str) (h : (match ρ.get c with
                                   | .int _ => false
                                   | .str s => noNul s
                                   | .null => true) = true) : SqlVal.ofVal (ρ.get c) = valS (ρ.str c) := by
  unfold Row.str
  cases hg : ρ.get c <;> simp [hg, SqlVal.ofVal] at h ⊢

theorem nonnegO_of (x : Option Int) (h : (match x with
                                           | some k => decide (0 ≤ k)
                                           | none => true) = true) : nonnegO x = true := by
  cases x <;> simp [nonnegO] at h ⊢ <;> exact h

mutual
theorem soundI : (e : IntE) → wfI e = true → semOkI ρ e = true → Den (mir isD) (sqlEval ρ) e.toExpr (valI (evalI ρ e))
  | .lit neg ds, hw, _ => ⟨_, rfl, eval_intLit ρ neg ds hw⟩
  | .col c, _, hs => ⟨_, mirror_ident isD c, by rw [eval_col, evalI, ofVal_int ρ c hs]⟩
  | .neg e, hw, hs => den1 (mirror_neg isD _) (soundI e hw hs) fun t => eval_neg ρ t _
  | .arith k l r, hw, hs => by
      simp only [wfI, Bool.and_eq_true] at hw
      simp only [semOkI, Bool.and_eq_true] at hs
      rw [evalI_arith]
      exact den2 (mirror_binop isD _ _ _) (soundI l hw.1 hs.1) (soundI r hw.2 hs.2) fun tl tr => eval_arith ρ k tl tr _ _
  | .length s, hw, hs => den1 (mirror_length isD _) (soundS s hw hs) fun t => eval_length ρ t _
  | .indexof a b, hw, hs => by
      simp only [wfI, Bool.and_eq_true] at hw
      simp only [semOkI, Bool.and_eq_true] at hs
      rw [evalI_indexof]
      exact den2 (mirror_indexof isD _ _ (strOverload_of_strTy (strTy_toExpr a) (strTy_toExpr b)))
        (soundS a hw.1 hs.1) (soundS b hw.2 hs.2) fun ta tb => eval_indexof ρ ta tb _ _
theorem soundS : (s : StrE) → wfS s = true → semOkS ρ s = true → Den (mir isD) (sqlEval ρ) s.toExpr (valS (evalS ρ s))
  | .lit s, _, _ => ⟨_, rfl, eval_str ρ s⟩
  | .col c, _, hs => ⟨_, mirror_ident isD c, by rw [eval_col, evalS, ofVal_str ρ c hs]⟩
  | .concat a b, hw, hs => by
      simp only [wfS, Bool.and_eq_true] at hw
      simp only [semOkS, Bool.and_eq_true] at hs
      rw [evalS_concat]
      exact den2 (mirror_concat isD _ _) (soundS a hw.1 hs.1) (soundS b hw.2 hs.2) fun ta tb => eval_concat ρ ta tb _ _
  | .substring s i, hw, hs => by
      simp only [wfS, Bool.and_eq_true] at hw
      simp only [semOkS, Bool.and_eq_true] at hs
      rw [evalS_substring]
      exact den2 (mirror_substring2 isD _ _ (isStrTy_or_none_of_strTy (strTy_toExpr s))) (soundS s hw.1 hs.1.1)
        (soundI i hw.2 hs.1.2) fun ts ti hes hei => eval_substring2 ρ ts ti _ _ hes hei (nonnegO_of _ hs.2)
  | .substring3 s i n, hw, hs => by
      simp only [wfS, Bool.and_eq_true] at hw
      simp only [semOkS, Bool.and_eq_true] at hs
      rw [evalS_substring3]
      exact den3 (mirror_substring3 isD _ _ _ (isStrTy_or_none_of_strTy (strTy_toExpr s))) (soundS s hw.1.1 hs.1.1.1.1)
        (soundI i hw.1.2 hs.1.1.1.2) (soundI n hw.2 hs.1.1.2) fun ts ti tn hes hei hen =>
          eval_substring3 ρ ts ti tn _ _ _ hes hei hen (nonnegO_of _ hs.1.2) (nonnegO_of _ hs.2)
  | .tolower s, hw, hs => den1 (mirror_tolower isD _) (soundS s hw hs) fun t => eval_lower ρ t _
  | .toupper s, hw, hs => den1 (mirror_toupper isD _) (soundS s hw hs) fun t => eval_upper ρ t _
  | .trim s, hw, hs => den1 (mirror_trim isD _) (soundS s hw hs) fun t => eval_trim ρ t _
end

theorem isNullLit_I (e : IntE) : isNullLit e.toExpr = false := by
  cases e <;> rfl
theorem isNullLit_S (e : StrE) : isNullLit e.toExpr = false := by
  cases e <;> rfl
theorem isNullLit_B (e : BoolE) : isNullLit e.toExpr = false := by
  cases e <;> rfl
theorem isStrLitE_of_not_lit (s : StrE) (h : isLitS s = false) : isStrLitE s.toExpr = false := by
  cases s <;> first | rfl | cases h

theorem soundIs : (xs : List IntE) → wfIs xs = true → semOkIs ρ xs = true →
    ∃ ts, mirrorList isD .sqlite none (intsToExprs xs) = some ts ∧
      sqlEvalList ρ ts = some ((evalIs ρ xs).map valI)
  | [], _, _ => ⟨.nil, rfl, by rw [sqlEvalList]; rfl⟩
  | e :: t, hw, hs => by
      simp only [wfIs, Bool.and_eq_true] at hw
      simp only [semOkIs, Bool.and_eq_true] at hs
      obtain ⟨te, hme, hee⟩ := soundI isD ρ e hw.1 hs.1
      obtain ⟨tt, hmt, het⟩ := soundIs t hw.2 hs.2
      refine ⟨.cons te tt, ?_, ?_⟩
      · rw [intsToExprs, mirrorList_cons, hme, hmt]; rfl
      · rw [sqlEvalList, hee, het]; rfl
theorem soundSs : (xs : List StrE) → wfSs xs = true → semOkSs ρ xs = true →
    ∃ ts, mirrorList isD .sqlite none (strsToExprs xs) = some ts ∧
      sqlEvalList ρ ts = some ((evalSs ρ xs).map valS)
  | [], _, _ => ⟨.nil, rfl, by rw [sqlEvalList]; rfl⟩
  | e :: t, hw, hs => by
      simp only [wfSs, Bool.and_eq_true] at hw
      simp only [semOkSs, Bool.and_eq_true] at hs
      obtain ⟨te, hme, hee⟩ := soundS isD ρ e hw.1 hs.1
      obtain ⟨tt, hmt, het⟩ := soundSs t hw.2 hs.2
      refine ⟨.cons te tt, ?_, ?_⟩
      · rw [strsToExprs, mirrorList_cons, hme, hmt]; rfl
      · rw [sqlEvalList, hee, het]; rfl

theorem ofVal_bool (c : Str) (h : semOkB ρ (.col c) = true) :
    SqlVal.ofVal (ρ.get c) = v3ToVal (evalB ρ (.col c)) := by
  simp only [semOkB] at h
  rw [evalB]
  unfold Row.int
  cases hg : ρ.get c with
  | null => rfl
  | str s => simp [hg] at h
  | int z =>
    simp only [hg, Bool.or_eq_true, beq_iff_eq] at h
    rcases h with h | h <;> subst h <;> rfl

theorem soundB : (b : BoolE) → wfB b = true → semOkB ρ b = true → Den (mir isD) (sqlEval ρ) b.toExpr (v3ToVal (evalB ρ b))
  | .cmpI k l r, hw, hs => by
      simp only [wfB, Bool.and_eq_true] at hw
      simp only [semOkB, Bool.and_eq_true] at hs
      rw [evalB_cmpI]
      exact den2 (mirror_compare isD _ _ _ (toOp_ne_in k) (isNullLit_I l) (isNullLit_I r)) (soundI isD ρ l hw.1 hs.1)
        (soundI isD ρ r hw.2 hs.2) fun tl tr hl hr => by rw [eval_cmp ρ k tl tr _ _ hl hr, cmpVals_int]
  | .cmpS k l r, hw, hs => by
      simp only [wfB, Bool.and_eq_true] at hw
      simp only [semOkB, Bool.and_eq_true] at hs
      rw [evalB_cmpS]
      exact den2 (mirror_compare isD _ _ _ (toOp_ne_in k) (isNullLit_S l) (isNullLit_S r)) (soundS isD ρ l hw.1 hs.1)
        (soundS isD ρ r hw.2 hs.2) fun tl tr hl hr => by rw [eval_cmp ρ k tl tr _ _ hl hr, cmpVals_str]
  | .cmpB k l r, hw, hs => by
      simp only [wfB, Bool.and_eq_true] at hw
      simp only [semOkB, Bool.and_eq_true] at hs
      rw [evalB_cmpB]
      exact den2 (mirror_compare isD _ _ _ (toOp_ne_in k) (isNullLit_B l) (isNullLit_B r)) (soundB l hw.1.2 hs.1.2)
        (soundB r hw.2 hs.2) fun tl tr hl hr => by rw [eval_cmp ρ k tl tr _ _ hl hr, cmpVals_bool k hw.1.1]
  | .isNull _ c negated, _, _ => by
      cases negated
      · exact ⟨_, mirror_isNull isD c, by rw [eval_isNull, evalB]; simp⟩
      · exact ⟨_, mirror_isNotNull isD c, by rw [eval_isNotNull, evalB]; simp⟩
  | .inI e xs, hw, hs => by
      simp only [wfB, Bool.and_eq_true] at hw
      simp only [semOkB, Bool.and_eq_true] at hs
      obtain ⟨te, hme, hee⟩ := soundI isD ρ e hw.1.1 hs.1.1
      obtain ⟨ts, hms, hes⟩ := soundIs isD ρ xs hw.1.2 hs.1.2
      exact ⟨.inl te ts, by rw [BoolE.toExpr, mirror_in, hme, hms]; rfl, eval_inI ρ te ts _ _ hee hes⟩
  | .inS e xs, hw, hs => by
      simp only [wfB, Bool.and_eq_true] at hw
      simp only [semOkB, Bool.and_eq_true] at hs
      obtain ⟨te, hme, hee⟩ := soundS isD ρ e hw.1.1 hs.1.1
      obtain ⟨ts, hms, hes⟩ := soundSs isD ρ xs hw.1.2 hs.1.2
      exact ⟨.inl te ts, by rw [BoolE.toExpr, mirror_in, hme, hms]; rfl, eval_inS ρ te ts _ _ hee hes⟩
  | .and l r, hw, hs => by
      simp only [wfB, Bool.and_eq_true] at hw
      simp only [semOkB, Bool.and_eq_true] at hs
      exact den2 (mirror_and isD _ _) (soundB l hw.1 hs.1) (soundB r hw.2 hs.2) fun tl tr => eval_and ρ tl tr _ _
  | .or l r, hw, hs => by
      simp only [wfB, Bool.and_eq_true] at hw
      simp only [semOkB, Bool.and_eq_true] at hs
      exact den2 (mirror_or isD _ _) (soundB l hw.1 hs.1) (soundB r hw.2 hs.2) fun tl tr => eval_or ρ tl tr _ _
  | .not e, hw, hs => den1 (mirror_not isD _) (soundB e hw hs) fun t => eval_not ρ t _
  | .like k a b, hw, hs => by
      simp only [wfB, Bool.and_eq_true] at hw
      simp only [semOkB, Bool.and_eq_true] at hs
      -- inside `semOkB` the case-insensitive reading of LIKE agrees with OData's, and a computed pattern has no wildcard
      have hcond : ∀ h n, evalS ρ a = some h → evalS ρ b = some n →
          likeCI k h n = likeSem k h n ∧ (isLitS b = true ∨ hasLikeMeta n = false) := by
        intro h n ha hb
        have := hs.2
        rw [ha, hb] at this
        simpa using this
      have hci : cmp2 (likeCI k) (evalS ρ a) (evalS ρ b) = cmp2 (likeSem k) (evalS ρ a) (evalS ρ b) :=
        cmp2_congr fun h n ha hb => (hcond h n ha hb).1
      rw [evalB_like, ← hci]
      refine den2 (mirror_like isD _ _ _ (strOverload_of_strTy (strTy_toExpr a) (strTy_toExpr b)))
        (soundS isD ρ a hw.1 hs.1.1) (soundS isD ρ b hw.2 hs.1.2) fun ta tb hea heb => ?_
      cases hl : isLitS b with
      | true =>
        cases b with
        | lit n => exact eval_like_lit ρ k ta tb _ n hea
        | _ => cases hl
      | false =>
        refine eval_like_computed ρ k _ ta tb _ _ (isStrLitE_of_not_lit b hl) hea heb fun h n ha hb => ?_
        rcases (hcond h n ha hb).2 with h1 | h1
        · rw [hl] at h1; cases h1
        · exact h1
  | .col c, _, hs => ⟨_, mirror_ident isD c, by rw [eval_col, ofVal_bool ρ c hs]⟩
  | .lit b, _, _ => ⟨_, mirror_boolLit isD b, eval_boolLit ρ b⟩
end Sound

theorem sound (b : BoolE) (ρ : Row) (hw : wfB b = true) (h : semOkB ρ b = true) :
    ∃ t, mirror isD .sqlite none b.toExpr = some t ∧ sqliteSelects ρ t = some (selects ρ b) := by
  obtain ⟨t, hm, he⟩ := soundB isD ρ b hw h
  refine ⟨t, hm, ?_⟩
  unfold sqliteSelects selects
  rw [he]
  simp

end OQ.C01
