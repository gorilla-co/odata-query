/-
  C01 end to end, for the model of the SQLite dialect:

  for EVERY filter b of the typed scalar grammar and EVERY row ρ inside `semOkB`, the dialect emits a WHERE text;
  that text, read by the independent SQL tokeniser and parser, is a tree whose evaluation by the SQLite model
  selects ρ exactly when OData's three-valued semantics makes b true on ρ.

  Chain:  translates  →  C07.lex_pieces  →  C09.parse_mirror  →  C01.sound.
-/
import ODataVerif.Props.C01
import ODataVerif.Props.C07Lex
import ODataVerif.Props.C09Parse
namespace OQ.C01
open Spec

theorem where_selects (isD : Char → Bool) (b : BoolE) (ρ : Row) (hw : wfB b = true) (h : semOkB ρ b = true) :
    ∃ s, sqlText isD .sqlite none b.toExpr = .ok s ∧
      ∃ t, sqlRead s = some t ∧ sqliteSelects ρ t = some (selects ρ b) := by
  obtain ⟨ps, hps⟩ := translates isD none b
  obtain ⟨t, hm, hsel⟩ := sound isD b ρ hw h
  have hl := typed_litOk isD .sqlite b hw
  have hlex := C07.lex_pieces isD .sqlite none b.toExpr ps hl rfl hps
  have hparse := C09.parse_mirror isD .sqlite none b.toExpr ps t hl (typed_sqlSafe .sqlite b) hm hps
  refine ⟨renderPieces ps, ?_, t, ?_, hsel⟩
  · unfold sqlText; rw [hps]; rfl
  · unfold sqlRead; rw [hlex]; exact hparse

/-- the same statement for the standard and Athena dialects' TEXT (structure only): every typed filter they accept is
    emitted as a text that reads back as `Spec.mirror` -/
theorem text_reads_as_mirror (isD : Char → Bool) (d : Dialect) (al : Option Str) (b : BoolE) (ps : List Piece) (t : SqlTree)
    (hw : wfB b = true) (ha : aliasOk al = true)
    (hm : mirror isD d al b.toExpr = some t) (hv : sqlVisit isD d al b.toExpr = .ok ps) :
    sqlRead (renderPieces ps) = some t := by
  have hl := typed_litOk isD d b hw
  have hlex := C07.lex_pieces isD d al b.toExpr ps hl ha hv
  have hparse := C09.parse_mirror isD d al b.toExpr ps t hl (typed_sqlSafe d b) hm hv
  unfold sqlRead; rw [hlex]; exact hparse

end OQ.C01
