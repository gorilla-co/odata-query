/-
  Props/C10Total.lean — C10 (model level): the lexer + parser model is total and never produces a
  foreign exception.  Every lexer rule consumes at least one character, so the fuel of `lexAll`
  (`cs.length + 1`) is never exhausted; nor is the parser's recursion budget `parseFuel ts`; and the
  only exceptions grammar actions raise are the two of `_function_call` (`pathCons` never meets a
  shape it cannot handle).
-/
import ODataVerif.Lemmas.Totality
namespace OQ.C10
open OQ

theorem lex_progress (env : CharEnv) (cs : List Char) (t : Tok) (r : List Char)
    (h : lexOne env cs = some (t, r)) : r.length < cs.length :=
  lexOne_len env cs t r h

theorem lex_fuel_irrelevant (env : CharEnv) (cs : List Char) (pos f1 f2 : Nat)
    (h1 : cs.length < f1) (h2 : cs.length < f2) : lexFuel env f1 pos cs = lexFuel env f2 pos cs :=
  lexFuel_irrel env f1 f2 pos cs h1 h2

theorem lexAll_eq (env : CharEnv) (cs : List Char) (f : Nat) (h : cs.length < f) :
    lexAll env cs = lexFuel env f 0 cs :=
  lexFuel_irrel env _ f 0 cs (Nat.lt_succ_self _) h

theorem parse_no_fuel_of_le (lexErr : Bool) (ts : List Tok) (m f : Nat) (hf : 3 * ts.length + 3 ≤ f) :
    parseExpr lexErr f m ts ≠ .error .fuel ∧
    ∀ e rest, parseExpr lexErr f m ts = .ok (e, rest) → rest.length < ts.length := by
  have := (nf_all lexErr f).1 m ts hf
  constructor
  · intro h; rw [h] at this; exact this rfl
  · intro e rest h; rw [h] at this; exact this.2

theorem parse_no_fuel (lexErr : Bool) (ts : List Tok) (m : Nat) :
    parseExpr lexErr (parseFuel ts) m ts ≠ .error .fuel :=
  (parse_no_fuel_of_le lexErr ts m _ (by unfold parseFuel; omega)).1

/-- grammar actions raise no foreign exception (AttributeError / IndexError / NotImplementedError):
    the only `exc` outcomes are the two exceptions of `_function_call` -/
theorem parse_no_foreign' (lexErr : Bool) (f m : Nat) (ts : List Tok) (o : Outcome Unit)
    (h : parseExpr lexErr f m ts = .error (.exc o)) :
    (∃ n, o = .lib (.unknownFunction n)) ∨ (∃ n lo hi g, o = .lib (.argumentCount n lo hi g)) := by
  have := (parse_induct noForeign lexErr f).1 m ts fun _ _ => trivial
  rw [h] at this
  exact this o rfl

/-- Lean reads this statement as `∃ e, (… ∧ …) ∨ (∃ e, …)`, so the outer witness is arbitrary in
    the second case; it is equivalent to `parse_no_foreign'` -/
theorem parse_no_foreign (lexErr : Bool) (f m : Nat) (ts : List Tok) (o : Outcome Unit)
    (h : parseExpr lexErr f m ts = .error (.exc o)) : ∃ e, o = .lib e ∧ (∃ n, e = .unknownFunction n) ∨ (∃ e, o = .lib e ∧ ∃ n lo hi g, e = .argumentCount n lo hi g) := by
  rcases parse_no_foreign' lexErr f m ts o h with ⟨n, rfl⟩ | ⟨n, lo, hi, g, rfl⟩
  · exact ⟨_, .inl ⟨rfl, n, rfl⟩⟩
  · exact ⟨.value, .inr ⟨_, rfl, n, lo, hi, g, rfl⟩⟩

theorem parseToks_total (lexErr : Option Nat) (ts : List Tok) :
    (∃ e, parseToks lexErr ts = .ok e) ∨
    (∃ i, parseToks lexErr ts = .lib (.tokenizing i)) ∨ (∃ i, parseToks lexErr ts = .lib (.parsing i)) ∨
    (∃ n, parseToks lexErr ts = .lib (.unknownFunction n)) ∨
    (∃ n lo hi g, parseToks lexErr ts = .lib (.argumentCount n lo hi g)) := by
  have hfuel := parse_no_fuel lexErr.isSome ts 0
  have hexc := parse_no_foreign' lexErr.isSome (parseFuel ts) 0 ts
  unfold parseToks
  split
  · split
    · exact .inr (.inl ⟨_, rfl⟩)
    · exact .inl ⟨_, rfl⟩
  · exact .inr (.inr (.inl ⟨_, rfl⟩))
  · exact .inr (.inr (.inl ⟨_, rfl⟩))
  · exact .inr (.inr (.inl ⟨_, rfl⟩))
  · exact .inr (.inl ⟨_, rfl⟩)
  · rename_i e heq
    rcases hexc _ heq with ⟨n, hn⟩ | ⟨n, lo, hi, g, hn⟩
    · cases hn; exact .inr (.inr (.inr (.inl ⟨_, rfl⟩)))
    · cases hn; exact .inr (.inr (.inr (.inr ⟨_, _, _, _, rfl⟩)))
  · rename_i heq
    rcases hexc _ heq with ⟨n, hn⟩ | ⟨n, lo, hi, g, hn⟩ <;> cases hn
  · rename_i c heq
    rcases hexc _ heq with ⟨n, hn⟩ | ⟨n, lo, hi, g, hn⟩ <;> cases hn
  · rename_i u heq
    rcases hexc _ heq with ⟨n, hn⟩ | ⟨n, lo, hi, g, hn⟩ <;> cases hn
  · rename_i heq
    exact (hfuel heq).elim

/-- **C10 (model)**: every string whatsoever yields an AST or one of the library's four
    syntax/function errors -/
theorem total (env : CharEnv) (s : List Char) :
    (∃ e, parseText env s = .ok e) ∨
    (∃ i, parseText env s = .lib (.tokenizing i)) ∨ (∃ i, parseText env s = .lib (.parsing i)) ∨
    (∃ n, parseText env s = .lib (.unknownFunction n)) ∨ (∃ n lo hi g, parseText env s = .lib (.argumentCount n lo hi g)) :=
  parseToks_total _ _

end OQ.C10
