/-
  C20: "Lexer and parser instances are reusable and deterministic".
  Proved about the instance state machine of Model/Instances.lean; hash seed, import order and SLY's
  table construction are runtime facts covered by harness/checks/c20.py (partial).
-/
import ODataVerif.Model.Instances
namespace OQ.C20

theorem tokNext_indep (env : CharEnv) (fr : TokFrame) (i1 i2 : LexerInst) :
    (tokNext env fr i1).1 = (tokNext env fr i2).1 ∧ (tokNext env fr i1).2.1 = (tokNext env fr i2).2.1 := by
  unfold tokNext
  split
  · exact ⟨rfl, rfl⟩
  · split
    · exact ⟨rfl, rfl⟩
    · split <;> exact ⟨rfl, rfl⟩

theorem tokRun_indep (env : CharEnv) (n : Nat) (fr : TokFrame) (i1 i2 : LexerInst) :
    tokRun env n fr i1 = tokRun env n fr i2 := by
  induction n generalizing fr i1 i2 with
  | zero => rfl
  | succ n ih =>
      have h := tokNext_indep env fr i1 i2
      unfold tokRun
      rcases h1 : tokNext env fr i1 with ⟨s1, f1, j1⟩
      rcases h2 : tokNext env fr i2 with ⟨s2, f2, j2⟩
      rw [h1, h2] at h
      simp only at h
      obtain ⟨hs, hf⟩ := h
      subst hs; subst hf
      cases s1 with
      | tok t => simp only; rw [ih f1 j1 j2]
      | stop => rfl
      | error i => rfl

def stepsOf (env : CharEnv) : Nat → TokFrame → LexerInst → List TokStep
  | 0, _, _ => []
  | n + 1, fr, inst =>
      let (s, fr', inst') := tokNext env fr inst
      s :: stepsOf env n fr' inst'

theorem stepsOf_succ (env : CharEnv) (n : Nat) (fr : TokFrame) (inst : LexerInst) :
    stepsOf env (n + 1) fr inst =
      (tokNext env fr inst).1 :: stepsOf env n (tokNext env fr inst).2.1 (tokNext env fr inst).2.2 := rfl

theorem stepsOf_indep (env : CharEnv) (n : Nat) (fr : TokFrame) (i1 i2 : LexerInst) :
    stepsOf env n fr i1 = stepsOf env n fr i2 := by
  induction n generalizing fr i1 i2 with
  | zero => rfl
  | succ n ih =>
      obtain ⟨hs, hf⟩ := tokNext_indep env fr i1 i2
      rw [stepsOf_succ, stepsOf_succ, hs, hf, ih _ _ (tokNext env fr i2).2.2]

/-- **interleaving**: in any schedule of two tokenizers on one lexer instance, each produces exactly
    the steps it produces alone -/
theorem interleave_indep (env : CharEnv) (sch : List Bool) (a b : TokFrame) (inst : LexerInst) :
    (tokInterleave env sch a b inst).1 = stepsOf env (sch.filter (· == false)).length a inst ∧
    (tokInterleave env sch a b inst).2 = stepsOf env (sch.filter (· == true)).length b inst := by
  induction sch generalizing a b inst with
  | nil => exact ⟨rfl, rfl⟩
  | cons x sch ih =>
      -- the tokenizer that is not scheduled sees a changed instance afterwards, which it does not read
      cases x with
      | false =>
          obtain ⟨iha, ihb⟩ := ih (tokNext env a inst).2.1 b (tokNext env a inst).2.2
          exact ⟨congrArg _ iha, ihb.trans (stepsOf_indep env _ b _ inst)⟩
      | true =>
          obtain ⟨iha, ihb⟩ := ih a (tokNext env b inst).2.1 (tokNext env b inst).2.2
          exact ⟨iha.trans (stepsOf_indep env _ a _ inst), congrArg _ ihb⟩

/-- `reset` establishes the configuration the driver starts from, whatever was there before -/
theorem reset_clean (p : ParserInst) :
    p.reset.state = 0 ∧ p.reset.statestack = [0] ∧ p.reset.symstack = ["$end"] := ⟨rfl, rfl, rfl⟩

theorem parse_state_independent (p : ParserInst) (le : Option Nat) (ts : List Tok) :
    (parseOn p le ts).1 = (parseOn freshParser le ts).1 := by
  simp [parseOn, lrRun, ParserInst.reset]

/-- **history independence**: after ANY history of parse calls (valid filters, syntax errors,
    tokenising errors, function errors) the result of a probe equals the result on a fresh instance -/
theorem history_independent (h : List (Option Nat × List Tok)) (le : Option Nat) (ts : List Tok) :
    (parseOn (runHistory freshParser h) le ts).1 = (parseOn freshParser le ts).1 :=
  parse_state_independent _ le ts

/-- and it is the parse itself (never the `dirty` outcome) -/
theorem parseOn_is_parse (p : ParserInst) (le : Option Nat) (ts : List Tok) :
    (parseOn p le ts).1 = parseToks le ts := by
  simp [parseOn, lrRun, ParserInst.reset]

/-! non-vacuity: the driver started on a dirty instance WOULD misbehave in the model — the theorem is about `reset` -/
example : lrRun (leftover freshParser [.lp] (.lib (.parsing none))) none [.lit .int ['1']] = .foreign "dirty-parser-state" := by
  decide +kernel
example : (parseOn (leftover freshParser [.lp] (.lib (.parsing none))) none [.lit .int ['1']]).1 = .ok (.lit .int ['1']) := by
  decide +kernel

end OQ.C20
