/-
  C09, structure: the tokens the SQL visitors' model emits are read by the independent SQL parser
  (standard precedence, ambiguous mixes rejected) as exactly the tree `Spec.mirror` demands.
-/
import ODataVerif.Model.SqlPieces
import ODataVerif.Spec.SqlMirror
import ODataVerif.Lemmas.SqlPratt
namespace OQ.C09
open Spec

/-- MAIN THEOREM (C09, structure): for every dialect, alias and `sqlSafe` filter, if the specification assigns
    the filter a mirror tree and the model emits pieces, then the independent parser reads the emitted
    tokens as that tree. -/
theorem parse_mirror (isD : Char → Bool) (d : Dialect) (al : Option Str) (e : Expr) (ps : List Piece) (t : SqlTree)
    (hl : litOk isD d e = true) (hs : sqlSafe d e = true)
    (hm : mirror isD d al e = some t) (hv : sqlVisit isD d al e = .ok ps) :
    sqlParse (pieceToks ps) = some t :=
  SqlPratt.parse_of_core e t ps (SqlPratt.core isD d al e t ps hl hs hm hv)

end OQ.C09
