/-
  C05: "The parser groups operators exactly as the OData precedence table dictates".
  The round-trip theorem through the reference printer lives in Props/C05Roundtrip.lean (it needs the
  Pratt lemma library); this file relates the three precedence tables involved.
-/
import ODataVerif.Model.Parser
import ODataVerif.Model.ParserTables
import ODataVerif.Spec.RefPrinter
import ODataVerif.Tie.ParserTables
namespace OQ.C05

/-- position (1-based) of a token name in `ODataParser.precedence`, with its associativity -/
def declLevel (tok : String) : Option (Nat × String) :=
  go ParserTables.parserPrecedence 1
where go : List (String × List String) → Nat → Option (Nat × String)
  | [], _ => none
  | (assoc, toks) :: rest, n => if toks.contains tok then some (n, assoc) else go rest (n + 1)

/-- the levels the precedence-climbing model uses are exactly the rows of the yacc declaration that
    was extracted from grammar.py (and every binary row is left-associative, the unary row right) -/
theorem model_levels_match_declaration :
    declLevel "OR" = some (BoolOp.or_.lvl, "left") ∧ declLevel "AND" = some (BoolOp.and_.lvl, "left") ∧
    declLevel "EQ" = some (CmpOp.eq.lvl, "left") ∧ declLevel "NE" = some (CmpOp.ne.lvl, "left") ∧
    declLevel "LT" = some (CmpOp.lt.lvl, "left") ∧ declLevel "LE" = some (CmpOp.le.lvl, "left") ∧
    declLevel "GT" = some (CmpOp.gt.lvl, "left") ∧ declLevel "GE" = some (CmpOp.ge.lvl, "left") ∧
    declLevel "ADD" = some (ArithOp.add.lvl, "left") ∧ declLevel "SUB" = some (ArithOp.sub.lvl, "left") ∧
    declLevel "MUL" = some (ArithOp.mul.lvl, "left") ∧ declLevel "DIV" = some (ArithOp.div.lvl, "left") ∧
    declLevel "MOD" = some (ArithOp.mod.lvl, "left") ∧
    declLevel "NOT" = some (unaryLvl, "right") ∧ declLevel "UMINUS" = some (unaryLvl, "right") ∧
    declLevel "IN" = some (CmpOp.in_.lvl, "left") := by decide +kernel

/-- the model's levels are those of OData 4.01 §5.1.1.14 (Spec.level, typed in from the specification) -/
theorem model_levels_match_spec (l r : Expr) :
    (∀ o, Spec.level (.boolop o l r) = o.lvl) ∧ (∀ o, Spec.level (.compare o l r) = o.lvl) ∧
    (∀ o, Spec.level (.binop o l r) = o.lvl) ∧ (∀ o, Spec.level (.unary o l) = unaryLvl) := by
  refine ⟨?_, ?_, ?_, ?_⟩ <;> intro o <;> cases o <;> rfl

/-- unary operators bind tighter than every binary operator except `in` -/
theorem unary_between (l r : Expr) (ob : BoolOp) (oa : ArithOp) (oc : CmpOp) (hc : oc ≠ .in_) :
    ob.lvl < unaryLvl ∧ oa.lvl < unaryLvl ∧ oc.lvl < unaryLvl ∧ unaryLvl < CmpOp.in_.lvl := by
  exact ⟨by cases ob <;> decide, by cases oa <;> decide,
    by cases oc <;> first | exact absurd rfl hc | decide, by decide⟩

end OQ.C05
