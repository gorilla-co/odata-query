/-
  C13: "AST -> OData text -> AST is the identity".
  Here: the printer's own precedence table orders operators exactly like the specification's
  (and like the parser's), so the printer parenthesises at least wherever the reference printer
  does; the token-level round trip through the parser is Props/C05Roundtrip.lean.
-/
import ODataVerif.Model.Printer
import ODataVerif.Spec.RefPrinter
import ODataVerif.Tie.PrinterPrecedence
namespace OQ.C13
open Spec

def rtPrec (c : Expr) : Nat := precOfClass (nodeOpClass c)

/-- the admissible (specification level, printer precedence) pairs: the printer's table is an
    order-embedding of the specification's levels -/
def LP (l p : Nat) : Prop :=
  (l = 1 ∧ p = 3) ∨ (l = 2 ∧ p = 4) ∨ (l = 3 ∧ p = 5) ∨ (l = 4 ∧ p = 6) ∨ (l = 5 ∧ p = 7) ∨
  (l = 6 ∧ p = 8) ∨ (l = 7 ∧ p = 9) ∨ (l = 8 ∧ p = 100) ∨ (l = 9 ∧ (p = 10 ∨ p = 100))

instance (l p : Nat) : Decidable (LP l p) := by unfold LP; infer_instance

/-- `roundtrip.PRECEDENCE.get(cls, 100)` for every class a node can have (the table, evaluated once) -/
theorem prec_classes :
    (precOfClass BoolOp.and_.className = 4 ∧ precOfClass BoolOp.or_.className = 3) ∧
    (precOfClass CmpOp.eq.className = 5 ∧ precOfClass CmpOp.ne.className = 5 ∧
      precOfClass CmpOp.lt.className = 6 ∧ precOfClass CmpOp.le.className = 6 ∧
      precOfClass CmpOp.gt.className = 6 ∧ precOfClass CmpOp.ge.className = 6 ∧
      precOfClass CmpOp.in_.className = 100) ∧
    (precOfClass ArithOp.add.className = 7 ∧ precOfClass ArithOp.sub.className = 7 ∧
      precOfClass ArithOp.mul.className = 8 ∧ precOfClass ArithOp.div.className = 8 ∧
      precOfClass ArithOp.mod.className = 8) ∧
    (precOfClass UnOp.not_.className = 9 ∧ precOfClass UnOp.neg.className = 9) ∧
    (∀ k ∈ LitKind.all, precOfClass k.className = 100) ∧
    (precOfClass "Identifier" = 100 ∧ precOfClass "Attribute" = 10 ∧ precOfClass "List" = 100 ∧
      precOfClass "NamedParam" = 100 ∧ precOfClass "Call" = 10 ∧
      precOfClass "CollectionLambda" = 100) := by decide +kernel

/-- the printer's table read off the specification's levels: the operator rows 1–7 sit two higher;
    `in` and the atoms fall to the default 100, except paths and calls (10) -/
theorem rtPrec_eq (c : Expr) :
    rtPrec c = if level c ≤ 7 then level c + 2 else if isAttrOrCall c then 10 else 100 := by
  obtain ⟨⟨hand, hor⟩, ⟨heq, hne, hlt, hle, hgt, hge, hin⟩, ⟨hadd, hsub, hmul, hdiv, hmod⟩,
    ⟨hnot, hneg⟩, hlit, hid, hattr, hlist, hnamed, hcall, hcoll⟩ := prec_classes
  cases c with
  | ident _ => exact hid
  | attr _ _ => exact hattr
  | lit k _ => exact hlit k (by cases k <;> decide)
  | list _ => exact hlist
  | binop o _ _ =>
      cases o with
      | add => exact hadd | sub => exact hsub | mul => exact hmul | div => exact hdiv | mod => exact hmod
  | compare o _ _ =>
      cases o with
      | eq => exact heq | ne => exact hne | lt => exact hlt | le => exact hle | gt => exact hgt
      | ge => exact hge | in_ => exact hin
  | boolop o _ _ => cases o with | and_ => exact hand | or_ => exact hor
  | unary o _ => cases o with | not_ => exact hnot | neg => exact hneg
  | named _ _ => exact hnamed
  | call _ _ => exact hcall
  | coll _ _ _ => exact hcoll

theorem level_range (c : Expr) :
    1 ≤ level c ∧ level c ≤ 9 ∧ (isAttrOrCall c = true → level c = 9) := by
  unfold level; split <;> simp [isAttrOrCall]

theorem level_prec (c : Expr) : LP (level c) (rtPrec c) := by
  have key : ∀ n, n ≤ 9 → 1 ≤ n → ∀ b : Bool, (b = true → n = 9) →
      LP n (if n ≤ 7 then n + 2 else if b = true then 10 else 100) := by decide
  obtain ⟨h1, h9, hb⟩ := level_range c
  rw [rtPrec_eq]
  exact key _ h9 h1 _ hb

theorem rtPrec_cases (c : Expr) :
    (level c ≤ 7 ∧ rtPrec c = level c + 2) ∨ (8 ≤ level c ∧ 10 ≤ rtPrec c) := by
  rw [rtPrec_eq]
  by_cases h : level c ≤ 7
  · exact .inl ⟨h, if_pos h⟩
  · rw [if_neg h]
    exact .inr ⟨by omega, by split <;> decide⟩

/-- under a parent node `p` on one of the rows 1–7 the two rules coincide: "looser" and "looser or
    equal" mean the same in both tables, and an atom is never wrapped -/
theorem rtParen_row (p : Expr) (hp : level p ≤ 7) (c : Expr) (strict : Bool) :
    rtParenNeeded c (nodeOpClass p) strict = needsParen .printer (level p) strict c := by
  have hpp : precOfClass (nodeOpClass p) = level p + 2 := (rtPrec_eq p).trans (if_pos hp)
  have hc := rtPrec_cases c
  have h8 : (level p == 8) = false := by rw [beq_eq_false_iff_ne]; omega
  unfold rtPrec at hc
  simp only [rtParenNeeded, needsParen, hpp, h8, Bool.false_and, Bool.or_false]
  rw [Bool.eq_iff_iff]
  cases strict <;> simp <;> omega

theorem rtParen_arith (o : ArithOp) (l r c : Expr) (strict : Bool) :
    rtParenNeeded c o.className strict = Spec.needsParen .printer (Spec.level (.binop o l r)) strict c :=
  rtParen_row (.binop o l r) (by cases o <;> simp [level]) c strict

theorem rtParen_bool (o : BoolOp) (l r c : Expr) (strict : Bool) :
    rtParenNeeded c o.className strict = Spec.needsParen .printer (Spec.level (.boolop o l r)) strict c :=
  rtParen_row (.boolop o l r) (by cases o <;> simp [level]) c strict

theorem rtParen_cmp (o : CmpOp) (ho : o ≠ .in_) (l r c : Expr) (strict : Bool) :
    rtParenNeeded c o.className strict = Spec.needsParen .printer (Spec.level (.compare o l r)) strict c :=
  rtParen_row (.compare o l r) (by cases o <;> first | exact absurd rfl ho | simp [level]) c strict

theorem rtParen_unary (o : UnOp) (c : Expr) :
    rtParenNeeded c o.className false = Spec.needsParen .printer 7 false c :=
  rtParen_row (.unary o c) (Nat.le_refl 7) c false

/-- the printer's `In` has the default precedence 100: an operand of `in` is wrapped unless it has
    that precedence itself -/
theorem rtParen_in_prec (c : Expr) (strict : Bool) :
    rtParenNeeded c "In" strict = decide (rtPrec c < 100) := by
  unfold rtParenNeeded rtPrec
  rw [Bool.eq_iff_iff, show precOfClass "In" = 100 by decide +kernel]
  simp

theorem rtParen_in (c : Expr) : rtParenNeeded c "In" false = Spec.needsParen .printer 8 false c := by
  rw [rtParen_in_prec, rtPrec_eq, Bool.eq_iff_iff]
  simp only [needsParen]
  cases isAttrOrCall c <;> split <;> simp <;> omega

theorem needsParen_printer_of_minimal {L : Nat} {strict : Bool} {c : Expr}
    (h : needsParen .minimal L strict c = true) : needsParen .printer L strict c = true := by
  cases strict <;> simp_all [needsParen]

/-- **the printer never omits parentheses the grammar needs** (left operands: strictly looser
    children; right operands: looser-or-equal children); one theorem per kind of parent -/
theorem paren_where_needed_arith (o : ArithOp) (l r c : Expr) (strict : Bool)
    (h : needsParen .minimal (level (.binop o l r)) strict c = true) :
    rtParenNeeded c o.className strict = true :=
  (rtParen_arith o l r c strict).trans (needsParen_printer_of_minimal h)

theorem paren_where_needed_bool (o : BoolOp) (l r c : Expr) (strict : Bool)
    (h : needsParen .minimal (level (.boolop o l r)) strict c = true) :
    rtParenNeeded c o.className strict = true :=
  (rtParen_bool o l r c strict).trans (needsParen_printer_of_minimal h)

theorem paren_where_needed_cmp (o : CmpOp) (ho : o ≠ .in_) (l r c : Expr) (strict : Bool)
    (h : needsParen .minimal (level (.compare o l r)) strict c = true) :
    rtParenNeeded c o.className strict = true :=
  (rtParen_cmp o ho l r c strict).trans (needsParen_printer_of_minimal h)

theorem paren_where_needed_in (c : Expr) (h : needsParen .minimal 8 false c = true) :
    rtParenNeeded c "In" false = true :=
  (rtParen_in c).trans (needsParen_printer_of_minimal h)

theorem paren_where_needed_unary (o : UnOp) (c : Expr) (h : needsParen .minimal 7 false c = true) :
    rtParenNeeded c o.className false = true :=
  (rtParen_unary o c).trans (needsParen_printer_of_minimal h)

/-! the inputs of D14 (DESIGN.md): quotes, `(1,)`, right operands, geography in a named parameter -/
example : rtRender (.compare .eq (.ident ⟨"name".toList, []⟩) (.lit .str "O'Brien".toList))
    = "name eq 'O''Brien'".toList := by decide +kernel
example : rtRender (.compare .in_ (.ident ⟨['a'], []⟩) (.list (.cons (.lit .int ['1']) .nil)))
    = "a in (1,)".toList := by decide +kernel
example : rtRender (.boolop .and_ (.ident ⟨['a'], []⟩) (.boolop .and_ (.ident ⟨['b'], []⟩) (.ident ⟨['c'], []⟩)))
    = "a and (b and c)".toList := by decide +kernel
example : rtRender (.call ⟨['g'], [['f']]⟩ (.cons (.named ⟨['x'], []⟩ (.lit .geo "POINT(1 2)".toList)) .nil))
    = "f.g(x=geography'POINT(1 2)')".toList := by decide +kernel

end OQ.C13

namespace OQ.C13
/-! ### known finding: an identifier spelled `not` in front of a space is read back as the operator.
    `(not) eq 1` parses to `Compare(Eq, Identifier('not'), Integer('1'))`, which is rendered `not eq 1`;
    the lexer then sees the NOT token (`not\s+`).  Negation witness on the model: -/
def kfNot : Expr := .compare .eq (.ident ⟨"not".toList, []⟩) (.lit .int ['1'])
theorem kf_ident_not_render : rtRender kfNot = "not eq 1".toList := by decide +kernel
theorem kf_ident_not : parseText pyCharEnv (rtRender kfNot) ≠ .ok kfNot := by
  rw [kf_ident_not_render]; decide +kernel
/-- … while the tree *is* in the image of the parser -/
theorem kf_ident_not_in_image : parseText pyCharEnv "(not) eq 1".toList = .ok kfNot := by decide +kernel
end OQ.C13
