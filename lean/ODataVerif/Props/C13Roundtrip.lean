/-
  C13, "AST -> OData text -> AST is the identity", token level.
  The printer model (`rtRender`, Model/Printer.lean) writes exactly the spelling of the reference token
  list in the printer's own whitespace style and parenthesisation mode (`Spec.Mode.printer`), and those
  tokens parse back to the tree (instance of C05.parse_printToks).  Helper lemmas: Lemmas/Render.lean.
-/
import ODataVerif.Lemmas.Render
import ODataVerif.Props.C05Roundtrip
namespace OQ.C13
open Spec

/-- the printer's whitespace: "- x", "a, b", "v: body", nothing inside parentheses -/
def rtStyle : Spec.Style := { afterMinus := true, afterComma := true, afterColon := true }

/-- the printer's text is the spelling of the reference token list in its own style and mode —
    for every tree in which the right operand of each `in` is something the printer leaves
    un-parenthesised (`RT.rtOk`, decidable; weaker than `printable`) -/
theorem rtRender_eq_render_of_rtOk (e : Expr) (h : RT.rtOk e = true) :
    rtRender e = Spec.render (Spec.printToks rtStyle .printer e) :=
  RT.rtRender_eq_of_rtOk e h

theorem rtRender_eq_render (e : Expr) (h : Spec.printable e = true) :
    rtRender e = Spec.render (Spec.printToks rtStyle .printer e) :=
  RT.rtRender_eq_of_rtOk e (RT.rtOk_of_printable e (Or.inl h))

/-- token-level C13: the tokens the printer's text spells parse back to the tree -/
theorem roundtrip_tokens (e : Expr) (h : Spec.printable e = true) :
    parseToks none (Spec.printToks rtStyle .printer e) = .ok e :=
  C05.parse_printToks rtStyle .printer e h

theorem roundtrip_text_tokens (e : Expr) (h : Spec.printable e = true) :
    ∃ ts, rtRender e = Spec.render ts ∧ parseToks none ts = .ok e :=
  ⟨_, rtRender_eq_render e h, roundtrip_tokens e h⟩

/-! non-vacuity -/

example : Spec.printable C05.sampleTree = true := by decide +kernel
example : RT.rtOk C05.sampleTree = true := by decide +kernel
/-- singleton list: `(1,)`, no blank before the closing parenthesis -/
example : Spec.render (Spec.printToks rtStyle .printer
      (.compare .in_ (.ident ⟨['a'], []⟩) (.list (.cons (.lit .int ['1']) .nil))))
    = "a in (1,)".toList := by
  rw [← rtRender_eq_render _ (by decide +kernel)]; decide +kernel
/-- a path on the left of `in` is parenthesised by the printer (and by `Mode.printer`) -/
example : rtRender (.compare .in_ (.attr (.ident ⟨['a'], []⟩) ['b'])
      (.list (.cons (.lit .int ['1']) (.cons (.lit .int ['2']) .nil))))
    = "(a/b) in (1, 2)".toList := by decide +kernel
/-- `rtOk` is needed: an `in` whose right operand is not a list is rendered with parentheses by the
    printer model, without by the reference printer (such trees are not printable / never parsed) -/
example : rtRender (.compare .in_ (.ident ⟨['a'], []⟩) (.binop .add (.ident ⟨['b'], []⟩) (.ident ⟨['c'], []⟩)))
    = "a in (b add c)".toList := by decide +kernel

end OQ.C13
