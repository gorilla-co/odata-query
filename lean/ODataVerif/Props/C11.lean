/-
  C11: "Function calls are accepted iff name and argument count match the OData table".
-/
import ODataVerif.Model.Parser
import ODataVerif.Spec.Builtins
import ODataVerif.Tie.OdataFunctions
namespace OQ.C11

theorem table_eq_spec : odataFunctions = Spec.builtins := rfl

theorem lookup_eq_spec (n : Str) : lookupFn odataFunctions n = Spec.arity n := by
  rw [table_eq_spec]; rfl

/-- a name is validated iff it is un-namespaced or in the `geo` namespace -/
def Validated (f : Ident) : Prop := f.ns = [] ∨ f.ns = ["geo".toList]

instance (f : Ident) : Decidable (Validated f) := by unfold Validated; infer_instance

/-- `_function_call` on a validated name, read off the specification's table -/
theorem functionCall_validated (f : Ident) (args : Exprs) (hv : Validated f) :
    functionCall f args =
      match Spec.arity f.fullName with
      | none => .lib (.unknownFunction f.fullName)
      | some (lo, hi) =>
          if args.length < lo ∨ args.length > hi then
            .lib (.argumentCount f.fullName lo hi args.length)
          else .ok (.call f args) := by
  unfold functionCall functionCallWith
  rw [if_pos (show f.ns = [] ∨ f.ns = ["geo".toList] from hv), lookup_eq_spec]
  rfl

/-- unknown name ⇒ UnknownFunctionException carrying the full name -/
theorem unknown_payload (f : Ident) (args : Exprs) (hv : Validated f)
    (hn : Spec.arity f.fullName = none) :
    functionCall f args = .lib (.unknownFunction f.fullName) := by
  rw [functionCall_validated f args hv, hn]

/-- known name, count outside the range ⇒ ArgumentCountException(name, min, max, given) -/
theorem argcount_payload (f : Ident) (args : Exprs) (lo hi : Nat) (hv : Validated f)
    (hn : Spec.arity f.fullName = some (lo, hi)) (hc : args.length < lo ∨ args.length > hi) :
    functionCall f args = .lib (.argumentCount f.fullName lo hi args.length) := by
  rw [functionCall_validated f args hv, hn]
  exact if_pos hc

theorem accept (f : Ident) (args : Exprs) (lo hi : Nat) (hv : Validated f)
    (hn : Spec.arity f.fullName = some (lo, hi)) (hlo : lo ≤ args.length) (hhi : args.length ≤ hi) :
    functionCall f args = .ok (.call f args) := by
  rw [functionCall_validated f args hv, hn]
  exact if_neg (by omega)

/-- C11: for validated names, acceptance is *exactly* table membership with the count in range -/
theorem accept_iff (f : Ident) (args : Exprs) (hv : Validated f) :
    (∃ e, functionCall f args = .ok e) ↔
      ∃ lo hi, Spec.arity f.fullName = some (lo, hi) ∧ lo ≤ args.length ∧ args.length ≤ hi := by
  constructor
  · rintro ⟨e, he⟩
    cases hn : Spec.arity f.fullName with
    | none => rw [unknown_payload f args hv hn] at he; cases he
    | some p =>
        obtain ⟨lo, hi⟩ := p
        by_cases hc : args.length < lo ∨ args.length > hi
        · rw [argcount_payload f args lo hi hv hn hc] at he; cases he
        · exact ⟨lo, hi, rfl, by omega, by omega⟩
  · rintro ⟨lo, hi, hn, hlo, hhi⟩
    exact ⟨_, accept f args lo hi hv hn hlo hhi⟩

theorem accepted_is_call (f : Ident) (args : Exprs) (e : Expr)
    (h : functionCall f args = .ok e) : e = .call f args := by
  unfold functionCall functionCallWith at h
  split at h
  · split at h
    · cases h
    · split at h
      · cases h
      · cases h; rfl
  · cases h; rfl

/-- calls in any other namespace are accepted with any number of arguments -/
theorem other_namespace_any_arity (f : Ident) (args : Exprs) (hv : ¬ Validated f) :
    functionCall f args = .ok (.call f args) := by
  unfold functionCall functionCallWith
  rw [if_neg (show ¬ (f.ns = [] ∨ f.ns = ["geo".toList]) from hv)]

theorem outcome_cases (f : Ident) (args : Exprs) :
    functionCall f args = .ok (.call f args)
    ∨ functionCall f args = .lib (.unknownFunction f.fullName)
    ∨ ∃ lo hi, functionCall f args = .lib (.argumentCount f.fullName lo hi args.length) := by
  unfold functionCall functionCallWith
  split
  · split
    · exact Or.inr (Or.inl rfl)
    · split
      · exact Or.inr (Or.inr ⟨_, _, rfl⟩)
      · exact Or.inl rfl
  · exact Or.inl rfl

/-! non-vacuity -/
example : Validated ⟨"substring".toList, []⟩ ∧ Spec.arity (Ident.fullName ⟨"substring".toList, []⟩) = some (2, 3) := by decide +kernel
example : Validated ⟨"length".toList, ["geo".toList]⟩ ∧ Spec.arity (Ident.fullName ⟨"length".toList, ["geo".toList]⟩) = some (1, 1) := by decide +kernel
example : Validated ⟨"Substring".toList, []⟩ ∧ Spec.arity (Ident.fullName ⟨"Substring".toList, []⟩) = none := by decide +kernel
example : ¬ Validated ⟨"length".toList, ["Geo".toList]⟩ := by decide +kernel
example : functionCall ⟨"substring".toList, []⟩ (.cons (.lit .int ['1']) .nil)
    = .lib (.argumentCount "substring".toList 2 3 1) := by decide +kernel

end OQ.C11
