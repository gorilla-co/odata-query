/-
  C14: "Alias rewriting is exact substitution on field references only".
  (That the input tree object is not modified is a runtime fact, checked by harness/checks/c14.py.)
-/
import ODataVerif.Model.Rewrite
import ODataVerif.Model.Ast
import ODataVerif.Spec.Subst
import ODataVerif.Lemmas.AliasEqns
import ODataVerif.Lemmas.ExprInduct
namespace OQ.C14
open Spec

/-- the replacement table seen under the binders `b`: entries rooted at a bound variable are shadowed -/
def filt (m : List (Tree × Tree)) (b : List Tree) : List (Tree × Tree) :=
  m.filter (fun kv => !(b.contains (rootOf kv.1)))

theorem filt_nil (m : List (Tree × Tree)) : filt m [] = m := by
  simp [filt]

theorem filt_cons (m : List (Tree × Tree)) (b : List Tree) (i : Tree) :
    (filt m b).filter (fun kv => rootOf kv.1 != i) = filt m (i :: b) := by
  unfold filt
  rw [List.filter_filter]
  congr 1
  funext kv
  simp only [List.contains_cons]
  cases h1 : (rootOf kv.1 == i) <;> cases h2 : b.contains (rootOf kv.1) <;> simp [bne, h1]

theorem lookup_filt (m : List (Tree × Tree)) (b : List Tree) (n : Tree) :
    lookupRepl (filt m b) n = if rootOf n ∈ b then none else lookupRepl m n := by
  induction m with
  | nil => simp [filt, lookupRepl]
  | cons kv rest ih =>
      obtain ⟨k, v⟩ := kv
      unfold filt at ih ⊢
      by_cases hk : rootOf k ∈ b
      · have hd : List.filter (fun kv => !b.contains (rootOf kv.1)) ((k, v) :: rest)
                  = List.filter (fun kv => !b.contains (rootOf kv.1)) rest := by
          simp [hk]
        rw [hd, ih]
        by_cases hn : rootOf n ∈ b
        · simp [hn]
        · have hne : ¬ k = n := by
            intro e; subst e; exact hn hk
          simp only [hn, if_false, lookupRepl, hne]
          cases lookupRepl rest n <;> rfl
      · have hd : List.filter (fun kv => !b.contains (rootOf kv.1)) ((k, v) :: rest)
                  = (k, v) :: List.filter (fun kv => !b.contains (rootOf kv.1)) rest := by
          simp [hk]
        rw [hd]
        simp only [lookupRepl]
        rw [ih]
        by_cases hn : rootOf n ∈ b
        · have hne : ¬ k = n := by
            intro e; subst e; exact hk hn
          simp [hn, hne]
        · simp [hn]

theorem rootOf_ident (fs : TreeList) : rootOf (.node "Identifier" fs) = .node "Identifier" fs := by
  unfold rootOf
  rfl

theorem rootOf_attr (o : Tree) (a : Str) :
    rootOf (.node "Attribute" (.cons o (.cons (.str a) .nil))) = rootOf o := by
  simp [rootOf]

/-! `visit_Identifier` and `visit_Attribute` are the two methods that consult the table -/

theorem alias_ident (m : List (Tree × Tree)) (fs : TreeList) :
    alias m (.node "Identifier" fs) =
      (lookupRepl m (.node "Identifier" fs)).getD (.node "Identifier" fs) := by
  conv => lhs; unfold alias
  cases lookupRepl m (.node "Identifier" fs) <;> rfl

theorem alias_attr (m : List (Tree × Tree)) (o : Tree) (a : Str) :
    alias m (.node "Attribute" (.cons o (.cons (.str a) .nil))) =
      (lookupRepl m (.node "Attribute" (.cons o (.cons (.str a) .nil)))).getD (mkAttr (alias m o) a) := by
  conv => lhs; unfold alias
  cases lookupRepl m (.node "Attribute" (.cons o (.cons (.str a) .nil))) <;> rfl

theorem scopeOk_fields {k : String} {fs : TreeList} (h : scopeOk (.node k fs) = true) :
    scopeOkList fs = true := by
  unfold scopeOk at h
  exact (Bool.and_eq_true _ _ ▸ h).2

theorem isIdentNode_kind {t : Tree} (h : isIdentNode t = true) : ∃ fs, t = .node "Identifier" fs := by
  match t, h with
  | .node k fs, h => exact ⟨fs, by rw [of_decide_eq_true h]⟩

theorem path_cases {t : Tree} (h : (isIdentNode t || isAttr t) = true) :
    (∃ fs, t = .node "Identifier" fs) ∨ ∃ o a, t = .node "Attribute" (.cons o (.cons (.str a) .nil)) := by
  rcases Bool.or_eq_true _ _ ▸ h with h | h
  · exact .inl (isIdentNode_kind h)
  · unfold isAttr at h
    split at h
    · exact .inr ⟨_, _, rfl⟩
    · cases h

theorem subst_bound (m : List (Tree × Tree)) {b : List Tree} {t : Tree}
    (hp : (isIdentNode t || isAttr t) = true) (hr : rootOf t ∈ b) : subst m b t = t := by
  rcases path_cases hp with ⟨fs, rfl⟩ | ⟨o, a, rfl⟩
  · rw [rootOf_ident] at hr
    rw [subst_ident, if_pos hr]
  · rw [rootOf_attr] at hr
    rw [subst_attr, if_pos hr]

/-- the refinement: rewriting with the shadowed table is substitution under the binders `b` -/
theorem alias_subst_all (m : List (Tree × Tree)) :
    (∀ t b, (∀ x ∈ b, isIdentNode x = true) → scopeOk t = true → alias (filt m b) t = subst m b t) ∧
    (∀ fs b, (∀ x ∈ b, isIdentNode x = true) → scopeOkList fs = true →
      aliasFields (filt m b) fs = substFields m b fs) ∧
    (∀ xs b, (∀ x ∈ b, isIdentNode x = true) → scopeOkList xs = true →
      aliasItems (filt m b) xs = substItems m b xs) := by
  apply rewrite_induct
  case ident =>
    intro fs b _ _
    rw [alias_ident, subst_ident, lookup_filt, rootOf_ident]
    split <;> rfl
  case attr =>
    -- under a binder the rewriter still descends into the owner, where the specification stops at once
    intro o a ih b hb hs
    rw [scopeOk_attr, Bool.and_eq_true] at hs
    rw [alias_attr, subst_attr, lookup_filt, rootOf_attr, ih b hb hs.2]
    split
    · rw [subst_bound m hs.1 ‹_›]; rfl
    · rfl
  case call =>
    intro f args ih b hb hs
    have ha := (scopeOkList_cons.mp (scopeOkList_cons.mp (scopeOk_fields hs)).2).1
    rw [alias_call, subst_call, ih b hb ha]
  case named =>
    intro n p ih b hb hs
    have hp := (scopeOkList_cons.mp (scopeOkList_cons.mp (scopeOk_fields hs)).2).1
    rw [alias_named, subst_named, ih b hb hp]
  case lambda =>
    intro i body ih b hb hs
    rw [scopeOk_lambda] at hs
    simp only [Bool.and_eq_true] at hs
    have hb' : ∀ x ∈ i :: b, isIdentNode x = true := fun x hx => by
      rcases List.mem_cons.mp hx with rfl | hx
      · exact hs.1
      · exact hb x hx
    rw [alias_lambda, subst_lambda, filt_cons, ih (i :: b) hb' hs.2.2]
  case generic =>
    intro k fs hg ih b hb hs
    rw [alias_generic _ hg, subst_generic _ _ hg, ih b hb (scopeOk_fields hs)]
  case flist =>
    intro items rest ihi ihr b hb hs
    have ⟨hx, hr⟩ := scopeOkList_cons.mp hs
    rw [aliasFields_cons, substFields_cons, aliasElem, substElem, ihi b hb hx, ihr b hb hr]
  case fcons =>
    intro x rest hx ihx ihr b hb hs
    have ⟨hsx, hr⟩ := scopeOkList_cons.mp hs
    rw [aliasFields_cons, substFields_cons, aliasElem_eq _ hx, substElem_eq _ _ hx, ihx b hb hsx, ihr b hb hr]
  case icons =>
    intro x rest ihx ihr b hb hs
    have ⟨hx, hr⟩ := scopeOkList_cons.mp hs
    rw [aliasItems_cons, substItems_cons, ihx b hb hx, ihr b hb hr]
  all_goals
    intros
    rfl

theorem alias_subst (m : List (Tree × Tree)) :
    (t : Tree) → (b : List Tree) → (∀ x ∈ b, isIdentNode x = true) → scopeOk t = true →
      alias (filt m b) t = subst m b t := (alias_subst_all m).1
theorem aliasFields_subst (m : List (Tree × Tree)) :
    (fs : TreeList) → (b : List Tree) → (∀ x ∈ b, isIdentNode x = true) → scopeOkList fs = true →
      aliasFields (filt m b) fs = substFields m b fs := (alias_subst_all m).2.1
theorem aliasItems_subst (m : List (Tree × Tree)) :
    (xs : TreeList) → (b : List Tree) → (∀ x ∈ b, isIdentNode x = true) → scopeOkList xs = true →
      aliasItems (filt m b) xs = substItems m b xs := (alias_subst_all m).2.2

/-- **C14**: for every replacement table and every tree of the parser's shape, the rewritten tree is
    the substitution on field references -/
theorem rewrite_eq_subst (m : List (Tree × Tree)) (t : Tree) (hs : scopeOk t = true) :
    alias m t = subst m [] t := by
  have := alias_subst m t [] (by simp) hs
  rwa [filt_nil] at this

mutual
def occurs (k : Tree) : Tree → Bool
  | .node kind fs => k == .node kind fs || occursList k fs
  | .list items => occursList k items
  | _ => false
def occursList (k : Tree) : TreeList → Bool
  | .nil => false
  | .cons h t => occurs k h || occursList k t
end

theorem absent_node {m : List (Tree × Tree)} {k : String} {fs : TreeList}
    (h : ∀ kv ∈ m, occurs kv.1 (.node k fs) = false) :
    (∀ kv ∈ m, ¬ kv.1 = .node k fs) ∧ ∀ kv ∈ m, occursList kv.1 fs = false := by
  simp only [occurs, Bool.or_eq_false_iff, beq_eq_false_iff_ne] at h
  exact ⟨fun kv hkv => (h kv hkv).1, fun kv hkv => (h kv hkv).2⟩

theorem absent_cons {m : List (Tree × Tree)} {x : Tree} {r : TreeList}
    (h : ∀ kv ∈ m, occursList kv.1 (.cons x r) = false) :
    (∀ kv ∈ m, occurs kv.1 x = false) ∧ ∀ kv ∈ m, occursList kv.1 r = false := by
  simp only [occursList, Bool.or_eq_false_iff] at h
  exact ⟨fun kv hkv => (h kv hkv).1, fun kv hkv => (h kv hkv).2⟩

theorem absent_list {m : List (Tree × Tree)} {items : TreeList}
    (h : ∀ kv ∈ m, occurs kv.1 (.list items) = false) : ∀ kv ∈ m, occursList kv.1 items = false := by
  simpa only [occurs] using h

theorem lookup_none_of_absent (m : List (Tree × Tree)) (n : Tree)
    (h : ∀ kv ∈ m, ¬ kv.1 = n) : lookupRepl m n = none := by
  induction m with
  | nil => rfl
  | cons kv rest ih =>
      rw [lookupRepl, ih (fun kv hkv => h kv (List.mem_cons_of_mem _ hkv)), if_neg (h kv (List.mem_cons_self ..))]

theorem alias_absent_all :
    (∀ t m, (∀ kv ∈ m, occurs kv.1 t = false) → alias m t = t) ∧
    (∀ fs m, (∀ kv ∈ m, occursList kv.1 fs = false) → aliasFields m fs = fs) ∧
    (∀ xs m, (∀ kv ∈ m, occursList kv.1 xs = false) → aliasItems m xs = xs) := by
  apply rewrite_induct
  case ident => intro fs m h; rw [alias_ident, lookup_none_of_absent m _ (absent_node h).1]; rfl
  case attr =>
    intro o a ih m h
    have ⟨hself, hfs⟩ := absent_node h
    rw [alias_attr, lookup_none_of_absent m _ hself, ih m (absent_cons hfs).1]; rfl
  case call =>
    intro f args ih m h
    rw [alias_call, ih m (absent_list (absent_cons (absent_cons (absent_node h).2).2).1)]
  case named => intro n p ih m h; rw [alias_named, ih m (absent_cons (absent_cons (absent_node h).2).2).1]
  case lambda =>
    intro i body ih m h
    rw [alias_lambda, ih _ fun kv hkv => (absent_cons (absent_cons (absent_node h).2).2).1 kv (List.mem_filter.mp hkv).1]
  case generic => intro k fs hg ih m h; rw [alias_generic m hg, ih m (absent_node h).2]
  case flist =>
    intro items rest ihi ihr m h
    rw [aliasFields_cons, ihr m (absent_cons h).2, aliasElem, ihi m (absent_list (absent_cons h).1)]
  case fcons =>
    intro x rest hx ihx ihr m h
    rw [aliasFields_cons, aliasElem_eq m hx, ihx m (absent_cons h).1, ihr m (absent_cons h).2]
  case icons => intro x rest ihx ihr m h; rw [aliasItems_cons, ihx m (absent_cons h).1, ihr m (absent_cons h).2]
  all_goals
    intros
    rfl

theorem alias_absent :
    (t : Tree) → (m : List (Tree × Tree)) → (∀ kv ∈ m, occurs kv.1 t = false) → alias m t = t :=
  alias_absent_all.1
theorem aliasFields_absent :
    (fs : TreeList) → (m : List (Tree × Tree)) → (∀ kv ∈ m, occursList kv.1 fs = false) →
      aliasFields m fs = fs := alias_absent_all.2.1
theorem aliasItems_absent :
    (xs : TreeList) → (m : List (Tree × Tree)) → (∀ kv ∈ m, occursList kv.1 xs = false) →
      aliasItems m xs = xs := alias_absent_all.2.2

theorem nonmatching_id (m : List (Tree × Tree)) (t : Tree) (h : ∀ kv ∈ m, occurs kv.1 t = false) :
    alias m t = t := alias_absent t m h

theorem empty_id (t : Tree) : alias [] t = t := alias_absent t [] (by simp)

/-! every tree the typed AST embeds to (paths hanging off identifiers) has the shape `rewrite_eq_subst` assumes -/
theorem scopeOk_leaf (k : String) : scopeOk (Tree.leaf k) = true := by
  unfold Tree.leaf scopeOk
  split
  · rfl
  · split <;> rfl

theorem scopeOk_of {k : String} {fs : TreeList} (h2 : k ≠ "Attribute") (h5 : k ≠ "Lambda")
    (h : scopeOkList fs = true) : scopeOk (.node k fs) = true := by
  rw [scopeOk_node h2 h5, h]

theorem scopeOkList_one {x : Tree} (hx : scopeOk x = true) : scopeOkList (.cons x .nil) = true :=
  scopeOkList_cons.mpr ⟨hx, rfl⟩

theorem scopeOk_ident (i : Ident) : scopeOk i.toTree = true :=
  scopeOk_of (by simp) (by simp) rfl

theorem scopeOk_toTree_all : (∀ e : Expr, e.pathsOk = true → scopeOk e.toTree = true) ∧
    (∀ xs : Exprs, xs.pathsOk = true → scopeOkList xs.toTrees = true) ∧
    (∀ l : OptLam, l.pathsOk = true → scopeOk l.toTree = true) := by
  apply Expr.induct
  case ident => exact fun i _ => scopeOk_ident i
  case attr =>
    intro o n ih h
    have h := (Bool.and_eq_true _ _).mp h
    rw [Expr.toTree, scopeOk_attr, ih h.2, Bool.and_true]
    cases o with
    | ident _ => rfl
    | attr _ _ => rfl
    | _ => exact Bool.noConfusion h.1
  case lit => intro k v _; cases k <;> rfl
  case list => exact fun xs ih h => scopeOk_of (by simp) (by simp) (scopeOkList_one (ih h))
  case unary =>
    exact fun o e ih h =>
      scopeOk_of (by simp) (by simp) (scopeOkList_cons.mpr ⟨scopeOk_leaf _, scopeOkList_one (ih h)⟩)
  case named =>
    exact fun n e ih h =>
      scopeOk_of (by simp) (by simp) (scopeOkList_cons.mpr ⟨scopeOk_ident n, scopeOkList_one (ih h)⟩)
  case call =>
    exact fun f a ih h =>
      scopeOk_of (by simp) (by simp) (scopeOkList_cons.mpr ⟨scopeOk_ident f, scopeOkList_one (ih h)⟩)
  case coll =>
    intro ow o l iho ihl h
    have h := (Bool.and_eq_true _ _).mp h
    exact scopeOk_of (by simp) (by simp) (scopeOkList_cons.mpr ⟨iho h.1,
      scopeOkList_cons.mpr ⟨scopeOk_leaf _, scopeOkList_one (ihl h.2)⟩⟩)
  case nil => exact fun _ => rfl
  case cons =>
    intro x t ihx iht h
    have h := (Bool.and_eq_true _ _).mp h
    exact scopeOkList_cons.mpr ⟨ihx h.1, iht h.2⟩
  case none => exact fun _ => rfl
  case some =>
    intro v b ih h
    rw [OptLam.toTree, scopeOk_lambda, ih h]
    rfl
  all_goals  -- `binop`, `compare`, `boolop`: an operator leaf and two operands
    intro o l r ihl ihr h
    have h := (Bool.and_eq_true _ _).mp h
    exact scopeOk_of (by simp) (by simp) (scopeOkList_cons.mpr ⟨scopeOk_leaf _,
      scopeOkList_cons.mpr ⟨ihl h.1, scopeOkList_one (ihr h.2)⟩⟩)

theorem scopeOk_toTree : (e : Expr) → e.pathsOk = true → scopeOk e.toTree = true := scopeOk_toTree_all.1
theorem scopeOkList_toTrees : (xs : Exprs) → xs.pathsOk = true → scopeOkList xs.toTrees = true :=
  scopeOk_toTree_all.2.1
theorem scopeOk_optLam : (l : OptLam) → l.pathsOk = true → scopeOk l.toTree = true := scopeOk_toTree_all.2.2

/-- **C14 on the typed AST**: for every alias table and every expression whose paths hang off
    identifiers -/
theorem rewrite_eq_subst_expr (m : List (Tree × Tree)) (e : Expr) (h : e.pathsOk = true) :
    alias m e.toTree = subst m [] e.toTree :=
  rewrite_eq_subst m e.toTree (scopeOk_toTree e h)

/-! non-vacuity, on the inputs of defect D16: a function, parameter or lambda-variable name that is also an alias key is left alone -/
def idt (s : String) : Expr := .ident ⟨s.toList, []⟩
def m₁ : List (Tree × Tree) :=
  [((idt "date").toTree, (idt "created_at").toTree), ((idt "x").toTree, (idt "y").toTree),
   ((idt "t").toTree, (idt "tags").toTree),
   ((Expr.attr (idt "t") "label".toList).toTree, (idt "lbl").toTree)]
def e₁ : Expr :=
  .boolop .and_
    (.compare .eq (.call ⟨"date".toList, []⟩ (.cons (idt "date") .nil)) (.lit .date "2020-01-01".toList))
    (.boolop .and_
      (.call ⟨"g".toList, ["f".toList]⟩ (.cons (.named ⟨"x".toList, []⟩ (idt "x")) .nil))
      (.boolop .or_
        (.coll (idt "c") .any (.some ⟨"t".toList, []⟩ (.compare .eq (.attr (idt "t") "label".toList) (idt "t"))))
        (.compare .eq (.attr (idt "t") "label".toList) (idt "t"))))
example : e₁.pathsOk = true := by decide
example : alias m₁ e₁.toTree =
    (Expr.boolop .and_
      (.compare .eq (.call ⟨"date".toList, []⟩ (.cons (idt "created_at") .nil)) (.lit .date "2020-01-01".toList))
      (.boolop .and_
        (.call ⟨"g".toList, ["f".toList]⟩ (.cons (.named ⟨"x".toList, []⟩ (idt "y")) .nil))
        (.boolop .or_
          (.coll (idt "c") .any (.some ⟨"t".toList, []⟩ (.compare .eq (.attr (idt "t") "label".toList) (idt "t"))))
          (.compare .eq (idt "lbl") (idt "tags"))))).toTree := by decide +kernel

end OQ.C14
