/-
  C01 from the filter to the tokens of the emitted text, and the witnesses of its known findings; the parsed text and the rows it
  selects are `where_selects` in Props/C01Full.lean.

  * `where_text_tokens`   for every filter b of the typed grammar the SQLite dialect's model emits a text, and that
                          text is read back by the independent SQL tokeniser as exactly the emitted tokens
                          (`translates` + `typed_litOk` + C07 `lex_pieces`)
  * `kf_like_case`, `kf_like_computed`   Lean witnesses of the two LIKE findings `semOkB` excludes
-/
import ODataVerif.Props.C01
import ODataVerif.Props.C07Lex
namespace OQ.C01
open Spec

theorem where_text_tokens (isD : Char → Bool) (b : BoolE) (hw : wfB b = true) :
    ∃ ps, sqlVisit isD .sqlite none b.toExpr = .ok ps ∧ sqlLex (renderPieces ps) = some (pieceToks ps) := by
  obtain ⟨ps, hps⟩ := translates isD none b
  exact ⟨ps, hps, C07.lex_pieces isD .sqlite none b.toExpr ps (typed_litOk isD .sqlite b hw) rfl hps⟩

/-- KNOWN FINDING (witness): SQLite's LIKE folds ASCII case — the pattern the dialect emits for
    `contains(s1, 'abc')` matches the cell 'ABC', OData's ordinal `contains` does not -/
theorem kf_like_case :
    sqliteLike ("%".toList ++ likeLit "abc".toList ++ "%".toList) "ABC".toList none = true
    ∧ likeSem .contains "ABC".toList "abc".toList = false := by
  constructor
  · simp [sqliteLike, likeLit, patItems, likeItems, foldA]
  · decide

/-- KNOWN FINDING (witness): the VALUE of a computed substring is read as a LIKE pattern — for
    `contains(s1, s2)` with s2 = '100%' the emitted `'%' || s2 || '%'` matches the cell '100 apples' -/
theorem kf_like_computed :
    sqliteLike ("%".toList ++ "100%".toList ++ "%".toList) "100 apples".toList none = true
    ∧ likeSem .contains "100 apples".toList "100%".toList = false := by
  constructor
  · simp [sqliteLike, patItems, likeItems, foldA]
  · decide

/-- non-vacuity of `sound`: a filter with right-nested arithmetic, a null test and a string comparison, on a row
    inside `semOkB` -/
example :
    let b : BoolE := .and (.cmpI .gt (.arith .sub (.col "i1".toList) (.arith .sub (.col "i2".toList) (.lit false "1".toList))) (.lit true "2".toList))
                          (.or (.cmpS .eq (.col "s1".toList) (.lit "100%".toList)) (.isNull .str "s2".toList false))
    let ρ : Row := [("i1".toList, .int 5), ("i2".toList, .int 3), ("s1".toList, .str "100%".toList), ("s2".toList, .null)]
    wfB b = true ∧ semOkB ρ b = true ∧ selects ρ b = true := by
  decide

end OQ.C01
