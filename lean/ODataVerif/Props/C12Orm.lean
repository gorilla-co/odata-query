/-
  C12 on the ORM backends, for the property's own quantifier: for EVERY well-typed filter (the strict typed grammar
  of Spec/TypesStrict.lean: every built-in with every overload, every literal kind, `null` wherever a primitive is expected, any field
  typing Γ; `printable` = the shape of every tree the parser returns, C10.parse_image) the models of the Django visitor and of the SQLAlchemy visitors (ORM and Core) return a translation or one of the library's
  exceptions (or the documented NotImplementedError) — never AttributeError / TypeError / IndexError / KeyError / ValueError.
  The outcome `.foreign "unmodelled"` marks the few constructs whose host-ORM behaviour the model does not describe (geography literals,
  the geo functions); those are covered by execution only and are not counted as a leak here.
-/
import ODataVerif.Model.Orm
import ODataVerif.Model.PyVal
import ODataVerif.Spec.TypesStrict
import ODataVerif.Spec.RefPrinter
import ODataVerif.Lemmas.OrmTotal
namespace OQ.C12Orm
open OQ.Spec

/-- an internal error of the modelled part -/
def leaks {α} : Outcome α → Bool
  | .foreign c => c != "unmodelled"
  | _ => false

mutual
/-- every duration / GUID / integer literal of the tree has a Python value (its text has the lexer's shape: C06) -/
def pyLitOk : Expr → Bool
  | .ident _ => true
  | .attr o _ => pyLitOk o
  | .lit k v => (match pyVal k v with | .foreign _ => false | _ => true)
  | .list xs => pyLitOks xs
  | .binop _ l r | .compare _ l r | .boolop _ l r => pyLitOk l && pyLitOk r
  | .unary _ e => pyLitOk e
  | .named _ e => pyLitOk e
  | .call _ args => pyLitOks args
  | .coll o _ l => pyLitOk o && pyLitOkLam l
def pyLitOks : Exprs → Bool
  | .nil => true
  | .cons h t => pyLitOk h && pyLitOks t
def pyLitOkLam : OptLam → Bool
  | .none => true
  | .some _ b => pyLitOk b
end

open OQ.OrmTotal

theorem leaks_iff_nl {α} (o : Outcome α) : leaks o = false ↔ nl o = true := by
  cases o <;> simp [leaks, nl]

theorem not_list_of_sType {Γ : Expr → Option OTy} {l : Expr} {a : OTy} (ha : sType Γ l = some a) (hc : a ≠ .coll) :
    ∀ xs, l ≠ .list xs := by
  intro xs he
  subst he
  exact hc (sType_list ha).1

theorem nl_cmp_tail {α} (c d : Prop) [Decidable c] [Decidable d] (x : LibExc) (y : α) :
    nl (if c then Outcome.foreign "unmodelled" else if d then Outcome.lib x else pure y) = true :=
  nl_ite nl_unmodelled (nl_ite rfl rfl)

/-- What the inductions below need of a predicate on the tree's literals: it passes to the parts the visitors visit, and a
    literal satisfying it becomes a parameter without a leak.  `pyLitOk` is one such predicate; the weaker one that asks a
    value only of the kinds whose missing value `litParam` lets escape is another (Lemmas/OrmTotal3.lean). -/
structure LitsOk (P : Expr → Bool) (Ps : Exprs → Bool) : Prop where
  lit : ∀ {k v}, P (.lit k v) = true → nl (litParam k v) = true
  list : ∀ {xs}, P (.list xs) = true → Ps xs = true
  binop : ∀ {o l r}, P (.binop o l r) = true → P l = true ∧ P r = true
  compare : ∀ {o l r}, P (.compare o l r) = true → P l = true ∧ P r = true
  boolop : ∀ {o l r}, P (.boolop o l r) = true → P l = true ∧ P r = true
  unary : ∀ {o e}, P (.unary o e) = true → P e = true
  call : ∀ {f args}, P (.call f args) = true → Ps args = true
  cons : ∀ {h t}, Ps (.cons h t) = true → P h = true ∧ Ps t = true

section
variable {P : Expr → Bool} {Ps : Exprs → Bool} (I : LitsOk P Ps)
include I

mutual
theorem djVisit_nl (Γ : Expr → Option OTy) : (e : Expr) → (τ : OTy) → printable e = true → sType Γ e = some τ →
    P e = true → nl (djVisit e) = true
  | .ident _, _, _, _, _ => by rw [djVisit]; rfl
  | .attr o n, _, hp, _, _ => by
      rw [printable] at hp
      obtain ⟨p, h⟩ := djVisit_path o n hp
      rw [h]; rfl
  | .lit k v, _, _, _, hl => by
      cases k
      case null => rw [djVisit]; rfl
      all_goals
        rw [djVisit]
        · exact nl_bind _ _ (I.lit hl) (fun _ => rfl)
        all_goals (intros; contradiction)
  | .list xs, _, hp, ht, hl => by
      rw [djVisit]
      rw [printable, Bool.and_eq_true] at hp
      obtain ⟨_, tys, ht'⟩ := sType_list ht
      exact nl_bind _ _ (djVisitList_nl _ (djArgs_ok Γ xs tys hp.2 ht' (I.list hl))) (fun _ => rfl)
  | .binop op l r, _, hp, ht, hl => by
      rw [djVisit]
      rw [printable, Bool.and_eq_true] at hp
      obtain ⟨⟨a, ha⟩, ⟨b, hb⟩⟩ := sType_binop ht
      exact nl_bind _ _ (djVisit_nl Γ l a hp.1 ha (I.binop hl).1) fun _ =>
        nl_bind _ _ (djVisit_nl Γ r b hp.2 hb (I.binop hl).2) fun _ => nl_ite nl_unmodelled rfl
  | .compare op l r, _, hp, ht, hl => by
      rw [djVisit]
      obtain ⟨hpl, hpr⟩ := printable_compare hp
      obtain ⟨⟨a, ha, _⟩, ⟨b, hb⟩⟩ := sType_compare ht
      have h1 := djVisit_nl Γ l a hpl ha (I.compare hl).1
      have h2 := djVisit_nl Γ r b hpr hb (I.compare hl).2
      exact nl_ite (nl_bind _ _ h2 fun _ => nl_ite rfl rfl)
        (nl_ite (nl_bind _ _ h1 fun _ => nl_ite rfl (nl_ite rfl rfl))
          (nl_bind _ _ h1 fun _ => nl_bind _ _ h2 fun _ => rfl))
  | .boolop op l r, _, hp, ht, hl => by
      rw [djVisit]
      rw [printable, Bool.and_eq_true] at hp
      obtain ⟨⟨a, ha⟩, ⟨b, hb⟩⟩ := sType_boolop ht
      exact nl_bind _ _ (djVisit_nl Γ l a hp.1 ha (I.boolop hl).1) fun _ =>
        nl_bind _ _ (djVisit_nl Γ r b hp.2 hb (I.boolop hl).2) fun _ => nl_ite rfl (nl_ite nl_unmodelled rfl)
  | .unary op e, _, hp, ht, hl => by
      rw [djVisit]
      rw [printable] at hp
      obtain ⟨a, ha⟩ := sType_unary ht
      exact nl_bind _ _ (djVisit_nl Γ e a hp ha (I.unary hl)) fun _ =>
        nl_ite rfl (nl_ite rfl (nl_ite nl_unmodelled rfl))
  | .named _ _, _, _, ht, _ => by rw [sType] at ht; cases ht
  | .coll _ _ _, _, _, ht, _ => by rw [sType] at ht; cases ht
  | .call f args, _, hp, ht, hl => by
      rw [djVisit]
      obtain ⟨tys, hts, hsig⟩ := sType_call ht
      -- a key without handler, a named argument, a wrong number of arguments: the library's exception, or outside the model
      refine nl_ite rfl (nl_ite nl_unmodelled (nl_ite nl_unmodelled (nl_ite rfl ?_)))
      refine djFunc_nl _ _ (djArgs_ok Γ args tys (printable_call hp hts) hts (I.call hl)) ?_
      rw [← sTypes_length args tys hts]
      exact arity_of_sig f tys _ hsig
theorem djArgs_ok (Γ : Expr → Option OTy) : (xs : Exprs) → (tys : List OTy) → printableArgs xs = true →
    sTypes Γ xs = some tys → Ps xs = true → DjArgsOk xs
  | .nil, _, _, _, _ => trivial
  | .cons h t, _, hp, ht, hl => by
      rw [printableArgs, Bool.and_eq_true] at hp
      obtain ⟨a, as, h1, h2, _⟩ := sTypes_cons ht
      exact ⟨djVisit_nl Γ h a hp.1 h1 (I.cons hl).1, djArgs_ok Γ t as hp.2 h2 (I.cons hl).2⟩
end

theorem dj_never_leaks (Γ : Expr → Option OTy) (e : Expr) (hp : printable e = true) (h : wellTypedFilter Γ e = true)
    (hl : P e = true) : leaks (djBuild e) = false := by
  rw [leaks_iff_nl]
  unfold wellTypedFilter at h
  have hv := djVisit_nl I Γ e _ hp (by simpa using h) hl
  unfold djBuild
  cases hd : djVisit e with
  | ok p => exact nl_ite rfl (nl_ite nl_unmodelled rfl)
  | lib x => rfl
  | notImplemented => rfl
  | foreign c => rw [hd] at hv; exact hv

mutual
theorem saVisit_nl (fields : List Str) (core : Bool) (Γ : Expr → Option OTy) : (e : Expr) → (τ : OTy) →
    printable e = true → sType Γ e = some τ → P e = true → nl (saVisit fields core e) = true
  | .ident _, _, _, _, _ => by rw [saVisit]; exact nl_ite rfl rfl
  | .attr o n, _, _, _, _ => by rw [saVisit]; exact nl_ite rfl nl_unmodelled
  | .lit k v, _, _, _, hl => by
      cases k
      case null => rw [saVisit]; rfl
      case bool => rw [saVisit]; rfl
      case guid => rw [saVisit]; rfl
      all_goals
        rw [saVisit]
        · exact nl_bind _ _ (I.lit hl) (fun _ => rfl)
        all_goals (intro hh; cases hh)
  | .list xs, _, hp, ht, hl => by
      rw [saVisit]
      rw [printable, Bool.and_eq_true] at hp
      obtain ⟨_, tys, ht'⟩ := sType_list ht
      exact nl_bind _ _ (saVisitList_nl fields core _ (saArgs_ok fields core Γ xs tys hp.2 ht' (I.list hl))) (fun _ => rfl)
  | .binop op l r, _, hp, ht, hl => by
      rw [saVisit]
      rw [printable, Bool.and_eq_true] at hp
      obtain ⟨⟨a, ha⟩, ⟨b, hb⟩⟩ := sType_binop ht
      exact nl_bind _ _ (saVisit_nl fields core Γ l a hp.1 ha (I.binop hl).1) fun _ =>
        nl_bind _ _ (saVisit_nl fields core Γ r b hp.2 hb (I.binop hl).2) fun _ => nl_ite nl_unmodelled rfl
  | .compare op l r, _, hp, ht, hl => by
      rw [saVisit]
      obtain ⟨hpl, hpr⟩ := printable_compare hp
      obtain ⟨⟨a, ha, hin⟩, ⟨b, hb⟩⟩ := sType_compare ht
      have h1 := saVisit_nl fields core Γ l a hpl ha (I.compare hl).1
      have h2 := saVisit_nl fields core Γ r b hpr hb (I.compare hl).2
      refine nl_bind' _ _ h1 (fun ⟨ta, ka⟩ hv1 => nl_bind _ _ h2 (fun ⟨tb, kb⟩ => ?_))
      dsimp only
      by_cases hop : (op == CmpOp.in_) = true
      · -- `l in r`: the left operand is typed as a primitive, so it is no list node and was not visited to a Python list
        obtain rfl : op = .in_ := by simpa using hop
        have hnl := saVisit_notList fields core l (not_list_of_sType ha (hin rfl))
        rw [hv1] at hnl
        rw [if_pos hop, show (isNullLit l && (CmpOp.in_ == CmpOp.eq || CmpOp.in_ == CmpOp.ne)) = false from Bool.and_false _]
        cases ka <;> first | rfl | cases hnl
      · rw [if_neg hop]
        exact nl_cmp_tail _ _ _ _
  | .boolop op l r, _, hp, ht, hl => by
      rw [saVisit]
      rw [printable, Bool.and_eq_true] at hp
      obtain ⟨⟨a, ha⟩, ⟨b, hb⟩⟩ := sType_boolop ht
      exact nl_bind _ _ (saVisit_nl fields core Γ l a hp.1 ha (I.boolop hl).1) (fun _ =>
        nl_bind _ _ (saVisit_nl fields core Γ r b hp.2 hb (I.boolop hl).2) (fun _ => rfl))
  | .unary op e, _, hp, ht, hl => by
      rw [saVisit]
      rw [printable] at hp
      obtain ⟨a, ha⟩ := sType_unary ht
      exact nl_bind _ _ (saVisit_nl fields core Γ e a hp ha (I.unary hl)) fun _ => nl_ite rfl rfl
  | .named _ _, _, _, ht, _ => by rw [sType] at ht; cases ht
  | .coll _ _ _, _, _, ht, _ => by rw [sType] at ht; cases ht
  | .call f args, _, hp, ht, hl => by
      rw [saVisit]
      obtain ⟨tys, hts, hsig⟩ := sType_call ht
      refine nl_ite rfl ?_
      refine saFunc_nl fields core _ _ (saArgs_ok fields core Γ args tys (printable_call hp hts) hts (I.call hl)) ?_
      rw [← sTypes_length args tys hts]
      exact arity_of_sig f tys _ hsig
theorem saArgs_ok (fields : List Str) (core : Bool) (Γ : Expr → Option OTy) : (xs : Exprs) → (tys : List OTy) →
    printableArgs xs = true → sTypes Γ xs = some tys → Ps xs = true → SaArgsOk fields core xs
  | .nil, _, _, _, _ => trivial
  | .cons h t, _, hp, ht, hl => by
      rw [printableArgs, Bool.and_eq_true] at hp
      obtain ⟨a, as, h1, h2, _⟩ := sTypes_cons ht
      exact ⟨saVisit_nl fields core Γ h a hp.1 h1 (I.cons hl).1, saArgs_ok fields core Γ t as hp.2 h2 (I.cons hl).2⟩
end

theorem sa_never_leaks (fields : List Str) (core : Bool) (Γ : Expr → Option OTy) (e : Expr)
    (hp : printable e = true) (h : wellTypedFilter Γ e = true) (hl : P e = true) :
    leaks (saBuild fields core e) = false := by
  rw [leaks_iff_nl]
  unfold wellTypedFilter at h
  have hv := saVisit_nl I fields core Γ e _ hp (by simpa using h) hl
  unfold saBuild
  exact nl_bind _ _ hv (fun _ => rfl)
end

theorem pyLitOk_ok : LitsOk pyLitOk pyLitOks where
  lit := fun {k v} h => litParam_nl k v fun _ c hc => by rw [pyLitOk, hc] at h; cases h
  list := fun h => by rwa [pyLitOk] at h
  binop := fun h => by rwa [pyLitOk, Bool.and_eq_true] at h
  compare := fun h => by rwa [pyLitOk, Bool.and_eq_true] at h
  boolop := fun h => by rwa [pyLitOk, Bool.and_eq_true] at h
  unary := fun h => by rwa [pyLitOk] at h
  call := fun h => by rwa [pyLitOk] at h
  cons := fun h => by rwa [pyLitOks, Bool.and_eq_true] at h

theorem djVisitList_ok (Γ : Expr → Option OTy) : (xs : Exprs) → (tys : List OTy) → printableArgs xs = true →
    sTypes Γ xs = some tys → pyLitOks xs = true → DjArgsOk xs :=
  djArgs_ok pyLitOk_ok Γ

theorem dj_never_leaks_welltyped (Γ : Expr → Option OTy) (e : Expr) (hp : printable e = true) (h : wellTypedFilter Γ e = true) (hl : pyLitOk e = true) :
    leaks (djBuild e) = false :=
  dj_never_leaks pyLitOk_ok Γ e hp h hl

theorem saVisitList_ok (fields : List Str) (core : Bool) (Γ : Expr → Option OTy) : (xs : Exprs) → (tys : List OTy) →
    printableArgs xs = true → sTypes Γ xs = some tys → pyLitOks xs = true → SaArgsOk fields core xs :=
  saArgs_ok pyLitOk_ok fields core Γ

theorem sa_never_leaks_welltyped (fields : List Str) (core : Bool) (Γ : Expr → Option OTy) (e : Expr)
    (hp : printable e = true) (h : wellTypedFilter Γ e = true) (hl : pyLitOk e = true) :
    leaks (saBuild fields core e) = false :=
  sa_never_leaks pyLitOk_ok fields core Γ e hp h hl

end OQ.C12Orm
