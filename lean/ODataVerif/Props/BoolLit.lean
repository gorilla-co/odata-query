/-
  A Boolean term compared with a Boolean literal (the spellings `b eq true`, `b ne false`, `false eq b`, …): in OData's three-valued
  semantics (Spec/ODataSem.lean) the comparison denotes `b` or `not b`, on every row, NULL included.  These are the identities the checks of C01–C04 rely on
  when they judge such spellings (C04 maps `L ne false` to `L` in the harness; here the mapping is a theorem of the scalar semantics), and the reason a
  "redundant null guard" may NOT be dropped under a negation: `x ne null and x gt 3` is FALSE on a NULL row where `x gt 3` alone is UNKNOWN.
-/
import ODataVerif.Spec.ODataSem
namespace OQ.Props.BoolLit
open OQ OQ.Spec

theorem cmp_lit (ρ : Row) (b : BoolE) (ne c : Bool) :
    evalB ρ (.cmpB (if ne then .ne else .eq) b (.lit c)) = if ne == c then evalB ρ (.not b) else evalB ρ b := by
  simp only [evalB]
  cases ne <;> cases c <;> cases evalB ρ b <;> rfl
theorem lit_cmp (ρ : Row) (b : BoolE) (ne c : Bool) :
    evalB ρ (.cmpB (if ne then .ne else .eq) (.lit c) b) = if ne == c then evalB ρ (.not b) else evalB ρ b := by
  simp only [evalB]
  cases ne <;> cases c <;> cases evalB ρ b <;> rfl

theorem eq_true (ρ : Row) (b : BoolE) : evalB ρ (.cmpB .eq b (.lit true)) = evalB ρ b := cmp_lit ρ b false true
theorem ne_false (ρ : Row) (b : BoolE) : evalB ρ (.cmpB .ne b (.lit false)) = evalB ρ b := cmp_lit ρ b true false
theorem eq_false (ρ : Row) (b : BoolE) : evalB ρ (.cmpB .eq b (.lit false)) = evalB ρ (.not b) := cmp_lit ρ b false false
theorem ne_true (ρ : Row) (b : BoolE) : evalB ρ (.cmpB .ne b (.lit true)) = evalB ρ (.not b) := cmp_lit ρ b true true
theorem true_eq (ρ : Row) (b : BoolE) : evalB ρ (.cmpB .eq (.lit true) b) = evalB ρ b := lit_cmp ρ b false true
theorem false_ne (ρ : Row) (b : BoolE) : evalB ρ (.cmpB .ne (.lit false) b) = evalB ρ b := lit_cmp ρ b true false
theorem false_eq (ρ : Row) (b : BoolE) : evalB ρ (.cmpB .eq (.lit false) b) = evalB ρ (.not b) := lit_cmp ρ b false false
theorem true_ne (ρ : Row) (b : BoolE) : evalB ρ (.cmpB .ne (.lit true) b) = evalB ρ (.not b) := lit_cmp ρ b true true

/-- selection form: `b ne false` selects exactly the rows `b` selects; `b eq false` selects the rows on which `b` is FALSE (not those on which it is unknown) -/
theorem selects_ne_false (ρ : Row) (b : BoolE) : selects ρ (.cmpB .ne b (.lit false)) = selects ρ b := by
  simp only [selects, ne_false]
theorem selects_eq_false (ρ : Row) (b : BoolE) : selects ρ (.cmpB .eq b (.lit false)) = (evalB ρ b == .ff) := by
  simp only [selects, evalB, V3.ofBool]; cases evalB ρ b <;> rfl

/-- a null guard is not redundant under a negation: on a row where the column is NULL the guarded conjunction is FALSE (so its negation selects the row),
    whatever the comparison says -/
theorem guard_false_on_null (ρ : Row) (k : ColK) (c : Str) (cmp : BoolE) (h : ρ.get c = .null) :
    evalB ρ (.and (.isNull k c true) cmp) = .ff ∧ evalB ρ (.and cmp (.isNull k c true)) = .ff := by
  simp only [evalB, h, V3.ofBool]
  constructor <;> cases evalB ρ cmp <;> rfl
theorem not_guard_selects_null (ρ : Row) (k : ColK) (c : Str) (cmp : BoolE) (h : ρ.get c = .null) :
    selects ρ (.not (.and (.isNull k c true) cmp)) = true := by
  have := (guard_false_on_null ρ k c cmp h).1
  simp only [selects, evalB] at *
  rw [this]; rfl
/-- … whereas the bare comparison, when it is unknown on that row, is not selected under the negation: dropping the guard changes the answer -/
theorem not_unknown_not_selected (ρ : Row) (cmp : BoolE) (h : evalB ρ cmp = .unk) : selects ρ (.not cmp) = false := by
  simp only [selects, evalB, h]; rfl

/-- the premises are satisfiable: a row with a NULL integer column, the comparison `i1 gt 3` is unknown on it -/
example : let ρ : Row := [("i1".toList, .null)]
    ρ.get "i1".toList = .null ∧ evalB ρ (.cmpI .gt (.col "i1".toList) (.lit false "3".toList)) = .unk := by decide

end OQ.Props.BoolLit
