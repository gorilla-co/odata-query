/-
  C12, "a backend that cannot express a construct refuses it instead of mistranslating", for the raw SQL dialects:
  `sql_never_leaks`.  For every dialect, alias and every tree whose built-in calls have the argument counts the parser
  enforces (`callsOk`, through `Spec.callOk`) and whose duration literals have the lexer's shape (`durOk`), the visitor
  model returns SQL pieces or one of the library's exceptions, never AttributeError / TypeError / IndexError /
  KeyError / ValueError and never NotImplementedError.
  Completeness of a successful translation ("every field, literal, operator and call is represented") is
  C09's `parse_mirror`: the emitted text reads back as `Spec.mirror`, which has one node per filter node.
-/
import ODataVerif.Lemmas.SqlTotal
namespace OQ.C12
open Spec SqlAlias SqlTotal

mutual
/-- every call to a function of the OData table (no namespace, or `geo`) has an admissible argument count -/
def callsOk : Expr → Bool
  | .ident _ | .lit _ _ => true
  | .attr o _ => callsOk o
  | .list xs => callsOkList xs
  | .binop _ l r => callsOk l && callsOk r
  | .compare _ l r => callsOk l && callsOk r
  | .boolop _ l r => callsOk l && callsOk r
  | .unary _ e => callsOk e
  | .named _ e => callsOk e
  | .call f args => callOk f args.length && callsOkList args
  | .coll o _ l => callsOk o && callsOkLam l
def callsOkList : Exprs → Bool
  | .nil => true
  | .cons h t => callsOk h && callsOkList t
def callsOkLam : OptLam → Bool
  | .none => true
  | .some _ b => callsOk b
end

variable (isD : Char → Bool) (d : Dialect) (al : Option Str)

mutual
theorem sql_never_leaks : (e : Expr) → callsOk e = true → durOk isD e = true →
    clean (sqlVisit isD d al e) = true
  | .ident _, _, _ => by rw [sqlVisit]; rfl
  | .attr _ _, _, _ => by rw [sqlVisit]; rfl
  | .named _ _, _, _ => by rw [sqlVisit]; rfl
  | .coll _ _ _, _, _ => by rw [sqlVisit]; rfl
  | .lit k v, _, hd => by
      rw [sqlVisit]
      exact litPieces_clean isD d k v (by simpa [durOk] using hd)
  | .list xs, hc, hd => by
      rw [sqlVisit]
      exact clean_bind _ _ (sql_never_leaks_list xs (by simpa [callsOk] using hc) (by simpa [durOk] using hd)) (fun _ => rfl)
  | .binop op l r, hc, hd => by
      rw [sqlVisit]
      simp only [callsOk, Bool.and_eq_true] at hc
      simp only [durOk, Bool.and_eq_true] at hd
      exact clean_bind _ _ (sql_never_leaks l hc.1 hd.1) (fun _ =>
        clean_bind _ _ (sql_never_leaks r hc.2 hd.2) (fun _ => rfl))
  | .compare op l r, hc, hd => by
      rw [sqlVisit]
      simp only [callsOk, Bool.and_eq_true] at hc
      simp only [durOk, Bool.and_eq_true] at hd
      exact clean_bind _ _ (sql_never_leaks l hc.1 hd.1) (fun _ =>
        clean_bind _ _ (sql_never_leaks r hc.2 hd.2) (fun _ => by split <;> rfl))
  | .boolop op l r, hc, hd => by
      rw [sqlVisit]
      simp only [callsOk, Bool.and_eq_true] at hc
      simp only [durOk, Bool.and_eq_true] at hd
      exact clean_bind _ _ (sql_never_leaks l hc.1 hd.1) (fun _ =>
        clean_bind _ _ (sql_never_leaks r hc.2 hd.2) (fun _ => rfl))
  | .unary op e, hc, hd => by
      rw [sqlVisit]
      exact clean_bind _ _ (sql_never_leaks e (by simpa [callsOk] using hc) (by simpa [durOk] using hd)) (fun _ => rfl)
  | .call f args, hc, hd => by
      rw [SqlModel.sqlVisit_call]
      simp only [callsOk, Bool.and_eq_true] at hc
      split
      · rename_i err herr
        unfold SqlModel.callPre at herr
        split at herr
        · cases herr; rfl
        · rename_i hh
          -- the key names a handler, so the call is not namespaced and `callOk` speaks of its argument count
          have hns : f.ns = [] := Decidable.by_contra fun hn => hh (by rw [not_handler_of_ns f hn]; rfl)
          have hp := preClean_of_callOk d f args.length hns hc.1
          rwa [preClean, herr] at hp
      · exact clean_bind _ _ (sql_never_leaks_list args hc.2 (by simpa [durOk] using hd)) (fun _ =>
          clean_bind _ _ (selectTpl_clean _ _ _) (fun _ => rfl))
theorem sql_never_leaks_list : (xs : Exprs) → callsOkList xs = true → durOkList isD xs = true →
    clean (sqlVisitList isD d al xs) = true
  | .nil, _, _ => by rw [sqlVisitList]; rfl
  | .cons h t, hc, hd => by
      rw [sqlVisitList]
      simp only [callsOkList, Bool.and_eq_true] at hc
      simp only [durOkList, Bool.and_eq_true] at hd
      exact clean_bind _ _ (sql_never_leaks h hc.1 hd.1) (fun _ =>
        clean_bind _ _ (sql_never_leaks_list t hc.2 hd.2) (fun _ => rfl))
end

/-- non-vacuity: a tree with every literal kind and a three-argument built-in satisfies the hypotheses -/
example : callsOk (.call ⟨"substring".toList, []⟩ (.cons (.lit .duration "P1DT2H".toList)
            (.cons (.lit .int "1".toList) (.cons (.ident ⟨"a".toList, []⟩) .nil)))) = true
        ∧ durOk (fun c => '0' ≤ c && c ≤ '9') (.lit .duration "P1DT2H".toList) = true := by decide +kernel

end OQ.C12
