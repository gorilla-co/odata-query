/-
  C16: "Visitor and transformer base classes traverse completely and never mutate".
  (Non-mutation of the *Python objects* and `==` are runtime facts: checked by the correspondence
  run of harness/checks/c16.py, not expressible in a pure model — DESIGN §6 C16.)
-/
import ODataVerif.Model.Visitor
import ODataVerif.Model.Ast
import ODataVerif.Spec.Traversal
import ODataVerif.Lemmas.ExprInduct
namespace OQ.C16
open Spec

/-- Induction over a well-formed tree along the visitors' walk: `P` at a value, `Q` down the fields of a
    node, `R` down the items of a list-valued field (nodes only, by `wfItems`). -/
theorem wf_induct {P : Tree → Prop} {Q R : TreeList → Prop}
    (node : ∀ k fs, Q fs → P (.node k fs))
    (leaf : ∀ t, (∀ k fs, t = .node k fs → False) → (∀ items, t = .list items → False) → P t)
    (nil : Q .nil)
    (flist : ∀ items rest, R items → Q rest → Q (.cons (.list items) rest))
    (fnode : ∀ k fs rest, P (.node k fs) → Q rest → Q (.cons (.node k fs) rest))
    (fleaf : ∀ x rest, (∀ items, x = .list items → False) → (∀ k fs, x = .node k fs → False) →
      Q rest → Q (.cons x rest))
    (inil : R .nil)
    (inode : ∀ k fs rest, P (.node k fs) → R rest → R (.cons (.node k fs) rest)) :
    (∀ t, wf t = true → P t) ∧ (∀ fs, wfFields fs = true → Q fs) ∧ (∀ xs, wfItems xs = true → R xs) := by
  apply wf.mutual_induct  -- the equations of `wf`, `wfFields`, `wfItems` in order
  case case1 => exact fun k fs ih h => node k fs (ih h)
  case case2 => exact fun _ h => nomatch h
  case case3 => exact fun t hn hl _ => leaf t hn hl
  case case4 => exact fun _ => nil
  case case5 =>
    intro items rest ihi ihr h
    simp only [wfFields, Bool.and_eq_true] at h
    exact flist items rest (ihi h.1) (ihr h.2)
  case case6 =>
    intro k fs rest ihn ihr h
    simp only [wfFields, Bool.and_eq_true] at h
    exact fnode k fs rest (ihn h.1) (ihr h.2)
  case case7 =>
    intro x rest hl hn ih h
    simp only [wfFields] at h
    exact fleaf x rest hl hn (ih h)
  case case8 => exact fun _ => inil
  case case9 =>
    intro k fs rest ihn ihr h
    simp only [wfItems, Bool.and_eq_true] at h
    exact inode k fs rest (ihn h.1) (ihr h.2)
  case case10 =>
    intro x rest hn h
    simp only [wfItems, Bool.false_eq_true] at h

theorem trace_all : (∀ t, wf t = true → visitTrace t = nodesOf t) ∧
    (∀ fs, wfFields fs = true → fieldsTrace fs = nodesOfList fs) ∧
    (∀ xs, wfItems xs = true → itemsTrace xs = nodesOfList xs) := by
  apply wf_induct
  case node => intro k fs ih; rw [visitTrace, nodesOf, ih]
  case flist => intro items rest ihi ihr; simp only [fieldsTrace, nodesOfList, nodesOf, ihi, ihr]
  case fnode => intro k fs rest ihn ihr; simp only [fieldsTrace, nodesOfList, ihn, ihr]
  case inode => intro k fs rest ihn ihr; simp only [itemsTrace, nodesOfList, ihn, ihr]
  all_goals  -- `nil` and the leaves, which the walk skips
    intros
    simp only [visitTrace, fieldsTrace, itemsTrace, nodesOfList, nodesOf, List.nil_append, *]

/-- **preorder**: the trace of `visit` calls is the document-order list of all nodes -/
theorem preorder (t : Tree) (h : wf t = true) : visitTrace t = nodesOf t := trace_all.1 t h
theorem trace_fields : (fs : TreeList) → wfFields fs = true → fieldsTrace fs = nodesOfList fs := trace_all.2.1
theorem trace_items : (xs : TreeList) → wfItems xs = true → itemsTrace xs = nodesOfList xs := trace_all.2.2

mutual
theorem length_nodesOf : (t : Tree) → (nodesOf t).length = nodeCount t
  | .node k fs => by simp [nodesOf, nodeCount, length_nodesOfList fs]; omega
  | .list items => by simp [nodesOf, nodeCount, length_nodesOfList items]
  | .tuple _ => by simp [nodesOf, nodeCount]
  | .str _ => by simp [nodesOf, nodeCount]
  | .none => by simp [nodesOf, nodeCount]
theorem length_nodesOfList : (ts : TreeList) → (nodesOfList ts).length = nodeCountList ts
  | .nil => by simp [nodesOfList, nodeCountList]
  | .cons h t => by simp [nodesOfList, nodeCountList, length_nodesOf h, length_nodesOfList t]
end

/-- **each once**: as many `visit` calls as there are nodes -/
theorem each_once (t : Tree) (h : wf t = true) : (visitTrace t).length = nodeCount t := by
  rw [preorder t h, length_nodesOf]

/-- **dispatch**: the i-th call goes to the handler named after the i-th node's class -/
theorem dispatch (t : Tree) (h : wf t = true) :
    (visitTrace t).map handlerName = (nodesOf t).map handlerName := by rw [preorder t h]

theorem handlerName_node (k : String) (fs : TreeList) : handlerName (.node k fs) = "visit_" ++ k := rfl

theorem id_all : (∀ t, tvisit none t = t) ∧ (∀ fs, tfields none fs = fs) ∧ (∀ xs, titems none xs = xs) := by
  apply visitTrace.mutual_induct  -- the visitor's recursion has the transformer's shape
  case case1 => intro k fs ih; rw [tvisit, ih]
  case case2 => intro t hn; rw [tvisit]; exact hn
  all_goals
    intros
    simp only [tfields, titems, *]

/-- **transform_id**: a transformer without overrides returns a tree equal to its input -/
theorem transform_id (t : Tree) : tvisit none t = t := id_all.1 t
theorem tfields_none : (fs : TreeList) → tfields none fs = fs := id_all.2.1
theorem titems_none : (xs : TreeList) → titems none xs = xs := id_all.2.2

theorem isKind_node (k k' : String) (fs : TreeList) : isKind k (.node k' fs) = (k == k') := by
  simp only [isKind, eq_comm, Bool.beq_eq_decide_eq]

theorem override_all (k : String) (g : Tree → Tree) :
    (∀ t, wf t = true → tvisit (some ⟨k, g, true⟩) t = mapKind k g t) ∧
    (∀ fs, wfFields fs = true →
      tfields (some ⟨k, g, true⟩) fs = mapBUList (fun n => if isKind k n then g n else n) fs) ∧
    (∀ xs, wfItems xs = true →
      titems (some ⟨k, g, true⟩) xs = mapBUList (fun n => if isKind k n then g n else n) xs) := by
  apply wf_induct
  case node => intro k' fs ih; simp only [mapKind, tvisit, mapBU, isKind_node, ← ih, if_true]
  case flist => intro items rest ihi ihr; simp only [tfields, mapBUList, mapBU, ihi, ihr]
  case fnode => intro k' fs rest ihn ihr; rw [tfields, mapBUList, ihn, ihr, mapKind]
  case inode => intro k' fs rest ihn ihr; rw [titems, mapBUList, ihn, ihr, mapKind]
  all_goals
    intros
    simp only [tvisit, tfields, titems, mapKind, mapBUList, mapBU, *]

/-- **transform_override** (recursing handler): exactly the nodes of kind `k` are post-processed by `g` -/
theorem transform_override (k : String) (g : Tree → Tree) (t : Tree) (h : wf t = true) :
    tvisit (some ⟨k, g, true⟩) t = mapKind k g t := (override_all k g).1 t h
theorem tfields_rec (k : String) (g : Tree → Tree) :
    (fs : TreeList) → wfFields fs = true →
      tfields (some ⟨k, g, true⟩) fs = mapBUList (fun n => if isKind k n then g n else n) fs := (override_all k g).2.1
theorem titems_rec (k : String) (g : Tree → Tree) :
    (xs : TreeList) → wfItems xs = true →
      titems (some ⟨k, g, true⟩) xs = mapBUList (fun n => if isKind k n then g n else n) xs := (override_all k g).2.2

theorem topdown_all (k : String) (g : Tree → Tree) :
    (∀ t, wf t = true → tvisit (some ⟨k, g, false⟩) t = replaceTD k g t) ∧
    (∀ fs, wfFields fs = true → tfields (some ⟨k, g, false⟩) fs = replaceTDList k g fs) ∧
    (∀ xs, wfItems xs = true → titems (some ⟨k, g, false⟩) xs = replaceTDList k g xs) := by
  apply wf_induct
  case node =>
    intro k' fs ih
    simp only [tvisit, replaceTD, ← ih, BEq.comm (a := k'), Bool.false_eq_true, if_false]
  case flist => intro items rest ihi ihr; simp only [tfields, replaceTDList, replaceTD, ihi, ihr]
  case fnode => intro k' fs rest ihn ihr; rw [tfields, replaceTDList, ihn, ihr]
  case inode => intro k' fs rest ihn ihr; rw [titems, replaceTDList, ihn, ihr]
  all_goals
    intros
    simp only [tvisit, tfields, titems, replaceTDList, replaceTD, *]
/-- **transform_override** (non-recursing handler) -/
theorem transform_override_topdown (k : String) (g : Tree → Tree) (t : Tree) (h : wf t = true) :
    tvisit (some ⟨k, g, false⟩) t = replaceTD k g t := (topdown_all k g).1 t h
theorem tfields_td (k : String) (g : Tree → Tree) :
    (fs : TreeList) → wfFields fs = true → tfields (some ⟨k, g, false⟩) fs = replaceTDList k g fs := (topdown_all k g).2.1
theorem titems_td (k : String) (g : Tree → Tree) :
    (xs : TreeList) → wfItems xs = true → titems (some ⟨k, g, false⟩) xs = replaceTDList k g xs := (topdown_all k g).2.2

mutual
theorem mapBU_absent (k : String) (g : Tree → Tree) :
    (t : Tree) → hasKind k t = false → mapBU (fun n => if isKind k n then g n else n) t = t
  | .node k' fs, h => by
      simp [hasKind] at h
      rw [mapBU, mapBUList_absent k g fs h.2]
      simp [isKind, h.1]
  | .list items, h => by
      simp [hasKind] at h
      simp [mapBU, mapBUList_absent k g items h]
  | .tuple _, _ => by simp [mapBU]
  | .str _, _ => by simp [mapBU]
  | .none, _ => by simp [mapBU]
theorem mapBUList_absent (k : String) (g : Tree → Tree) :
    (ts : TreeList) → hasKindList k ts = false →
      mapBUList (fun n => if isKind k n then g n else n) ts = ts
  | .nil, _ => by simp [mapBUList]
  | .cons h t, hh => by
      simp [hasKindList] at hh
      simp [mapBUList, mapBU_absent k g h hh.1, mapBUList_absent k g t hh.2]
end

theorem override_absent_kind (k : String) (g : Tree → Tree) (t : Tree) (h : wf t = true)
    (ha : hasKind k t = false) : tvisit (some ⟨k, g, true⟩) t = t := by
  rw [transform_override k g t h]; exact mapBU_absent k g t ha

/-! every tree the typed AST embeds to has the shape the theorems assume -/
theorem toTree_isNode (e : Expr) : ∃ k fs, e.toTree = .node k fs := by
  cases e with
  | lit k v => cases k <;> exact ⟨_, _, rfl⟩
  | _ => exact ⟨_, _, rfl⟩

theorem wfFields_cons (x : Tree) (rest : TreeList) (h : wf x = true) : wfFields (.cons x rest) = wfFields rest := by
  cases x with
  | node k fs => simp only [wfFields, h, Bool.true_and]
  | list _ => simp [wf] at h
  | _ => rfl

theorem wf_toTree_all : (∀ e : Expr, wf e.toTree = true) ∧ (∀ xs : Exprs, wfItems xs.toTrees = true) ∧
    (∀ l : OptLam, wf l.toTree = true) := by
  apply Expr.induct
  case lit => intro k v; cases k <;> rfl
  case cons =>
    intro h t h1 h2
    obtain ⟨k, fs, hk⟩ := toTree_isNode h
    rw [hk] at h1
    simp only [Exprs.toTrees, hk, wfItems, h1, h2, Bool.and_self]
  all_goals
    (intros
     simp only [Expr.toTree, Exprs.toTrees, OptLam.toTree, Ident.toTree, Tree.leaf, wf, wfFields, wfItems, wfFields_cons, Bool.and_self, *])

theorem wf_toTree : (e : Expr) → wf e.toTree = true := wf_toTree_all.1
theorem wfItems_toTrees : (xs : Exprs) → wfItems xs.toTrees = true := wf_toTree_all.2.1
theorem wf_optLam : (l : OptLam) → wf l.toTree = true := wf_toTree_all.2.2

/-! non-vacuity: a tree with a list, a nested list node, an optional lambda and a named parameter -/
def sample : Tree :=
  (Expr.boolop .and_
    (.compare .in_ (.ident ⟨['a'], []⟩) (.list (.cons (.lit .int ['1']) (.cons (.list (.cons (.lit .str ['x']) .nil)) .nil))))
    (.coll (.attr (.ident ⟨['k'], []⟩) ['c']) .any .none)).toTree
example : wf sample = true := by decide
example : (visitTrace sample).length = 13 := by decide
example : hasKind "Integer" sample = true ∧ hasKind "Float" sample = false := by decide +kernel

end OQ.C16
