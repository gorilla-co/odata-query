/-
  The two path clauses of C17 read off the (root, segments) view, for paths of
  EVERY depth: a path rooted at the variable loses exactly its first step and keeps every other
  segment in order (x/a becomes a, x/a/b becomes a/b, …); a path rooted anywhere else is returned
  unchanged.  Corollaries of `C17.strip_eq_reroot`.
-/
import ODataVerif.Props.C17
namespace OQ.C17
open Spec

theorem pathView_foldl (ss : List Str) : (r : Tree) →
    pathView (ss.foldl mkAttr r) = ((pathView r).1, (pathView r).2 ++ ss) := by
  induction ss with
  | nil => intro r; simp
  | cons a ss ih => intro r; rw [List.foldl_cons, ih (mkAttr r a), pathView_mkAttr]; simp

theorem pathView_buildPath (r : Tree) (hr : isAttr r = false) (ss : List Str) :
    pathView (buildPath r ss) = (r, ss) := by
  unfold buildPath; rw [pathView_foldl, pathView_nonAttr r hr]; simp

theorem rooted_at_variable (x t : Tree) (hx : isAttr x = false) (ht : wf t = true)
    (ha : isAttr t = true) (s : Str) (rest : List Str) (hv : pathView t = (x, s :: rest)) :
    pathView (strip x t) = (mkIdent s, rest) := by
  rw [strip_eq_reroot x t hx ht]
  match t, ha with
  | .node k fs, ha =>
      have h1 : (pathView (.node k fs)).1 = x := by rw [hv]
      have h2 : (pathView (.node k fs)).2 = s :: rest := by rw [hv]
      simp only [reroot, ha, rerootPath, h1, h2, if_true]
      exact pathView_buildPath (mkIdent s) (by simp [mkIdent, isAttr]) rest

theorem rooted_elsewhere (x t : Tree) (hx : isAttr x = false) (ht : wf t = true)
    (ha : isAttr t = true) (hr : (pathView t).1 ≠ x) : strip x t = t := by
  rw [strip_eq_reroot x t hx ht]
  match t, ha with
  | .node k fs, ha => simp [reroot, ha, rerootPath, hr]

/-! non-vacuity: a depth-3 path rooted at x, and the same path rooted at y -/
def deep (root : List Char) : Expr := .attr (.attr (.attr (.ident ⟨root, []⟩) ['a']) ['b']) ['c']
example : isAttr (deep ['x']).toTree = true ∧ pathView (deep ['x']).toTree = (xv.toTree, [['a'], ['b'], ['c']]) := by
  decide +kernel
example : (pathView (deep ['y']).toTree).1 ≠ xv.toTree := by decide +kernel

end OQ.C17
