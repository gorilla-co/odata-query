/-
  C09, "every SQL dialect emits well-formed SQL whose structure mirrors the filter": the alias clause, and the
  known finding about the standard dialect's `floor`.  The structural theorem `parse_mirror` (the emitted tokens
  are read by the independent parser as `Spec.mirror`) is in Props/C09Parse.lean.
-/
import ODataVerif.Lemmas.SqlAlias
import ODataVerif.Spec.SqlMirror
namespace OQ.C09
open SqlAlias

/-- rendering with table alias `a` IS rendering without alias with every column piece `"name"` replaced by
    `"a"."name"`, for every dialect and every filter, including the ones that raise: the alias qualifies every
    field reference and nothing else -/
theorem alias_only_fields (isD : Char → Bool) (d : Dialect) (a : Str) (ha : a ≠ []) (e : Expr) :
    sqlVisit isD d (some a) e = omap (qualify a) (sqlVisit isD d none e) :=
  alias_visit isD d a ha e

/-- the text, too: every character of the aliased rendering comes from the un-aliased pieces plus qualifiers -/
theorem alias_text (isD : Char → Bool) (d : Dialect) (a : Str) (ha : a ≠ []) (e : Expr) :
    sqlText isD d (some a) e = omap (fun ps => renderPieces (qualify a ps)) (sqlVisit isD d none e) := by
  unfold sqlText
  rw [alias_only_fields isD d a ha e]
  cases sqlVisit isD d none e <;> rfl

/-- non-vacuity: a filter with two field references and a string that looks like a column -/
example :
    sqlText (fun _ => false) .athena (some "t".toList)
      (.boolop .and_ (.compare .eq (.ident ⟨"Name".toList, []⟩) (.lit .str "\"x\"".toList))
                     (.compare .gt (.ident ⟨"eac".toList, []⟩) (.lit .int "1".toList)))
    = .ok "\"t\".\"name\" = '\"x\"' AND \"t\".\"eac\" > 1".toList := by decide +kernel

end OQ.C09

namespace OQ.C09
open Spec
/-- KNOWN FINDING (witness): the standard dialect's `floor` template is not readable as an SQL expression. -/
theorem kf_std_floor :
    (sqlText (fun _ => false) .std none (.compare .eq (.call ⟨"floor".toList, []⟩ (.cons (.ident ⟨"f1".toList, []⟩) .nil)) (.lit .int "1".toList))).bind
      (fun s => .ok (sqlRead s)) = (.ok none : Outcome (Option SqlTree)) := by decide +kernel
end OQ.C09
