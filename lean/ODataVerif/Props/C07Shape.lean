/-
  C07, non-interference: the SQL token sequence outside string literals and quoted
  identifiers does not depend on what the filter's string literals contain or how its fields are spelled.
-/
import ODataVerif.Model.SqlPieces
import ODataVerif.Props.C07Lex
import ODataVerif.Lemmas.SqlShape
namespace OQ.C07
open Spec

/-- does the LIKE-escaping change the text (i.e. does it contain `\`, `%` or `_`)? -/
def hasWild (s : Str) : Bool := likeEscape s != s

mutual
/-- the two trees differ at most in the CONTENTS of string literals (with the same wildcard flag) and in the
    NAMES of field identifiers -/
def sameSkel : Expr → Expr → Bool
  | .ident _, .ident _ => true
  | .attr o n, .attr o' n' => sameSkel o o' && n == n'
  | .lit .str a, .lit .str b => hasWild a == hasWild b
  | .lit k v, .lit k' v' => k == k' && v == v' && k != .str
  | .list xs, .list ys => sameSkelList xs ys
  | .binop o l r, .binop o' l' r' => o == o' && sameSkel l l' && sameSkel r r'
  | .compare o l r, .compare o' l' r' => o == o' && sameSkel l l' && sameSkel r r'
  | .boolop o l r, .boolop o' l' r' => o == o' && sameSkel l l' && sameSkel r r'
  | .unary o e, .unary o' e' => o == o' && sameSkel e e'
  | .named n e, .named n' e' => n == n' && sameSkel e e'
  | .call f a, .call f' a' => f == f' && sameSkelList a a'
  | .coll o op l, .coll o' op' l' => sameSkel o o' && op == op' && sameSkelLam l l'
  | _, _ => false
def sameSkelList : Exprs → Exprs → Bool
  | .nil, .nil => true
  | .cons h t, .cons h' t' => sameSkel h h' && sameSkelList t t'
  | _, _ => false
def sameSkelLam : OptLam → OptLam → Bool
  | .none, .none => true
  | .some v b, .some v' b' => v == v' && sameSkel b b'
  | _, _ => false
end

/-- erase what the filter chose: literal contents and identifier spellings -/
def shapeP : Piece → Piece
  | .tok t => .tok t.shape
  | .dq _ => .dq []
  | p => p

def shapeO : Outcome (List Piece) → Outcome (List Piece)
  | .ok ps => .ok (ps.map shapeP)
  | o => o

/- The induction itself is carried out in Lemmas/SqlShape.lean, over the inductive form `SqlShape.Skel` of `sameSkel`
   and the copy `SqlShape.shP` of `shapeP`; the lemmas below connect the definitions of this file to those. -/
open SqlShape in
theorem shapeP_eq : shapeP = SqlShape.shP := by
  funext p; cases p <;> rfl

open SqlShape in
/-- by the recursion of `sameSkel` itself: one case per defining clause, the catch-all clauses being `false` -/
theorem skel_of_sameSkel_all :
    (∀ e e', sameSkel e e' = true → Skel e e') ∧ (∀ l l' : OptLam, sameSkelLam l l' = true → True) ∧
      (∀ xs ys, sameSkelList xs ys = true → SkelList xs ys) := by
  apply sameSkel.mutual_induct
  case case1 => exact fun _ _ _ => .ident _ _
  case case2 => exact fun _ _ _ _ _ _ => .attr _ _ _ _
  case case3 => intro a b h; exact .str _ _ (by simpa [sameSkel, hasWild] using h)
  case case4 =>
    intro k v k' v' hne h
    rw [sameSkel] at h
    · simp only [Bool.and_eq_true, beq_iff_eq] at h
      obtain ⟨⟨rfl, rfl⟩, _⟩ := h
      exact .lit _ _
    · exact hne
  case case5 => intro xs ys ih h; rw [sameSkel] at h; exact .list (ih h)
  case case6 =>
    intro o l r o' l' r' ih1 ih2 h
    simp only [sameSkel, Bool.and_eq_true, beq_iff_eq] at h
    obtain ⟨⟨rfl, h1⟩, h2⟩ := h
    exact .binop _ (ih1 h1) (ih2 h2)
  case case7 =>
    intro o l r o' l' r' ih1 ih2 h
    simp only [sameSkel, Bool.and_eq_true, beq_iff_eq] at h
    obtain ⟨⟨rfl, h1⟩, h2⟩ := h
    exact .compare _ (ih1 h1) (ih2 h2)
  case case8 =>
    intro o l r o' l' r' ih1 ih2 h
    simp only [sameSkel, Bool.and_eq_true, beq_iff_eq] at h
    obtain ⟨⟨rfl, h1⟩, h2⟩ := h
    exact .boolop _ (ih1 h1) (ih2 h2)
  case case9 =>
    intro o e o' e' ih h
    simp only [sameSkel, Bool.and_eq_true, beq_iff_eq] at h
    obtain ⟨rfl, h1⟩ := h
    exact .unary _ (ih h1)
  case case10 => exact fun _ _ _ _ _ _ => .named _ _ _ _
  case case11 =>
    intro f a f' a' ih h
    simp only [sameSkel, Bool.and_eq_true, beq_iff_eq] at h
    obtain ⟨rfl, h1⟩ := h
    exact .call _ (ih h1)
  case case12 => exact fun _ _ _ _ _ _ _ _ _ => .coll _ _ _ _ _ _
  case case13 => intro t x _ _ _ _ _ _ _ _ _ _ _ _ h; rw [sameSkel] at h <;> first | cases h | assumption
  case case14 => exact fun _ => .nil
  case case15 =>
    intro h t h' t' ih1 ih2 hh
    simp only [sameSkelList, Bool.and_eq_true] at hh
    exact .cons (ih1 hh.1) (ih2 hh.2)
  case case16 => intro t x _ _ h; rw [sameSkelList] at h <;> first | cases h | assumption
  all_goals intros; trivial

open SqlShape in
theorem skel_of_sameSkel : (e e' : Expr) → sameSkel e e' = true → Skel e e' := skel_of_sameSkel_all.1
open SqlShape in
theorem skelList_of_sameSkelList : (xs ys : Exprs) → sameSkelList xs ys = true → SkelList xs ys :=
  skel_of_sameSkel_all.2.2

theorem shapeO_eq_of_OEq {x y : Outcome (List Piece)} (h : SqlShape.OEq SqlShape.SameSh x y) :
    shapeO x = shapeO y := by
  cases x <;> cases y <;> simp only [SqlShape.OEq] at h <;>
    first
    | (simp only [shapeO, shapeP_eq]; exact congrArg _ h)
    | (subst h; rfl)
    | rfl
    | exact h.elim

/-- MAIN THEOREM (C07, non-interference at the level of emitted pieces): two filters with the same skeleton
    produce the same outcome up to literal contents and identifier spellings — the same exception, or
    piece lists of identical shape. -/
theorem noninterference (isD : Char → Bool) (d : Dialect) (al : Option Str) (e e' : Expr)
    (h : sameSkel e e' = true) :
    shapeO (sqlVisit isD d al e) = shapeO (sqlVisit isD d al e') :=
  shapeO_eq_of_OEq (SqlShape.skel_visit isD d al e e' (skel_of_sameSkel e e' h))

/-- COROLLARY (C07, tokens): the token sequences read back by the independent SQL tokeniser have the same shape -/
theorem noninterference_tokens (isD : Char → Bool) (d : Dialect) (al : Option Str) (e e' : Expr) (ps ps' : List Piece)
    (h : sameSkel e e' = true)
    (hl : litOk isD d e = true) (hl' : litOk isD d e' = true) (ha : aliasOk al = true)
    (hv : sqlVisit isD d al e = .ok ps) (hv' : sqlVisit isD d al e' = .ok ps') :
    (sqlLex (renderPieces ps)).map (List.map SqlTok.shape) = (sqlLex (renderPieces ps')).map (List.map SqlTok.shape) := by
  have hs : SqlShape.SameSh ps ps' := by
    have := SqlShape.skel_visit isD d al e e' (skel_of_sameSkel e e' h)
    rw [hv, hv'] at this
    exact this
  rw [lex_pieces isD d al e ps hl ha hv, lex_pieces isD d al e' ps' hl' ha hv']
  simp only [Option.map_some, SqlShape.pieceToks_shape_congr hs]

end OQ.C07
