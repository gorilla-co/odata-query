/-
  `null eq x` / `null ne x` (the null literal on the LEFT) are translated exactly like `x eq null` / `x ne null` by every backend
  model: the raw SQL visitors (fix d7f5487), the Django visitor and the SQLAlchemy visitors (fix 6358e99), and the SQL mirror reads both the same way.
  The semantic theorems (C01 / C02 / C03) are stated over the typed grammar, whose null tests have the literal on the right; these lemmas carry them over to
  the other spelling (Spec.elabB reads both spellings as the same null test).
-/
import ODataVerif.Model.Sql
import ODataVerif.Model.Orm
import ODataVerif.Spec.SqlMirror
namespace OQ.NullFlip
open OQ.Spec

theorem isNullLit_cases (x : Expr) : (∃ u, x = .lit .null u) ∨ isNullLit x = false := by
  unfold isNullLit; split
  · exact .inl ⟨_, rfl⟩
  · exact .inr rfl

theorem sql_null_left (isD : Char → Bool) (d : Dialect) (al : Option Str) (op : CmpOp) (hop : op = .eq ∨ op = .ne) (v w : Str) (x : Expr) :
    sqlVisit isD d al (.compare op (.lit .null v) x) = sqlVisit isD d al (.compare op x (.lit .null w)) := by
  have hv : ∀ u, sqlVisit isD d al (.lit .null u) = .ok [OQ.w "NULL"] := by intro u; rw [sqlVisit]; rfl
  have hs : (op == .eq || op == .ne) = true := by rcases hop with rfl | rfl <;> rfl
  rw [sqlVisit.eq_8, sqlVisit.eq_8, hs, hv, hv]
  rcases isNullLit_cases x with ⟨u, rfl⟩ | hx
  · rw [hv]; rfl
  · -- the left side takes the swapping branch, the right side the plain one
    rw [hx]
    cases sqlVisit isD d al x <;> rfl

theorem mirror_null_left (isD : Char → Bool) (d : Dialect) (al : Option Str) (op : CmpOp) (hop : op = .eq ∨ op = .ne) (v w : Str) (x : Expr) :
    mirror isD d al (.compare op (.lit .null v) x) = mirror isD d al (.compare op x (.lit .null w)) := by
  have hv : ∀ u, mirror isD d al (.lit .null u) = some (.kw (S "NULL")) := by
    intro u; rw [mirror]; rfl
  have hin : op = .in_ → False := by rcases hop with rfl | rfl <;> nofun
  rw [mirror.eq_11 _ _ _ _ _ _ (fun _ h _ => hin h) hin, mirror.eq_11 _ _ _ _ _ _ (fun _ h _ => hin h) hin,
    hv, hv]
  rcases isNullLit_cases x with ⟨u, rfl⟩ | hx
  · rw [hv]
    rcases hop with rfl | rfl <;> rfl
  · -- both sides bind `mirror x` only; which branch of the match is taken shows on the constructor of `x`
    cases mirror isD d al x with
    | none => rfl
    | some t =>
      rcases hop with rfl | rfl <;> cases x
      case lit k u | lit k u => cases k <;> first | rfl | cases hx
      all_goals rfl

theorem dj_null_left (op : CmpOp) (hop : op = .eq ∨ op = .ne) (v w : Str) (x : Expr) :
    djVisit (.compare op (.lit .null v) x) = djVisit (.compare op x (.lit .null w)) := by
  have hv : ∀ u, djVisit (.lit .null u) = .ok (.param .null [], .value) := by intro u; rw [djVisit]
  rw [djVisit.eq_7, djVisit.eq_7]
  rcases isNullLit_cases x with ⟨u, rfl⟩ | hx
  · simp only [hv]
    rcases hop with rfl | rfl <;> rfl
  · rw [hx]
    cases djVisit x <;> rcases hop with rfl | rfl <;> rfl

theorem sa_null_left (fields : List Str) (core : Bool) (op : CmpOp) (hop : op = .eq ∨ op = .ne) (v w : Str) (x : Expr) :
    saVisit fields core (.compare op (.lit .null v) x) = saVisit fields core (.compare op x (.lit .null w)) := by
  have hv : ∀ u, saVisit fields core (.lit .null u) = .ok (.const "NULL", .value) := by intro u; rw [saVisit]
  have hs : (op == .eq || op == .ne) = true := by rcases hop with rfl | rfl <;> rfl
  rw [saVisit.eq_10, saVisit.eq_10, hs]
  rcases isNullLit_cases x with ⟨u, rfl⟩ | hx
  · rw [hv, hv, hv]; rfl
  · -- `swap` is true on the left and false on the right: both sides build from `x` first, `NULL` second
    rw [hv, hv, hx]
    cases saVisit fields core x <;> rfl
end OQ.NullFlip
