/-
  Props/C10Image.lean — the image of the parser: every tree `parseText` returns is `Spec.printable` (lists are non-empty,
  the right operand of `in` is a list, paths hang off identifiers, lambda owners are paths, `all` has a lambda, named parameters
  occur only as call arguments, built-in calls have an admissible argument count).  This discharges, for EVERY ACCEPTED FILTER,
  the hypothesis `printable e` of the round-trip theorems (C05, C13, C19) and `callsOk e` of C12's `sql_never_leaks`.
-/
import ODataVerif.Model.Lexer
import ODataVerif.Model.Parser
import ODataVerif.Spec.RefPrinter
import ODataVerif.Lemmas.Totality
import ODataVerif.Lemmas.ParserImage
namespace OQ.C10
open Spec

theorem parseToks_printable (lexErr : Option Nat) (ts : List Tok) (e : Expr) (h : parseToks lexErr ts = .ok e) :
    printable e = true :=
  ParserImage.image.parseToks (fun _ _ => trivial) h

theorem parse_image (env : CharEnv) (s : Str) (e : Expr) (h : parseText env s = .ok e) : printable e = true :=
  parseToks_printable _ _ e h

/-! non-vacuity: accepted inputs exercising the suspicious productions (namespaced root of a path, namespaced lambda owner,
    `any()` without lambda, singleton list, named parameters, a call whose only argument is a list) -/
example : ∃ e, parseToks none [.ident ⟨"a".toList, ["n".toList]⟩, .slash, .ident ⟨"b".toList, ["m".toList]⟩, .slash,
    .ident ⟨"c".toList, []⟩] = .ok e ∧ printable e = true := ⟨_, rfl, by decide⟩
example : ∃ e, parseToks none [.ident ⟨"a".toList, ["n".toList]⟩, .slash, .any, .lp, .rp] = .ok e ∧ printable e = true :=
  ⟨_, rfl, by decide⟩
example : ∃ e, parseToks none [.ident ⟨"f".toList, ["x".toList]⟩, .lp, .lp, .lit .int ['1'], .comma, .rp, .rp] = .ok e
    ∧ printable e = true := ⟨_, rfl, by decide⟩
example : ∃ e, parseToks none [.ident ⟨"f".toList, ["x".toList]⟩, .lp, .ident ⟨"p".toList, []⟩, .eqs, .lit .int ['1'],
    .comma, .ident ⟨"q".toList, []⟩, .eqs, .lit .int ['2'], .rp] = .ok e ∧ printable e = true := ⟨_, rfl, by decide⟩

end OQ.C10
