/-
  Props/C10.lean — "Parsing any string terminates with an AST or a library syntax/function error".
  The totality theorem over the lexer + parser model (no fuel exhaustion, no foreign exception) is in
  Props/C10Total.lean; this file holds the facts about the exception classes and the grammar actions.
-/
import ODataVerif.Model.Parser
import ODataVerif.Model.ExceptionTree
import ODataVerif.Tie.ExceptionTree
namespace OQ.C10

def ancestors (c : String) : List String :=
  match ExceptionTree.exceptionTree.find? (fun r => r.1 == c) with
  | some r => r.2
  | none => []

/-- the four exceptions parsing can raise are library exceptions: each reaches `ODataException`,
    the syntax errors through `ODataSyntaxError`, the function errors through `FunctionCallException` -/
theorem lib_hierarchy :
    ancestors "TokenizingException" = ["ODataSyntaxError", "ODataException", "Exception", "BaseException"] ∧
    ancestors "ParsingException" = ["ODataSyntaxError", "ODataException", "Exception", "BaseException"] ∧
    ancestors "UnknownFunctionException" = ["FunctionCallException", "ODataException", "Exception", "BaseException"] ∧
    ancestors "ArgumentCountException" = ["FunctionCallException", "ODataException", "Exception", "BaseException"] := by
  decide +kernel

/-- every class defined in exceptions.py (other than the root) descends from `ODataException` -/
theorem all_rooted : ExceptionTree.exceptionTree.all
    (fun r => r.1 == "ODataException" || r.2.contains "ODataException") = true := by decide +kernel

theorem functionCall_outcomes (f : Ident) (args : Exprs) :
    (∃ e, functionCall f args = .ok e) ∨ (∃ n, functionCall f args = .lib (.unknownFunction n)) ∨
    (∃ n lo hi g, functionCall f args = .lib (.argumentCount n lo hi g)) := by
  unfold functionCall functionCallWith
  split
  · split
    · exact Or.inr (Or.inl ⟨_, rfl⟩)
    · split
      · exact Or.inr (Or.inr ⟨_, _, _, _, rfl⟩)
      · exact Or.inl ⟨_, rfl⟩
  · exact Or.inl ⟨_, rfl⟩

/-- the path action succeeds on every shape the path productions hand to it -/
theorem pathCons_ident (i j : Ident) : pathCons i (.ident j) = .ok (.attr (.ident i) j.name) := rfl

theorem explode_rebuild (names : List Str) (h : Str) :
    ∃ e, rebuildPath (h :: names) = some e := ⟨_, rfl⟩

/-- the model is a function: the same string always gives the same outcome (determinism is
    definitional in the model; across instances and processes it is C20's) -/
theorem deterministic (env : CharEnv) (s : Str) : parseText env s = parseText env s := rfl

/-! the inputs of defects D1 and D2 (DESIGN §7), on the repaired grammar actions -/
example : parseText pyCharEnv "f.g(x=1,y=2,z=3)".toList =
    .ok (.call ⟨['g'], [['f']]⟩ (.cons (.named ⟨['x'], []⟩ (.lit .int ['1'])) (.cons (.named ⟨['y'], []⟩ (.lit .int ['2']))
      (.cons (.named ⟨['z'], []⟩ (.lit .int ['3'])) .nil)))) := by decide +kernel
example : parseText pyCharEnv "a/b/c/any()".toList =
    .ok (.coll (.attr (.attr (.ident ⟨['a'], []⟩) ['b']) ['c']) .any .none) := by decide +kernel
example : parseText pyCharEnv "foo(1)½".toList = .lib (.tokenizing 6) := by decide +kernel
example : parseText pyCharEnv "concat(1) )".toList = .lib (.argumentCount "concat".toList 2 2 1) := by decide +kernel

end OQ.C10
