/-
  C19 at the CHARACTER level: "replacing any run of whitespace by any other non-empty run of
  whitespace characters, and changing the ASCII letter case of the operator and literal keywords, yields an AST with the
  same structure and the same literal values".

  `Spec.Respell env ts s` (Spec/Respell.lean): `s` is an admissible re-spelling of the token list `ts`.
  For every printable tree whose literals / identifiers are lexable (`C13.lexableE'`, as in Props/C13Text.lean — no
  further condition on the re-spelled Boolean / Float texts is needed), every style, mode and re-spelling `s` of the
  printed tokens:
    `lex_respell`   : the lexer reads `s` without error as the printed tokens, up to `normTok` and modulo WS tokens
                      (`lex_respell_ins` : precisely, with a WS token inserted where a blank was written after a unary minus);
    `parse_respell` : `∃ e', parseText pyCharEnv s = .ok e' ∧ normE e' = normE e`.
-/
import ODataVerif.Props.C13Text
import ODataVerif.Lemmas.RespellPieces
import ODataVerif.Lemmas.ParseNorm
import ODataVerif.Lemmas.ParseSepG
namespace OQ.C19
open Spec LexRender Respelling
set_option linter.unusedSimpArgs false

/-- drop the WS tokens (the parser skips them wherever the grammar allows optional whitespace) -/
def dropWs (ts : List Tok) : List Tok := ts.filter (· != .ws)

theorem insWs_dropWs {ts L : List Tok} (h : InsWs ts L) : (dropWs L).map normTok = (dropWs ts).map normTok := by
  induction h with
  | nil => rfl
  | @cons t t' ts L hn _ ih =>
    have hw : (t' != Tok.ws) = (t != Tok.ws) := by
      rw [bne, bne, ← beq_norm (x := .ws) nofun, hn, beq_norm (x := .ws) nofun]
    simp only [dropWs, List.filter_cons, hw] at ih ⊢
    split <;> simp [hn, ih]
  | ins _ _ ih => simpa [dropWs, List.filter_cons] using ih

theorem insWs_length {ts L : List Tok} (h : InsWs ts L) : ts.length ≤ L.length := by
  induction h with
  | nil => exact Nat.le_refl _
  | cons _ _ ih => simp; omega
  | ins _ _ ih => simp; omega

theorem lex_respell_ins (sty : Style) (mode : Mode) (e : Expr) (hp : printable e = true)
    (hl : C13.lexableE' pyCharEnv e = true) (s : Str) (hs : Respell pyCharEnv (printToks sty mode e) s) :
    ∃ L, lexAll pyCharEnv s = ⟨L, none⟩ ∧ InsWs (printToks sty mode e) L := by
  have hc := C13.chain_printToks sty mode e hp hl
  have hc' : chainOk false (printToks sty mode e) := by
    cases hb : sty.afterMinus with
    | false => rw [hb] at hc; exact hc
    | true => rw [hb] at hc; exact chainOk_mono _ hc
  obtain ⟨ps, hfl, hpc, hins⟩ := respell_pieces hs hc'
  exact ⟨ps.map (·.tok), by rw [← hfl]; exact lexAll_pieces ps hpc, hins⟩

theorem lex_respell (sty : Style) (mode : Mode) (e : Expr) (hp : printable e = true)
    (hl : C13.lexableE' pyCharEnv e = true) (s : Str) (hs : Respell pyCharEnv (printToks sty mode e) s) :
    (dropWs (lexAll pyCharEnv s).toks).map normTok = (dropWs (printToks sty mode e)).map normTok
      ∧ (lexAll pyCharEnv s).err = none := by
  obtain ⟨L, hL, hins⟩ := lex_respell_ins sty mode e hp hl s hs
  rw [hL]; exact ⟨insWs_dropWs hins, rfl⟩


open ParseNorm ParseSepG in
theorem sepG_irrel (n : Nat) (S : List Nat) : ∀ x : List Tok, x.length ≤ n → sepG (n :: S) x = sepG S x
  | [], _ => rfl
  | t :: r, h => by
      have hr : r.length ≤ n := by simp at h; omega
      have ih := sepG_irrel n S r hr
      by_cases ht : t = .uminus
      · subst ht
        have hne : (r.length == n) = false := by simp at h ⊢; omega
        simp only [sepG, List.contains_cons, hne, Bool.false_or, ih]
      · rw [ParseSepG.sep_cons_ne ht, ParseSepG.sep_cons_ne ht, ih]

open ParseNorm ParseSepG in
theorem wsHead_G (ts : List Tok) (h : ∀ r, ts ≠ .ws :: r) : wsHead (G ts) = false := by
  cases ts with
  | nil => rfl
  | cons t r =>
    cases t with
    | ws => exact absurd rfl (h r)
    | lit k v => simp [G, normTok_lit, wsHead]
    | _ => rfl

open ParseNorm ParseSepG in
theorem insWs_sepG {ts L : List Tok} (h : InsWs ts L) :
    ∃ S : List Nat, (∀ n ∈ S, n < ts.length) ∧ G L = sepG S (G ts) := by
  induction h with
  | nil => exact ⟨[], by simp, rfl⟩
  | @cons t t' ts L hn _ ih =>
    obtain ⟨S, hS, hG⟩ := ih
    refine ⟨S, fun n hn' => by have := hS n hn'; simp; omega, ?_⟩
    by_cases ht : t = .uminus
    · subst ht
      have ht' : normTok t' = .uminus := hn
      have hnc : S.contains (G ts).length = false := by
        cases hc : S.contains (G ts).length with
        | false => rfl
        | true =>
          have := hS _ (by simpa using hc)
          simp [G] at this
      have ht'' : t' = .uminus := normTok_eq_nonlit (by simp) ht'
      subst ht''
      simp only [G, List.map_cons, normTok, sepG]
      rw [show List.map normTok ts = G ts from rfl, hnc]
      simp only [Bool.false_and, Bool.false_eq_true, if_false]
      rw [← hG]
    · have hnu : normTok t ≠ .uminus := by
        intro e; exact ht (normTok_eq_nonlit (by simp) e)
      simp only [G, List.map_cons]
      rw [ParseSepG.sep_cons_ne hnu, hn]
      rw [show List.map normTok L = G L from rfl, hG]
  | @ins ts L hws _ ih =>
    obtain ⟨S, hS, hG⟩ := ih
    refine ⟨ts.length :: S, ?_, ?_⟩
    · intro n hn
      rcases List.mem_cons.1 hn with rfl | hn
      · simp
      · have := hS n hn; simp; omega
    · have hc : (ts.length :: S).contains (G ts).length = true := by simp [G]
      simp only [G, List.map_cons, normTok, sepG]
      rw [show List.map normTok ts = G ts from rfl, hc, wsHead_G ts hws]
      simp only [Bool.not_false, Bool.and_true, if_true]
      rw [sepG_irrel _ _ _ (by simp [G]), ← hG]

open ParseNorm ParseSepG in
/-- C19 at the character level: every admissible re-spelling of any rendering of a printable, lexable
    tree parses to a tree that is the same up to the letter case of Boolean and Float literal texts -/
theorem parse_respell (sty : Style) (mode : Mode) (e : Expr) (hp : printable e = true)
    (hl : C13.lexableE' pyCharEnv e = true) (s : Str) (hs : Respell pyCharEnv (printToks sty mode e) s) :
    ∃ e', parseText pyCharEnv s = .ok e' ∧ normE e' = normE e := by
  obtain ⟨L, hL, hins⟩ := lex_respell_ins sty mode e hp hl s hs
  obtain ⟨S, -, hG⟩ := insWs_sepG hins
  have hc := Pratt.parseExpr_printToks sty mode e hp (parseFuel L)
    (by have := insWs_length hins; simp only [parseFuel]; omega)
  -- normalise the printed tokens, insert the WS tokens, and read the result as the normalised lexed tokens
  have h1 := (ninv (parseFuel L)).expr 0 (printToks sty mode e)
  rw [hc] at h1
  have h2 := ParseSep.sepInv (ParseSepG.minusWs_sepG S) (parseFuel L) h1
  rw [← hG, (ninv (parseFuel L)).expr 0 L] at h2
  cases hpl : parseExpr false (parseFuel L) 0 L with
  | error err => rw [hpl] at h2; cases h2
  | ok q =>
    obtain ⟨e', r'⟩ := q
    rw [hpl] at h2
    obtain ⟨he, hr⟩ := Prod.mk.inj (Except.ok.inj h2)
    cases List.map_eq_nil_iff.1 hr
    exact ⟨e', by simp [parseText, hL, parseToks, hpl], he⟩


/-! ### non-vacuity: concrete re-spellings -/

inductive Spells : List Tok → List Str → Prop
  | nil : Spells [] []
  | cons {t : Tok} {s : Str} {ts : List Tok} {ss : List Str} : SpellTok pyCharEnv t s → Spells ts ss →
      Spells (t :: ts) (s :: ss)

theorem respell_concat {ts : List Tok} {ss : List Str} {s : Str} (h : Spells ts ss) (hm : ∀ t ∈ ts, t ≠ .uminus)
    (hs : ss.flatten = s) : Respell pyCharEnv ts s := by
  subst hs
  induction h with
  | nil => exact Respell.nil
  | @cons t s ts ss h1 _ ih =>
    exact Respell.cons t ts s _ (hm t List.mem_cons_self) h1 (ih (fun u hu => hm u (List.mem_cons_of_mem _ hu)))

theorem blank (w : String) (h : (!w.toList.isEmpty && w.toList.all pyCharEnv.isSpace) = true := by decide +kernel) :
    isBlankRun pyCharEnv w.toList := by
  rw [Bool.and_eq_true, Bool.not_eq_true', List.isEmpty_eq_false_iff] at h
  exact h

theorem ci (k s : String) (h : s.toList.map asciiLower = k.toList := by decide +kernel) : ciSpell k.toList s.toList := h

def ida (s : String) : Ident := ⟨s.toList, []⟩
def exA : Expr := .boolop .and_ (.compare .eq (.ident (ida "a")) (.lit .int ['1'])) (.unary .not_ (.ident (ida "b")))
def exB : Expr := .compare .in_ (.ident (ida "x")) (.list (.cons (.lit .int ['1']) (.cons (.lit .int ['2']) .nil)))
def exC : Expr := .compare .eq (.lit .duration "P1DT2H".toList) (.ident (ida "d"))
def exD : Expr := .compare .ge (.ident (ida "dt")) (.lit .datetime "2020-01-01T10:00:00Z".toList)
def exE : Expr := .compare .lt (.ident (ida "f")) (.lit .float "1e3".toList)
def exF : Expr := .compare .eq (.ident (ida "b")) (.lit .bool "true".toList)
def exG : Expr := .binop .add (.unary .neg (.lit .int ['1'])) (.unary .neg (.ident (ida "x")))

theorem exA_toks : printToks {} .minimal exA =
    [.ident (ida "a"), .cmp .eq, .lit .int ['1'], .bool .and_, .not_, .ident (ida "b")] := by
  simp [printToks, exA, operand, needsParen, level]
theorem exB_toks : printToks { beforeComma := true, afterComma := true } .minimal exB =
    [.ident (ida "x"), .cmp .in_, .lp, .lit .int ['1'], .ws, .comma, .ws, .lit .int ['2'], .rp] := by
  simp [printToks, printList, printArgs, exB, operand, needsParen, level, paren, commaToks, ws?]
theorem exC_toks : printToks {} .minimal exC = [.lit .duration "P1DT2H".toList, .cmp .eq, .ident (ida "d")] := by
  simp [printToks, exC, operand, needsParen, level]
theorem exD_toks : printToks {} .minimal exD =
    [.ident (ida "dt"), .cmp .ge, .lit .datetime "2020-01-01T10:00:00Z".toList] := by
  simp [printToks, exD, operand, needsParen, level]
theorem exE_toks : printToks {} .minimal exE = [.ident (ida "f"), .cmp .lt, .lit .float "1e3".toList] := by
  simp [printToks, exE, operand, needsParen, level]
theorem exF_toks : printToks {} .minimal exF = [.ident (ida "b"), .cmp .eq, .lit .bool "true".toList] := by
  simp [printToks, exF, operand, needsParen, level]
theorem exG_toks : printToks {} .minimal exG =
    [.uminus, .lit .int ['1'], .arith .add, .uminus, .ident (ida "x")] := by
  simp [printToks, exG, operand, needsParen, level, ws?]

/-- tabs, a newline, CR LF, mixed-case `EQ`, `AnD`, `NOT` -/
theorem exA_respell : Respell pyCharEnv (printToks {} .minimal exA) "a\t\tEQ\n1  AnD\r\nNOT  b".toList :=
  exA_toks ▸ respell_concat
    (.cons (.exact _ rfl) (.cons (.cmp .eq "\t\t".toList "EQ".toList "\n".toList (blank _) (blank _) (ci "eq" "EQ"))
      (.cons (.exact _ rfl) (.cons (.bool .and_ "  ".toList "AnD".toList "\r\n".toList (blank _) (blank _) (ci "and" "AnD"))
        (.cons (.not_ "NOT".toList "  ".toList (ci "not" "NOT") (blank _)) (.cons (.exact _ rfl) .nil))))))
    (by decide) (by decide +kernel)

/-- a newline after the comma of a list -/
theorem exB_respell : Respell pyCharEnv (printToks { beforeComma := true, afterComma := true } .minimal exB)
    "x in (1 ,\n2)".toList :=
  exB_toks ▸ respell_concat
    (.cons (.exact _ rfl) (.cons (.cmp .in_ " ".toList "in".toList " ".toList (blank _) (blank _) (ci "in" "in"))
      (.cons (.exact _ rfl) (.cons (.exact _ rfl) (.cons (.ws _ (blank " ")) (.cons (.exact _ rfl)
        (.cons (.ws _ (blank "\n")) (.cons (.exact _ rfl) (.cons (.exact _ rfl) .nil)))))))))
    (by decide) (by decide +kernel)

/-- the duration prefix and body in the other letter case -/
theorem exC_respell : Respell pyCharEnv (printToks {} .minimal exC) "DURATION'p1dt2h' eq d".toList :=
  exC_toks ▸ respell_concat
    (.cons (.duration _ "DURATION".toList "p1dt2h".toList (ci "duration" "DURATION") (by decide +kernel))
      (.cons (.cmp .eq " ".toList "eq".toList " ".toList (blank _) (blank _) (ci "eq" "eq")) (.cons (.exact _ rfl) .nil)))
    (by decide) (by decide +kernel)

/-- lower-case `t` and `z` in a datetime, upper-case `GE` -/
theorem exD_respell : Respell pyCharEnv (printToks {} .minimal exD) "dt GE 2020-01-01t10:00:00z".toList :=
  exD_toks ▸ respell_concat
    (.cons (.exact _ rfl) (.cons (.cmp .ge " ".toList "GE".toList " ".toList (blank _) (blank _) (ci "ge" "GE"))
      (.cons (.datetime _ "2020-01-01t10:00:00z".toList (by decide +kernel)) .nil)))
    (by decide) (by decide +kernel)

/-- upper-case exponent marker -/
theorem exE_respell : Respell pyCharEnv (printToks {} .minimal exE) "f lt 1E3".toList :=
  exE_toks ▸ respell_concat
    (.cons (.exact _ rfl) (.cons (.cmp .lt " ".toList "lt".toList " ".toList (blank _) (blank _) (ci "lt" "lt"))
      (.cons (.float _ "1E3".toList (by decide +kernel)) .nil)))
    (by decide) (by decide +kernel)

/-- upper-case Boolean literal -/
theorem exF_respell : Respell pyCharEnv (printToks {} .minimal exF) "b eq TRUE".toList :=
  exF_toks ▸ respell_concat
    (.cons (.exact _ rfl) (.cons (.cmp .eq " ".toList "eq".toList " ".toList (blank _) (blank _) (ci "eq" "eq"))
      (.cons (.boolLit _ "TRUE".toList (by decide +kernel)) .nil)))
    (by decide) (by decide +kernel)

/-- a tab where `render` writes the blank after a unary minus, an optional blank after the other one -/
theorem exG_respell : Respell pyCharEnv (printToks {} .minimal exG) "-\t1\nADD\n- x".toList := by
  rw [exG_toks, show "-\t1\nADD\n- x".toList =
    '-' :: "\t".toList ++ ("1".toList ++ ("\nADD\n".toList ++ ('-' :: " ".toList ++ ("x".toList ++ [])))) by decide +kernel]
  exact .minusBlank _ _ _ (blank "\t") (.cons _ _ _ _ (by decide) (.exact _ rfl)
    (.cons _ _ _ _ (by decide) (.arith .add "\n".toList "ADD".toList "\n".toList (blank _) (blank _) (ci "add" "ADD"))
      (.minusBlank _ _ _ (blank " ") (.cons _ _ _ _ (by decide) (.exact _ rfl) .nil))))

/-- the literals and identifiers of the seven trees are lexable (one evaluation: the kernel sets the lexer's rules up once) -/
theorem ex_lexable : C13.lexableE' pyCharEnv exA = true ∧ C13.lexableE' pyCharEnv exB = true ∧
    C13.lexableE' pyCharEnv exC = true ∧ C13.lexableE' pyCharEnv exD = true ∧ C13.lexableE' pyCharEnv exE = true ∧
    C13.lexableE' pyCharEnv exF = true ∧ C13.lexableE' pyCharEnv exG = true := by
  decide +kernel

theorem exA_parse : ∃ e', parseText pyCharEnv "a\t\tEQ\n1  AnD\r\nNOT  b".toList = .ok e' ∧ normE e' = normE exA :=
  parse_respell {} .minimal exA (by decide) ex_lexable.1 _ exA_respell
theorem exB_parse : ∃ e', parseText pyCharEnv "x in (1 ,\n2)".toList = .ok e' ∧ normE e' = normE exB :=
  parse_respell _ .minimal exB (by decide) ex_lexable.2.1 _ exB_respell
theorem exC_parse : ∃ e', parseText pyCharEnv "DURATION'p1dt2h' eq d".toList = .ok e' ∧ normE e' = normE exC :=
  parse_respell {} .minimal exC (by decide) ex_lexable.2.2.1 _ exC_respell
theorem exD_parse : ∃ e', parseText pyCharEnv "dt GE 2020-01-01t10:00:00z".toList = .ok e' ∧ normE e' = normE exD :=
  parse_respell {} .minimal exD (by decide) ex_lexable.2.2.2.1 _ exD_respell
theorem exE_parse : ∃ e', parseText pyCharEnv "f lt 1E3".toList = .ok e' ∧ normE e' = normE exE :=
  parse_respell {} .minimal exE (by decide) ex_lexable.2.2.2.2.1 _ exE_respell
theorem exF_parse : ∃ e', parseText pyCharEnv "b eq TRUE".toList = .ok e' ∧ normE e' = normE exF :=
  parse_respell {} .minimal exF (by decide) ex_lexable.2.2.2.2.2.1 _ exF_respell
theorem exG_parse : ∃ e', parseText pyCharEnv "-\t1\nADD\n- x".toList = .ok e' ∧ normE e' = normE exG :=
  parse_respell {} .minimal exG (by decide) ex_lexable.2.2.2.2.2.2 _ exG_respell

/-- the same facts by evaluation: the parser's trees are the expected ones exactly, except that the Float / Boolean
    texts keep the letter case they were written in -/
theorem ex_eval :
    parseText pyCharEnv "a\t\tEQ\n1  AnD\r\nNOT  b".toList = .ok exA ∧
    parseText pyCharEnv "x in (1 ,\n2)".toList = .ok exB ∧
    parseText pyCharEnv "DURATION'p1dt2h' eq d".toList = .ok exC ∧
    parseText pyCharEnv "dt GE 2020-01-01t10:00:00z".toList = .ok exD ∧
    parseText pyCharEnv "f lt 1E3".toList = .ok (.compare .lt (.ident (ida "f")) (.lit .float "1E3".toList)) ∧
    parseText pyCharEnv "b eq TRUE".toList = .ok (.compare .eq (.ident (ida "b")) (.lit .bool "TRUE".toList)) ∧
    parseText pyCharEnv "-\t1\nADD\n- x".toList = .ok exG := by
  decide +kernel

end OQ.C19
