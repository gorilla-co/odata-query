/-
  C12, "a complete translation: every field, literal, operator and call of the filter is represented", on the ORM backends.
  Literals: C08.dj_params / sa_params (the bound parameters are exactly the filter's literals, in order).  This file: FIELDS — the columns of the tree a
  successful translation returns are exactly the filter's field references (identifiers and paths), in document order; nothing is dropped, duplicated or invented.
-/
import ODataVerif.Model.Orm
import ODataVerif.Lemmas.OrmTree
namespace OQ.C12Orm

mutual
/-- the columns of a translated tree, left to right -/
def cols : OTree → List (List Str)
  | .col p => [p]
  | .node _ args => colsL args
  | _ => []
def colsL : OTrees → List (List Str)
  | .nil => []
  | .cons h t => cols h ++ colsL t
end

/-- an identifier path `a/b/c` as the list of its segment names (`none`: not a path) -/
def pathOf : Expr → Option (List Str)
  | .ident i => some [i.name]
  | .attr o n => (pathOf o).map (· ++ [n])
  | _ => none

mutual
/-- the filter's field references in document order: maximal identifier paths -/
def fieldRefs : Expr → List (List Str)
  | .ident i => [[i.name]]
  | .attr o n => (match pathOf (.attr o n) with
                  | some p => [p]
                  | none => fieldRefs o)
  | .lit _ _ => []
  | .list xs => fieldRefsL xs
  | .binop _ l r => fieldRefs l ++ fieldRefs r
  | .compare _ l r => fieldRefs l ++ fieldRefs r
  | .boolop _ l r => fieldRefs l ++ fieldRefs r
  | .unary _ e => fieldRefs e
  | .named _ e => fieldRefs e
  | .call _ args => fieldRefsL args
  | .coll o _ l => fieldRefs o ++ fieldRefsLam l
def fieldRefsL : Exprs → List (List Str)
  | .nil => []
  | .cons h t => fieldRefs h ++ fieldRefsL t
def fieldRefsLam : OptLam → List (List Str)
  | .none => []
  | .some _ b => fieldRefs b
end

open OQ.OrmParams OQ.OrmTree

@[simp] theorem cols_on1 (op a) : cols (on1 op a) = cols a := List.append_nil _
@[simp] theorem cols_on2 (op a b) : cols (on2 op a b) = cols a ++ cols b := by
  rw [on2, cols, colsL, colsL, colsL, List.append_nil]
@[simp] theorem cols_on3 (op a b c) : cols (on3 op a b c) = cols a ++ (cols b ++ cols c) := by
  rw [on3, cols, colsL, colsL, colsL, colsL, List.append_nil]
@[simp] theorem cols_pint (z) : cols (.pint z) = [] := rfl
@[simp] theorem cols_const (z) : cols (.const z) = [] := rfl
@[simp] theorem cols_col (z) : cols (.col z) = [z] := rfl
@[simp] theorem cols_param (k v) : cols (.param k v) = [] := rfl
@[simp] theorem cols_node (op a) : cols (.node op a) = colsL a := rfl
@[simp] theorem colsL_nil : colsL .nil = [] := rfl
@[simp] theorem colsL_cons (h t) : colsL (.cons h t) = cols h ++ colsL t := rfl
@[simp] theorem colsL_ofList_nil : colsL (OTrees.ofList []) = [] := rfl
@[simp] theorem colsL_ofList_cons (h t) : colsL (OTrees.ofList (h :: t)) = cols h ++ colsL (OTrees.ofList t) := rfl

theorem cols_shift (ts : OTrees) : colsL (shift ts) = colsL ts := by
  unfold shift
  split <;> simp only [colsL_cons, cols_on2, cols_pint, List.append_nil]

theorem planTree_cols (p esc ts) : cols (planTree p esc ts) = colsL ts := by
  cases p <;> simp only [planTree, cols_on1, cols_on2, cols_node, cols_pint, cols_shift, List.append_nil]

def colOf : OTree → Option (List Str)
  | .col p => some p
  | _ => none

theorem colOf_attrStep (n t) : colOf (attrStep n t) = (colOf t).map (· ++ [n]) := by
  cases t <;> rfl

theorem cols_attrStep (n t) : cols (attrStep n t) = (match colOf t with | some p => [p ++ [n]] | none => cols t) := by
  cases t <;> first | rfl | exact cols_on1 _ _

theorem fieldRefs_null_of (e) (h : isNullLit e = true) : fieldRefs e = [] := by
  obtain ⟨v, rfl⟩ := (isNullLit_iff e).1 h
  rw [fieldRefs]

section
variable {leaf : LitKind → Str → OTree} {cmp : CmpOp → Bool → Bool → OTree → OTree → OTree} {plan : String → FPlan}
  (hleaf : ∀ k v, cols (leaf k v) = [] ∧ colOf (leaf k v) = none)
  (hcmp : ∀ op nl nr a b, colOf (cmp op nl nr a b) = none ∧
    ((nl = true → cols a = []) → (nr = true → cols b = []) → cols (cmp op nl nr a b) = cols a ++ cols b))
include hleaf hcmp
set_option linter.unusedSectionVars false

theorem colOf_tree : (e : Expr) → colOf (tree leaf cmp plan e) = pathOf e
  | .ident _ => rfl
  | .attr o n => by rw [tree, pathOf, colOf_attrStep, colOf_tree o]
  | .lit k v => by rw [tree, (hleaf k v).2]; rfl
  | .compare op l r => by rw [tree, (hcmp _ _ _ _ _).1]; rfl
  | .call _ args => by rw [tree]; generalize plan _ = p; cases p <;> rfl
  | .list _ | .binop _ _ _ | .boolop _ _ _ | .unary _ _ | .named _ _ | .coll _ _ _ => rfl

mutual
/-- The columns of an expression's tree are its field references.  `hcmp`: a comparison node may drop or move a `null`
    operand, which refers to no field. -/
theorem cols_tree : (e : Expr) → cols (tree leaf cmp plan e) = fieldRefs e
  | .ident _ => rfl
  | .attr o n => by
      rw [tree, fieldRefs, pathOf, cols_attrStep, colOf_tree hleaf hcmp o, cols_tree o]
      cases pathOf o <;> rfl
  | .lit k v => by rw [tree, fieldRefs]; exact (hleaf k v).1
  | .list xs => by rw [tree, fieldRefs, cols_node, cols_trees xs]
  | .binop _ l r => by rw [tree, fieldRefs, cols_on2, cols_tree l, cols_tree r]
  | .compare op l r => by
      rw [tree, fieldRefs, ← cols_tree l, ← cols_tree r]
      refine (hcmp _ _ _ _ _).2 (fun h => ?_) (fun h => ?_)
      · rw [cols_tree l, fieldRefs_null_of l h]
      · rw [cols_tree r, fieldRefs_null_of r h]
  | .boolop _ l r => by rw [tree, fieldRefs, cols_on2, cols_tree l, cols_tree r]
  | .unary _ e => by rw [tree, fieldRefs, cols_on1, cols_tree e]
  | .named _ e => by rw [tree, fieldRefs, cols_on1, cols_tree e]
  | .call _ args => by rw [tree, fieldRefs, planTree_cols, cols_trees args]
  | .coll o _ l => by rw [tree, fieldRefs, cols_on2, cols_tree o, cols_treeLam l]
theorem cols_trees : (xs : Exprs) → colsL (trees leaf cmp plan xs) = fieldRefsL xs
  | .nil => rfl
  | .cons h t => by rw [trees, fieldRefsL, colsL_cons, cols_tree h, cols_trees t]
theorem cols_treeLam : (l : OptLam) → cols (treeLam leaf cmp plan l) = fieldRefsLam l
  | .none => rfl
  | .some _ b => by rw [treeLam, fieldRefsLam, cols_tree b]
end
end

theorem dj_columns (e : Expr) (t : OTree) (h : djBuild e = .ok t) : cols t = fieldRefs e := by
  rw [djBuild_tree h]
  refine cols_tree ?_ ?_ e
  · intro k v; cases k <;> exact ⟨rfl, rfl⟩
  · intro op nl nr a b
    unfold djCmp
    dsimp only
    split
    · rename_i h
      exact ⟨rfl, fun ha _ => by rw [cols_on1, ha (Bool.and_eq_true _ _ ▸ h).1]; rfl⟩
    · split
      · rename_i h
        exact ⟨rfl, fun _ hb => by rw [cols_on1, hb h, List.append_nil]⟩
      · exact ⟨rfl, fun _ _ => cols_on2 _ _ _⟩

theorem sa_columns (fields : List Str) (core : Bool) (e : Expr) (t : OTree) (h : saBuild fields core e = .ok t) :
    cols t = fieldRefs e := by
  rw [saBuild_tree h]
  refine cols_tree ?_ ?_ e
  · intro k v; cases k <;> exact ⟨rfl, rfl⟩
  · intro op nl nr a b
    unfold saCmp
    split
    · rename_i h
      exact ⟨rfl, fun ha _ => by rw [cols_on2, ha (Bool.and_eq_true _ _ ▸ h).1, List.append_nil]; rfl⟩
    · exact ⟨rfl, fun _ _ => cols_on2 _ _ _⟩

end OQ.C12Orm
