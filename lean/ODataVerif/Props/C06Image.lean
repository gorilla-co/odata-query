/-
  Props/C06Image.lean — what the lexer guarantees about the texts inside the AST of an ACCEPTED filter: the decidable
  side conditions `litOk` (C07 `lex_pieces`, C09 `parse_mirror`) and `durOk` (C12 `sql_never_leaks`) hold for every tree
  the lexer + parser return on an ASCII filter text — so those theorems apply to every accepted ASCII filter, with no
  hypothesis left about literal shapes.  (Non-ASCII digits are accepted by the lexer's `\d` and copied into numeric
  literals: for such filters `litOk` is false — a recorded limitation of the SQL dialects, see DESIGN §7 D10.)
-/
import ODataVerif.Model.Lexer
import ODataVerif.Model.Parser
import ODataVerif.Model.SqlPieces
import ODataVerif.Lemmas.SqlTotal
import ODataVerif.Lemmas.Totality
import ODataVerif.Lemmas.LexImage
import ODataVerif.Lemmas.LexDur
import ODataVerif.Lemmas.ParseImage
namespace OQ.C06

def isAsciiChar (c : Char) : Bool := c.toNat < 128

/-- the payload of a token has the shape its rule's regular expression guarantees -/
def tokShapeOk : Tok → Bool
  | .lit k v => litTextOk pyCharEnv.isDigit k v && SqlTotal.durLitOk pyCharEnv.isDigit k v
  | .ident i => !i.name.contains '"' && i.ns.all (fun n => !n.contains '"')
  | _ => true

theorem boolText_nodq (v : Str) (h : boolText v = true) : (!v.contains '"') = true := by
  cases hc : v.contains '"' with
  | false => rfl
  | true =>
    exfalso
    have hm : '"' ∈ v := by simpa using hc
    have hm' : pyUpperC '"' ∈ pyUpper v := List.mem_map_of_mem hm
    have e : pyUpperC '"' = '"' := by decide
    rw [e] at hm'
    simp only [boolText, Bool.or_eq_true, beq_iff_eq] at h
    rcases h with h | h <;> (rw [h] at hm'; revert hm'; decide)

theorem boolOrIdent_shape (v : Str) (h : boolText v = true) : tokShapeOk (boolOrIdent v) = true := by
  unfold boolOrIdent
  split
  · simp [tokShapeOk, litTextOk, SqlTotal.durLitOk, h]
  · simp only [tokShapeOk, boolText_nodq v h]; rfl

open LexImage in
theorem lexOne_shape (cs : List Char) (t : Tok) (r : List Char) (ha : cs.all isAsciiChar = true)
    (h : lexOne pyCharEnv cs = some (t, r)) : tokShapeOk t = true := by
  have ha' : cs.all LexImage.isAscii = true := ha
  unfold lexOne at h
  repeat' (split at h)
  all_goals cases h
  -- the nine literal rules, in declaration order
  next heq =>
    obtain ⟨p, hp, hok⟩ := scanDuration_ok (isD := pyCharEnv.isDigit) (fun _ _ => rfl) _ _ _ ha' heq
    simp [tokShapeOk, litTextOk, SqlTotal.durLitOk, hp, hok]
  next => rfl
  next => rfl
  next heq => exact litShape_noq (by simp) (scanGuid_noq _ _ _ heq)
  next heq => exact litShape_noq (by simp) (scanDateTime_noq _ _ _ heq)
  next heq => exact litShape_noq (by simp) (scanDatePart_noq _ _ _ heq)
  next heq => exact litShape_noq (by simp) (scanTime_noq _ _ _ heq)
  next heq => exact litShape_num (by simp) (scanDecimal_num _ _ _ ha' heq)
  next heq => exact litShape_num (by simp) (scanInteger_num _ _ _ ha' heq)
  -- `true`, `false`
  iterate 2 next heq => exact boolOrIdent_shape _ (by rw [boolText, scanWord_upper ha' heq]; decide)
  -- of the rules after them only the identifier rule (the 20th) yields a token that carries a text
  iterate 19 next => rfl
  next heq =>
    have := scanIdent_nodq _ _ _ heq
    simp only [tokShapeOk, this.1, this.2]; rfl
  all_goals rfl

theorem lexFuel_shape : ∀ (f pos : Nat) (cs : List Char), cs.all isAsciiChar = true →
    (lexFuel pyCharEnv f pos cs).toks.all tokShapeOk = true :=
  fun f pos cs ha =>
    List.all_eq_true.2 (LexImage.lexFuel_forall pyCharEnv isAsciiChar (tokShapeOk · = true) lexOne_shape f pos cs ha)

theorem lexAll_shape (s : Str) (ha : s.all isAsciiChar = true) :
    (lexAll pyCharEnv s).toks.all tokShapeOk = true :=
  lexFuel_shape _ _ _ ha

/-- for every accepted ASCII filter, the literal-shape hypotheses of the SQL theorems hold, for every dialect -/
theorem accepted_litOk (s : Str) (e : Expr) (d : Dialect) (ha : s.all isAsciiChar = true)
    (h : parseText pyCharEnv s = .ok e) :
    litOk pyCharEnv.isDigit d e = true ∧ SqlTotal.durOk pyCharEnv.isDigit e = true := by
  unfold parseText at h
  refine ParseImage.parseToks_litOk pyCharEnv.isDigit tokShapeOk ?_ ?_ d _ _ e (lexAll_shape s ha) h
  · intro k v hk
    simpa [tokShapeOk] using hk
  · intro i hi
    simp only [tokShapeOk, Bool.and_eq_true, Bool.not_eq_true'] at hi
    exact hi.1

end OQ.C06
