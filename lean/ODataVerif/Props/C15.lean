/-
  C15: "shorthands conjoin the filter with the incoming query and leave the host intact", over the abstract
  query model (Model/Shorthand.lean).

  * `sa_conjoins`, `dj_conjoins`   the rows kept by the result are exactly the rows the base query keeps that also satisfy
                                   the filter's condition
  * `sa_keeps`, `dj_keeps`         existing conditions, joins, ordering and annotations are a prefix of / equal to the result's
  * `sa_no_double_join`            a relationship the base already joins (known by "Model.rel" or by its key) is not joined again
  * `sa_adds_needed`               every relationship the filter needs is joined in the result
  * `registry_default_untouched`   importing the backend does not change what `sqlalchemy.func.<name>` resolves to in the host's
                                   (`_default`) package — because every class declares `package = "odata"` itself (tie theorem)
-/
import ODataVerif.Model.Shorthand
import ODataVerif.Tie.SaFunctions
namespace OQ.C15

variable {ρ : Type}

theorem keep_append_where (q : AQuery ρ) (c : ρ → Bool) (rows : List ρ) :
    ({ q with wheres := q.wheres ++ [c] } : AQuery ρ).keep rows = (q.keep rows).filter c := by
  simp only [AQuery.keep, List.filter_filter]
  congr 1
  funext r
  simp [List.all_append, Bool.and_comm]

/-- the join loop only appends joins: existing joins stay, in order, at the front, and nothing else is touched -/
theorem addJoins_eq (q : AQuery ρ) (req : List Join) :
    ∃ added, addJoins q req = { q with joins := q.joins ++ added } := by
  induction req generalizing q with
  | nil => exact ⟨[], by rw [List.append_nil]; rfl⟩
  | cons j rest ih =>
    rw [addJoins]
    split
    · exact ih q
    · obtain ⟨a, ha⟩ := ih { q with joins := q.joins ++ [{ j with outer := true }] }
      exact ⟨{ j with outer := true } :: a, by rw [ha, List.append_assoc]; rfl⟩

theorem sa_conjoins (q : AQuery ρ) (req : List Join) (c : ρ → Bool) (rows : List ρ) :
    (applySa q req c).keep rows = (q.keep rows).filter c := by
  obtain ⟨added, h⟩ := addJoins_eq q req
  unfold applySa
  rw [h]
  exact keep_append_where q c rows

theorem dj_conjoins (q : AQuery ρ) (an : List Str) (c : ρ → Bool) (rows : List ρ) :
    (applyDj q an c).keep rows = (q.keep rows).filter c := by
  unfold applyDj
  exact keep_append_where { q with annotations := q.annotations ++ an } c rows

theorem sa_keeps (q : AQuery ρ) (req : List Join) (c : ρ → Bool) :
    (∃ added, (applySa q req c).joins = q.joins ++ added) ∧ (applySa q req c).wheres = q.wheres ++ [c]
    ∧ (applySa q req c).order = q.order ∧ (applySa q req c).annotations = q.annotations ∧ (applySa q req c).entity = q.entity := by
  obtain ⟨added, h⟩ := addJoins_eq q req
  unfold applySa
  rw [h]
  exact ⟨⟨added, rfl⟩, rfl, rfl, rfl, rfl⟩

theorem dj_keeps (q : AQuery ρ) (an : List Str) (c : ρ → Bool) :
    (applyDj q an c).joins = q.joins ∧ (applyDj q an c).wheres = q.wheres ++ [c] ∧ (applyDj q an c).order = q.order
    ∧ (∃ added, (applyDj q an c).annotations = q.annotations ++ added) ∧ (applyDj q an c).entity = q.entity :=
  ⟨rfl, rfl, rfl, ⟨an, rfl⟩, rfl⟩

/-- how often a relationship (by its "Model.rel" string) is joined -/
def joinCount (q : AQuery ρ) (rel : Str) : Nat := (q.joins.filter (fun j => j.rel == rel)).length

theorem joinedAttrs_mono (q : AQuery ρ) (js : List Join) (x : Str) (h : (joinedAttrs q).contains x = true) :
    (joinedAttrs ({ q with joins := q.joins ++ js } : AQuery ρ)).contains x = true := by
  simp only [joinedAttrs, List.map_append, List.contains_iff_mem, List.mem_append] at h ⊢
  exact Or.inl h

theorem joinedAttrs_addJoins (q : AQuery ρ) (req : List Join) (x : Str) (h : (joinedAttrs q).contains x = true) :
    (joinedAttrs (addJoins q req)).contains x = true := by
  obtain ⟨added, e⟩ := addJoins_eq q req
  rw [e]
  exact joinedAttrs_mono q added x h

theorem sa_no_double_join (q : AQuery ρ) (req : List Join) (rel : Str)
    (h : (joinedAttrs q).contains rel = true) : joinCount (addJoins q req) rel = joinCount q rel := by
  induction req generalizing q with
  | nil => rfl
  | cons j rest ih =>
    simp only [addJoins]
    split
    · exact ih q h
    · rename_i hn
      have hj : (j.rel == rel) = false := by
        cases hc : (j.rel == rel) with
        | false => rfl
        | true =>
          have : j.rel = rel := by simpa using hc
          rw [this, h] at hn
          simp at hn
      rw [ih _ (joinedAttrs_mono q _ rel h)]
      simp [joinCount, List.filter_append, hj]

theorem sa_adds_needed (q : AQuery ρ) (req : List Join) :
    ∀ j ∈ req, (joinedAttrs (addJoins q req)).contains j.rel = true ∨ (joinedAttrs (addJoins q req)).contains j.key = true := by
  induction req generalizing q with
  | nil => intro j hj; cases hj
  | cons j0 rest ih =>
    intro j hj
    simp only [addJoins]
    rcases List.mem_cons.mp hj with h0 | hr
    · subst h0
      split
      · rename_i hc
        rcases Bool.or_eq_true _ _ |>.mp hc with h1 | h1
        · exact Or.inl (joinedAttrs_addJoins q rest _ h1)
        · exact Or.inr (joinedAttrs_addJoins q rest _ h1)
      · refine Or.inl (joinedAttrs_addJoins _ rest _ ?_)
        simp [joinedAttrs]
    · split
      · exact ih q j hr
      · exact ih _ j hr

theorem lookup_register_other (r : Registry) (pkg pkg' name name' cls : String) (h : pkg' ≠ pkg) :
    (r.register pkg' name' cls).lookup pkg name = r.lookup pkg name := by
  have hb : (pkg' == pkg) = false := by simpa using h
  simp [Registry.lookup, Registry.register, hb]

theorem lookup_foldl_register (fs : List (String × String × String × String)) (pkg name : String)
    (h : ∀ f ∈ fs, f.2.1 ≠ pkg) (r : Registry) :
    (fs.foldl (fun acc f => acc.register f.2.1 f.1 ("odata_query." ++ f.1)) r).lookup pkg name
      = r.lookup pkg name := by
  induction fs generalizing r with
  | nil => rfl
  | cons f fs ih =>
      rw [List.foldl_cons, ih (fun g hg => h g (List.mem_cons_of_mem _ hg)),
        lookup_register_other _ _ _ _ _ _ (h f List.mem_cons_self)]

theorem registry_default_untouched (r : Registry) (name : String) :
    (afterImport r).lookup "_default" name = r.lookup "_default" name :=
  lookup_foldl_register functionsExt "_default" name (by decide) r

/-- non-vacuity: a pre-joined, pre-filtered base and a filter that needs the joined relationship plus a new one -/
example :
    let q : AQuery Nat := ⟨"P".toList, [fun n => n > 1], [⟨"P.o".toList, "o".toList, false⟩], ["-id".toList], []⟩
    let r := applySa q [⟨"P.o".toList, "o".toList, true⟩, ⟨"P.w".toList, "w".toList, true⟩] (fun n => n % 2 == 0)
    r.joins.map (·.rel) = ["P.o".toList, "P.w".toList] ∧ r.keep [1, 2, 3, 4] = [2, 4] ∧ r.order = ["-id".toList] := by decide +kernel

end OQ.C15
