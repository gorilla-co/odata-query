/-
  C13 from accepted TEXT: "for every AST the parser can produce, rendering it back to OData text and parsing
  that text yields an equal AST".  Props/C13Text.lean proves the round trip for every printable tree whose literal / identifier tokens
  lex to themselves (`lexableE'`); Props/C10Image.lean proves that every tree the parser returns is printable.  This file closes the gap:
  every literal / identifier token the LEXER emits (on ASCII text) lexes to itself again — alone, in front of a blank and between
  blanks — unless it is an identifier spelled like an operator keyword (the known finding of C13), and every literal / identifier of
  a parsed tree is such a token.
-/
import ODataVerif.Props.C13Text
import ODataVerif.Props.C10Image
import ODataVerif.Props.C06Image
import ODataVerif.Lemmas.AcceptedLex
import ODataVerif.Lemmas.AcceptedParse
namespace OQ.C13A
open OQ.C13 OQ.C06 OQ.Spec OQ.AcceptedProv

/-- the operator keywords: an un-namespaced identifier spelled like one of them (any letter case) is read as the operator when a
    blank follows / surrounds it -/
def opWords : List Str :=
  ["add", "sub", "mul", "div", "mod", "and", "or", "eq", "ne", "lt", "le", "gt", "ge", "in", "not"].map String.toList
def opNamed (i : Ident) : Bool := i.ns.isEmpty && opWords.contains (i.name.map asciiLower)

mutual
/-- no identifier of the tree (field, path segment, function name, parameter name, lambda variable) is spelled like an operator keyword -/
def opFree : Expr → Bool
  | .ident i => !opNamed i
  | .attr o n => opFree o && !opNamed ⟨n, []⟩
  | .lit _ _ => true
  | .list xs => opFrees xs
  | .binop _ l r | .compare _ l r | .boolop _ l r => opFree l && opFree r
  | .unary _ e => opFree e
  | .named n e => !opNamed n && opFree e
  | .call f args => !opNamed f && opFrees args
  | .coll o _ l => opFree o && opFreeLam l
def opFrees : Exprs → Bool
  | .nil => true
  | .cons h t => opFree h && opFrees t
def opFreeLam : OptLam → Bool
  | .none => true
  | .some v b => !opNamed v && opFree b
end

/-- the keyword literals and the collection operators: an un-namespaced identifier spelled like one of them (any letter case)
    is read as the literal / as `any` / `all` -/
def litWords : List Str := ["true", "false", "null", "any", "all"].map String.toList
/-- an un-namespaced identifier that does not lex as an identifier: spelled like a keyword literal, or led by a digit.  The LEXER
    never emits such a token; the PARSER builds one when it drops the namespace of a path segment (`x/a.true` ↦ `x/true`,
    `x/a.1` ↦ `x/1`, `a.null/b/c` ↦ `null/b/c`) -/
def kwNamed (i : Ident) : Bool :=
  i.ns.isEmpty && (litWords.contains (i.name.map asciiLower) ||
    (match i.name with | c :: _ => pyCharEnv.isDigit c | [] => false))

mutual
/-- no path root / path segment of the tree is spelled like a keyword literal or led by a digit (the positions where the parser
    may have dropped a namespace; function names, parameter names and lambda variables keep the token's identifier) -/
def kwFree : Expr → Bool
  | .ident i => !kwNamed i
  | .attr o n => kwFree o && !kwNamed ⟨n, []⟩
  | .lit _ _ => true
  | .list xs => kwFrees xs
  | .binop _ l r | .compare _ l r | .boolop _ l r => kwFree l && kwFree r
  | .unary _ e => kwFree e
  | .named _ e => kwFree e
  | .call _ args => kwFrees args
  | .coll o _ l => kwFree o && kwFreeLam l
def kwFrees : Exprs → Bool
  | .nil => true
  | .cons h t => kwFree h && kwFrees t
def kwFreeLam : OptLam → Bool
  | .none => true
  | .some _ b => kwFree b
end

theorem opNamed_eq (i : Ident) : opNamed i = AcceptedLex.opNamedL i := rfl
theorem kwNamed_eq (i : Ident) : kwNamed i = AcceptedLex.kwNamedL i := rfl

theorem lexed_lexable (cs r : Str) (t : Tok) (ha : cs.all isAsciiChar = true) (h : lexOne pyCharEnv cs = some (t, r))
    (hli : LexRender.isLI t = true) (hk : ∀ i, t = .ident i → opNamed i = false) :
    tokLexable' pyCharEnv t = true :=
  AcceptedLex.lexed_lexable_core (cs := cs) (r := r) ha h hli hk

open AcceptedLex (Emitted) in
theorem emitted_ident {i : Ident} (he : Emitted (.ident i)) (hop : opNamed i = false) :
    tokLexable' pyCharEnv (.ident i) = true := by
  obtain ⟨cs, r, ha, h⟩ := he
  exact AcceptedLex.lexed_lexable_core ha h rfl (fun j e => by cases e; exact hop)

open AcceptedLex (Emitted) in
theorem emitted_lit {k : LitKind} {v : Str} (he : Emitted (.lit k v)) : tokLexable' pyCharEnv (.lit k v) = true := by
  obtain ⟨cs, r, ha, h⟩ := he
  exact AcceptedLex.lexed_lexable_core ha h rfl (fun j e => by cases e)

open AcceptedLex (Emitted) in
theorem emitted_name {n : Str} (he : NameOk Emitted n) (hop : opNamed ⟨n, []⟩ = false) (hkw : kwNamed ⟨n, []⟩ = false) :
    tokLexable' pyCharEnv (.ident ⟨n, []⟩) = true := by
  obtain ⟨ns, he⟩ := he
  exact AcceptedLex.name_lexable_core he hop hkw

open AcceptedLex (Emitted) in
theorem emitted_idOk {i : Ident} (he : IdOk Emitted i) (hop : opNamed i = false) (hkw : kwNamed i = false) :
    tokLexable' pyCharEnv (.ident i) = true := by
  rcases he with he | ⟨hns, he⟩
  · exact emitted_ident he hop
  · obtain ⟨n, ns⟩ := i
    simp only at hns he
    subst hns
    exact emitted_name he hop hkw

open AcceptedLex (Emitted) in
mutual
theorem prov_lexable : (e : Expr) → Prov Emitted e → opFree e = true → kwFree e = true → lexableE' pyCharEnv e = true
  | .ident i, hp, ho, hk => by
      simp only [Prov] at hp
      simp only [opFree, kwFree, Bool.not_eq_true'] at ho hk
      simpa [lexableE'] using emitted_idOk hp ho hk
  | .attr o n, hp, ho, hk => by
      simp only [Prov] at hp
      simp only [opFree, kwFree, Bool.and_eq_true, Bool.not_eq_true'] at ho hk
      simp only [lexableE', Bool.and_eq_true]
      exact ⟨prov_lexable o hp.1 ho.1 hk.1, emitted_name hp.2 ho.2 hk.2⟩
  | .lit k v, hp, _, _ => by
      simp only [Prov] at hp
      simpa [lexableE'] using emitted_lit hp
  | .list xs, hp, ho, hk => by
      simp only [Prov] at hp
      simp only [opFree, kwFree] at ho hk
      simpa [lexableE'] using provL_lexable xs hp ho hk
  | .binop _ l r, hp, ho, hk | .compare _ l r, hp, ho, hk | .boolop _ l r, hp, ho, hk => by
      simp only [Prov] at hp
      simp only [opFree, kwFree, Bool.and_eq_true] at ho hk
      simp only [lexableE', Bool.and_eq_true]
      exact ⟨prov_lexable l hp.1 ho.1 hk.1, prov_lexable r hp.2 ho.2 hk.2⟩
  | .unary _ e, hp, ho, hk => by
      simp only [Prov] at hp
      simp only [opFree, kwFree] at ho hk
      simpa [lexableE'] using prov_lexable e hp ho hk
  | .named n e, hp, ho, hk => by
      simp only [Prov] at hp
      simp only [opFree, kwFree, Bool.and_eq_true, Bool.not_eq_true'] at ho hk
      simp only [lexableE', Bool.and_eq_true]
      exact ⟨emitted_ident hp.1 ho.1, prov_lexable e hp.2 ho.2 hk⟩
  | .call f args, hp, ho, hk => by
      simp only [Prov] at hp
      simp only [opFree, kwFree, Bool.and_eq_true, Bool.not_eq_true'] at ho hk
      simp only [lexableE', Bool.and_eq_true]
      exact ⟨emitted_ident hp.1 ho.1, provL_lexable args hp.2 ho.2 hk⟩
  | .coll o _ l, hp, ho, hk => by
      simp only [Prov] at hp
      simp only [opFree, kwFree, Bool.and_eq_true] at ho hk
      simp only [lexableE', Bool.and_eq_true]
      exact ⟨prov_lexable o hp.1 ho.1 hk.1, provLam_lexable l hp.2 ho.2 hk.2⟩
theorem provL_lexable : (xs : Exprs) → ProvL Emitted xs → opFrees xs = true → kwFrees xs = true →
    lexableEs' pyCharEnv xs = true
  | .nil, _, _, _ => by simp [lexableEs']
  | .cons h t, hp, ho, hk => by
      simp only [ProvL] at hp
      simp only [opFrees, kwFrees, Bool.and_eq_true] at ho hk
      simp only [lexableEs', Bool.and_eq_true]
      exact ⟨prov_lexable h hp.1 ho.1 hk.1, provL_lexable t hp.2 ho.2 hk.2⟩
theorem provLam_lexable : (l : OptLam) → ProvLam Emitted l → opFreeLam l = true → kwFreeLam l = true →
    lexableLam' pyCharEnv l = true
  | .none, _, _, _ => by simp [lexableLam']
  | .some v b, hp, ho, hk => by
      simp only [ProvLam] at hp
      simp only [opFreeLam, kwFreeLam, Bool.and_eq_true, Bool.not_eq_true'] at ho hk
      simp only [lexableLam', Bool.and_eq_true]
      exact ⟨emitted_ident hp.1 ho.1, prov_lexable b hp.2 ho.2 hk⟩
end

/-- Without `hn` the statement is false (`accepted_lexable_original_false` below): `x/a.true` is accepted and parses to
    `.attr (.ident x) "true"` — the parser (`pathCons`) keeps only the NAME of a namespaced path segment — which is `opFree`, but its
    text `x/true` does not parse back (the segment is read as the Boolean literal).  Likewise `x/a.1` ↦ `x/1`, `x/a.null`, `x/a.any`,
    `a.true/b/c` ↦ `true/b/c`. -/
theorem accepted_lexable (s : Str) (e : Expr) (ha : s.all isAsciiChar = true) (h : parseText pyCharEnv s = .ok e)
    (hk : opFree e = true) (hn : kwFree e = true) : lexableE' pyCharEnv e = true := by
  have hp : Prov AcceptedLex.Emitted e :=
    AcceptedParse.parseToks_prov AcceptedLex.Emitted _ _ e (AcceptedLex.lexAll_emitted s ha) h
  exact prov_lexable e hp hk hn

/-- C13 for every accepted ASCII text: the tree it parses to survives rendering and re-parsing -/
theorem roundtrip_accepted (s : Str) (e : Expr) (ha : s.all isAsciiChar = true) (h : parseText pyCharEnv s = .ok e)
    (hk : opFree e = true) (hn : kwFree e = true) : parseText pyCharEnv (rtRender e) = .ok e :=
  roundtrip_text e (C10.parse_image pyCharEnv s e h) (accepted_lexable s e ha h hk hn)

/-- rendering is a fixpoint after one step -/
theorem render_fixpoint (s : Str) (e e' : Expr) (ha : s.all isAsciiChar = true) (h : parseText pyCharEnv s = .ok e)
    (hk : opFree e = true) (hn : kwFree e = true) (h' : parseText pyCharEnv (rtRender e) = .ok e') :
    rtRender e' = rtRender e := by
  have := roundtrip_accepted s e ha h hk hn
  rw [this] at h'; cases h'; rfl

/-! ### counterexample: why `kwFree` is in the statements -/

/-- `x/a.true` -/
def cexText : Str := "x/a.true".toList
/-- the tree it parses to: the path `x/true` (the namespace `a` of the second segment is dropped by the parser) -/
def cexTree : Expr := .attr (.ident ⟨['x'], []⟩) "true".toList

/-- `accepted_lexable` and `roundtrip_accepted` without `kwFree` are false -/
theorem accepted_lexable_original_false :
    cexText.all isAsciiChar = true ∧ parseText pyCharEnv cexText = .ok cexTree ∧ opFree cexTree = true ∧
    lexableE' pyCharEnv cexTree = false ∧ parseText pyCharEnv (rtRender cexTree) ≠ .ok cexTree ∧ kwFree cexTree = false := by
  decide +kernel

theorem lexable_kwNamed {i : Ident} (h : tokLexable' pyCharEnv (.ident i) = true) : kwNamed i = false := by
  obtain ⟨n, ns⟩ := i
  cases ns with
  | nil => exact AcceptedLex.lexable_not_kw h
  | cons a b => rfl

mutual
/-- every lexable tree is `kwFree`: no weaker tree-level hypothesis can replace `hn` in `accepted_lexable` -/
theorem lexable_kwFree : (e : Expr) → lexableE' pyCharEnv e = true → kwFree e = true
  | .ident i, h => by
      simp only [lexableE'] at h
      simp only [kwFree, Bool.not_eq_true']
      exact lexable_kwNamed h
  | .attr o n, h => by
      simp only [lexableE', Bool.and_eq_true] at h
      simp only [kwFree, Bool.and_eq_true, Bool.not_eq_true']
      exact ⟨lexable_kwFree o h.1, lexable_kwNamed h.2⟩
  | .lit _ _, _ => rfl
  | .list xs, h => by
      simp only [lexableE'] at h
      simpa [kwFree] using lexables_kwFree xs h
  | .binop _ l r, h | .compare _ l r, h | .boolop _ l r, h => by
      simp only [lexableE', Bool.and_eq_true] at h
      simp only [kwFree, Bool.and_eq_true]
      exact ⟨lexable_kwFree l h.1, lexable_kwFree r h.2⟩
  | .unary _ e, h => by
      simp only [lexableE'] at h
      simpa [kwFree] using lexable_kwFree e h
  | .named _ e, h => by
      simp only [lexableE', Bool.and_eq_true] at h
      simpa [kwFree] using lexable_kwFree e h.2
  | .call _ args, h => by
      simp only [lexableE', Bool.and_eq_true] at h
      simpa [kwFree] using lexables_kwFree args h.2
  | .coll o _ l, h => by
      simp only [lexableE', Bool.and_eq_true] at h
      simp only [kwFree, Bool.and_eq_true]
      exact ⟨lexable_kwFree o h.1, lexableLam_kwFree l h.2⟩
theorem lexables_kwFree : (xs : Exprs) → lexableEs' pyCharEnv xs = true → kwFrees xs = true
  | .nil, _ => rfl
  | .cons a t, h => by
      simp only [lexableEs', Bool.and_eq_true] at h
      simp only [kwFrees, Bool.and_eq_true]
      exact ⟨lexable_kwFree a h.1, lexables_kwFree t h.2⟩
theorem lexableLam_kwFree : (l : OptLam) → lexableLam' pyCharEnv l = true → kwFreeLam l = true
  | .none, _ => rfl
  | .some _ b, h => by
      simp only [lexableLam', Bool.and_eq_true] at h
      simpa [kwFreeLam] using lexable_kwFree b h.2
end

end OQ.C13A
