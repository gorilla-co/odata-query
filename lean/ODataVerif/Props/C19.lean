/-
  C19: "Whitespace layout and keyword case do not change the meaning of a filter".
  Token level: optional whitespace (every BWS position, both sides of commas and colons, inside
  parentheses, after unary minus) never changes the parse — that is `parse_printToks`, which holds
  for EVERY `Style`.  Character level (any whitespace run, any keyword case): Props/C19Text.lean.
  Here: the token-level statement and the literal values that depend on spelling.
-/
import ODataVerif.Model.Lexer
import ODataVerif.Model.PyVal
import ODataVerif.Props.C05Roundtrip
import ODataVerif.Tie.ParserTables
namespace OQ.C19
open Spec

/-- two whitespace styles of the same tree parse to the same tree -/
theorem layout_invariant (s1 s2 : Style) (m1 m2 : Mode) (e : Expr) (h : printable e = true) :
    parseToks none (printToks s1 m1 e) = parseToks none (printToks s2 m2 e) := by
  rw [C05.parse_printToks s1 m1 e h, C05.parse_printToks s2 m2 e h]

/-- the value of a boolean literal does not depend on the letter case of its spelling (ast.py:76) -/
theorem bool_value_case (v w : Str) (h : v.map asciiLower = w.map asciiLower) :
    pyVal .bool v = pyVal .bool w := by
  simp [pyVal, h]

/-- keyword case of the datetime separator / suffix is normalised by the token action (grammar.py DATETIME) -/
example : (lexAll pyCharEnv "2020-01-01t10:00:00z".toList).toks = [.lit .datetime "2020-01-01T10:00:00Z".toList] := by
  decide +kernel
example : (lexAll pyCharEnv "a  \tEQ\n NULL".toList).toks = (lexAll pyCharEnv "a eq null".toList).toks := by
  decide +kernel
example : (lexAll pyCharEnv "DURATION'p1dt2h'".toList).toks = (lexAll pyCharEnv "duration'P1DT2H'".toList).toks := by
  decide +kernel

end OQ.C19
