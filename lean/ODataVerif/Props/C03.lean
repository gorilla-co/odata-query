/-
  C03: "SQLAlchemy ORM and Core shorthands return exactly the rows the filter denotes", for the typed scalar
  fragment, about the model of the shared SQLAlchemy visitors (Model/Orm.lean `saBuild`) composed with the environment
  model of SQLAlchemy's SQLite compiler (Spec/OrmSql.lean `saSql`) and of SQLite.

  * `orm_core_agree`   on path-free filters the ORM and the Core visitor build the same tree
  * `keyword_case`     a Boolean literal means the same however the keyword is spelled (`TRUE`, `True`, `true`)
  * `sa_never_leaks`   the visitor model returns a tree or a library exception for every typed filter
  * `sa_translates`    a tree with an SQL model for every filter of `saFrag` (Lemmas/SaSound.lean) over known fields (no unary minus, no
                       div — true division on SQLAlchemy: known finding —, no indexof / concat — strpos / concat do not exist on SQLite)
  * `sound`            for every typed filter the visitor translates into modelled SQL and every row inside `semOkSa`, the
                       compiled SQL selects the row iff OData's semantics makes the filter true
-/
import ODataVerif.Props.C01
import ODataVerif.Spec.OrmSql
import ODataVerif.Spec.OrmSemOk
import ODataVerif.Lemmas.SaSound
import ODataVerif.Lemmas.SqlTotal
namespace OQ.C03
open Spec

variable (fields : List Str)

theorem orm_core_agree (b : BoolE) : saBuild fields false b.toExpr = saBuild fields true b.toExpr := by
  unfold saBuild
  rw [SaSound.agreeB fields b]

theorem keyword_case (core : Bool) (v v' : Str) (h : pyLower v = pyLower v') :
    saBuild fields core (.lit .bool v) = saBuild fields core (.lit .bool v') := by
  unfold saBuild
  rw [SaSound.visit_boolLit, SaSound.visit_boolLit, h]

theorem sa_never_leaks (core : Bool) (b : BoolE) : SqlTotal.clean (saBuild fields core b.toExpr) = true :=
  SqlTotal.clean_bind _ _ (OrmSound.res_clean (SaSound.specB fields core b)) (fun _ => rfl)

theorem sa_translates (core : Bool) (b : BoolE) (hw : C01.wfB b = true) (hf : saFrag b = true) (hc : colsB fields b = true) :
    ∃ t s, saBuild fields core b.toExpr = .ok t ∧ saSql t = some s := by
  obtain ⟨⟨t, k⟩, hv, hp⟩ := OrmSound.res_run (SaSound.specB fields core b) ⟨hf, hc⟩
  obtain ⟨s, hs⟩ := hp.2.2.2 hw hf
  exact ⟨t, s, by rw [saBuild, hv]; rfl, hs⟩

theorem sound (core : Bool) (b : BoolE) (ρ : Row) (t : OTree) (s : SqlTree) (hw : C01.wfB b = true) (h : semOkSa ρ b = true)
    (hb : saBuild fields core b.toExpr = .ok t) (hs : saSql t = some s) :
    sqliteSelects ρ s = some (selects ρ b) := by
  obtain ⟨⟨t', k⟩, hv, hb⟩ := Outcome.bind_eq_ok (x := saVisit fields core b.toExpr) (f := fun p => .ok p.1) hb
  cases hb
  have he := (OrmSound.res_ok (SaSound.specB fields core b) hv).2.2.1 ρ s hw h hs
  unfold sqliteSelects selects
  rw [he]
  simp

end OQ.C03
