/-
  ISO-8601 spellings of dates are ordered (ordinally, by code point: Spec.strLt, the order SQLite's TEXT
  comparison and OData's string comparison use) exactly as the dates are ordered chronologically; the spelling is injective and is
  read back by `ofIso`.  This is the fact that makes "store dates as text, compare the texts" a correct translation of date
  comparisons (SQLite dialect `DATE('…')`, Django / SQLAlchemy date columns on SQLite).
-/
import ODataVerif.Spec.DateSem
import ODataVerif.Lemmas.DateOrder
namespace OQ.DateSem
open Spec

theorem iso_order (a b : DateV) (ha : a.wf = true) (hb : b.wf = true) : strLt a.iso b.iso = a.lt b := by
  simp only [DateV.wf, Bool.and_eq_true, decide_eq_true_eq] at ha hb
  rw [iso_eq, iso_eq, strLt_append _ _ _ _ (digs_length_eq ..), strLt_cons_self, strLt_append _ _ _ _ (digs_length_eq ..),
    strLt_cons_self, digs_lt 4 ha.1.1 hb.1.1, digs_beq 4 ha.1.1 hb.1.1, digs_lt 2 ha.1.2 hb.1.2, digs_beq 2 ha.1.2 hb.1.2,
    digs_lt 2 ha.2 hb.2]
  rfl

theorem iso_inj (a b : DateV) (ha : a.wf = true) (hb : b.wf = true) (h : a.iso = b.iso) : a = b := by
  obtain ⟨y, m, d⟩ := a
  obtain ⟨y', m', d'⟩ := b
  simp only [DateV.wf, Bool.and_eq_true, decide_eq_true_eq] at ha hb
  rw [iso_eq, iso_eq] at h
  obtain ⟨hy, h⟩ := List.append_inj h (digs_length_eq ..)
  obtain ⟨hm, h⟩ := List.append_inj (List.cons.inj h).2 (digs_length_eq ..)
  rw [(digs_inj 4 ha.1.1 hb.1.1).1 hy, (digs_inj 2 ha.1.2 hb.1.2).1 hm, (digs_inj 2 ha.2 hb.2).1 (List.cons.inj h).2]

theorem ofIso_iso (a : DateV) (ha : a.wf = true) : DateV.ofIso a.iso = some a := by
  obtain ⟨y, m, d⟩ := a
  simp only [DateV.wf, Bool.and_eq_true, decide_eq_true_eq] at ha
  simp only [DateV.iso, dig4, dig2, List.cons_append, List.nil_append, DateV.ofIso, digitVal_digitChar]
  simp only [Option.some.injEq, DateV.mk.injEq]
  omega

theorem cmp_iso (k : CmpK) (a b : DateV) (ha : a.wf = true) (hb : b.wf = true) : cmpStr k a.iso b.iso = cmpDate k a b := by
  have heq : (a.iso == b.iso) = (a == b) := by
    rw [Bool.eq_iff_iff]; simp only [beq_iff_eq]
    exact ⟨iso_inj a b ha hb, fun h => by rw [h]⟩
  cases k <;> simp only [cmpStr, cmpDate, bne, heq, iso_order a b ha hb, iso_order b a hb ha]

/-- `lt` is a strict total order -/
theorem lt_irrefl (a : DateV) : a.lt a = false := by
  simp [DateV.lt]
theorem lt_trans (a b c : DateV) (h1 : a.lt b = true) (h2 : b.lt c = true) : a.lt c = true := by
  simp only [DateV.lt, Bool.or_eq_true, Bool.and_eq_true, decide_eq_true_eq, beq_iff_eq] at *
  omega
theorem lt_trichotomy (a b : DateV) : a.lt b = true ∨ a = b ∨ b.lt a = true := by
  obtain ⟨y, m, d⟩ := a
  obtain ⟨y', m', d'⟩ := b
  simp only [DateV.lt, Bool.or_eq_true, Bool.and_eq_true, decide_eq_true_eq, beq_iff_eq, DateV.mk.injEq]
  omega

end OQ.DateSem
