/-
  C18: "Type inference never reports a wrong type".
-/
import ODataVerif.Model.Typing
import ODataVerif.Spec.Types
import ODataVerif.Tie.ReturnTypes
namespace OQ.C18
open Spec

/-- the class `infer_type` would have to report for an OData type -/
def tyOf : OTy → Ty
  | .prim k => .lit k
  | .coll => .list

/-- what the model's return-type rule must satisfy on one row of the signature table -/
def RowOk (r : String × List OTy × OTy) : Bool :=
  match inferReturnRule r.1 with
  | .fixed t => t == tyOf r.2.2
  | .arg0or1 => r.2.1 == [r.2.2, r.2.2]
  | .arg0 => r.2.1.head? == some r.2.2
  | .unknown => true

/-- every row of the OData signature table is respected (finite table, checked by the kernel) -/
theorem all_rows_ok : sigTable.all RowOk = true := by decide +kernel

/-- the return-type table agrees with the OData signatures, for *every* name and argument types -/
theorem rule_sound (fn : String) (tys : List OTy) (τ : OTy) (h : sigResult fn tys = some τ) :
    (∀ t, inferReturnRule fn = .fixed t → t = tyOf τ) ∧
    (inferReturnRule fn = .arg0or1 → tys = [τ, τ]) ∧
    (inferReturnRule fn = .arg0 → ∃ rest, tys = τ :: rest) := by
  unfold sigResult at h
  split at h
  · rename_i r hr
    cases h
    have hmem := List.mem_of_find?_eq_some hr
    have hp := List.find?_some hr
    simp only [Bool.and_eq_true, beq_iff_eq] at hp
    obtain ⟨h1, h2⟩ := hp
    have hok := (List.all_eq_true.mp all_rows_ok) r hmem
    unfold RowOk at hok
    subst h1; subst h2
    refine ⟨?_, ?_, ?_⟩
    · intro t ht; rw [ht] at hok; simpa using hok
    · intro ht; rw [ht] at hok; simpa using hok
    · intro ht; rw [ht] at hok
      cases hl : r.2.1 with
      | nil => simp [hl] at hok
      | cons a as => simp [hl] at hok; exact ⟨as, by rw [hok]⟩
  · cases h

theorem typesOf_cons {Γ a as tys} (h : typesOf Γ (.cons a as) = some tys) :
    ∃ τ rest, tys = τ :: rest ∧ typeOf Γ a = some τ ∧ typesOf Γ as = some rest := by
  unfold typesOf at h
  split at h
  · rename_i x y hx hy; cases h; exact ⟨_, _, rfl, hx, hy⟩
  · cases h

/-- **Soundness**: whenever `infer_type` answers, it answers the expression's actual OData type. -/
theorem sound (Γ : Expr → Option OTy) : (e : Expr) → (τ : OTy) → typeOf Γ e = some τ →
    (k : Ty) → inferType e = some k → k = tyOf τ
  | .ident _, _, _, _, hk => nomatch hk
  | .attr _ _, _, _, _, hk => nomatch hk
  | .lit k' _, τ, ht, k, hk => by
      cases ht; cases hk; rfl
  | .list _, τ, ht, k, hk => by
      simp [inferType] at hk; subst hk
      unfold typeOf at ht
      simp at ht
      obtain ⟨_, rfl⟩ := ht; rfl
  | .compare o l r, τ, ht, k, hk => by
      simp [inferType] at hk; subst hk
      cases o <;> (unfold typeOf at ht; split at ht <;> first | (cases ht; rfl) | cases ht)
  | .boolop _ l r, τ, ht, k, hk => by
      simp [inferType] at hk; subst hk
      unfold typeOf at ht; split at ht <;> first | (cases ht; rfl) | cases ht
  | .unary _ _, _, _, _, hk => nomatch hk
  | .binop _ _ _, _, _, _, hk => nomatch hk
  | .named _ _, _, _, _, hk => nomatch hk
  | .coll _ _ _, _, _, _, hk => nomatch hk
  | .call f args, τ, ht, k, hk => by
      unfold typeOf at ht
      cases hty : typesOf Γ args with
      | none => simp [hty] at ht
      | some tys =>
        simp [hty] at ht
        obtain ⟨hfix, h01, h0⟩ := rule_sound _ _ _ ht
        unfold inferType at hk
        cases hr : inferReturnRule (String.ofList f.fullName) with
        | fixed t => simp [hr] at hk; subst hk; exact hfix _ hr
        | unknown => simp [hr] at hk
        | arg0 =>
            simp [hr] at hk
            obtain ⟨rest, hrest⟩ := h0 hr
            match args, hty, hk with
            | .nil, hty, hk => simp [inferFirst] at hk
            | .cons a as, hty, hk =>
                obtain ⟨τ', rest', e1, ha, _⟩ := typesOf_cons hty
                rw [hrest] at e1; cases e1
                exact sound Γ a _ ha k (by simpa [inferFirst] using hk)
        | arg0or1 =>
            simp [hr] at hk
            have h2 := h01 hr
            match args, hty, hk with
            | .nil, hty, hk => simp [inferFirst2] at hk
            | .cons a .nil, hty, hk =>
                obtain ⟨τ', rest', e1, ha, hrest⟩ := typesOf_cons hty
                rw [h2] at e1; cases e1
                exact sound Γ a _ ha k (by simpa [inferFirst2] using hk)
            | .cons a (.cons b bs), hty, hk =>
                obtain ⟨τ', rest', e1, ha, hrest⟩ := typesOf_cons hty
                obtain ⟨τ'', rest'', e2, hb, _⟩ := typesOf_cons hrest
                rw [h2] at e1; cases e1; cases e2
                unfold inferFirst2 at hk
                cases hia : inferType a with
                | some t => simp [hia] at hk; subst hk; exact sound Γ a _ ha t hia
                | none => simp [hia] at hk; exact sound Γ b _ hb k hk

/-- a type check never rejects a well-typed argument whose type is among the allowed ones -/
theorem typecheck_accepts_welltyped (Γ : Expr → Option OTy) (e : Expr) (τ : OTy)
    (allowed : List Ty) (field : Str) (ht : typeOf Γ e = some τ) (ha : tyOf τ ∈ allowed) :
    typecheck e allowed field = .ok () := by
  unfold typecheck
  cases hk : inferType e with
  | none => rfl
  | some k =>
      have := sound Γ e τ ht k hk
      subst this
      simp [ha]

/-- … and rejects an argument that is a literal of a kind outside the allowed set -/
theorem typecheck_rejects_bad_literal (k : LitKind) (v : Str) (allowed : List Ty) (field : Str)
    (h : Ty.lit k ∉ allowed) :
    typecheck (.lit k v) allowed field = .lib (.argumentType field) := by
  simp [typecheck, inferType, h]

/-- literals, comparisons and logical operators are always inferred, and correctly -/
theorem infer_literal (k : LitKind) (v : Str) : inferType (.lit k v) = some (.lit k) := rfl
theorem infer_compare (o : CmpOp) (l r : Expr) : inferType (.compare o l r) = some (.lit .bool) := rfl
theorem infer_boolop (o : BoolOp) (l r : Expr) : inferType (.boolop o l r) = some (.lit .bool) := rfl

/-! non-vacuity -/
def Γ₀ : Expr → Option OTy
  | .ident ⟨['s'], []⟩ => some (.prim .str)
  | .ident ⟨['n'], []⟩ => some (.prim .int)
  | _ => none
example : typeOf Γ₀ (.call ⟨"concat".toList, []⟩ (.cons (.ident ⟨['s'], []⟩) (.cons (.lit .str ['x']) .nil)))
    = some (.prim .str) := by decide +kernel
example : inferType (.call ⟨"concat".toList, []⟩ (.cons (.ident ⟨['s'], []⟩) (.cons (.lit .str ['x']) .nil)))
    = some (.lit .str) := by decide +kernel
example : typeOf Γ₀ (.call ⟨"substring".toList, []⟩ (.cons (.lit .str ['x']) (.cons (.ident ⟨['n'], []⟩) .nil)))
    = some (.prim .str) := by decide +kernel

end OQ.C18
