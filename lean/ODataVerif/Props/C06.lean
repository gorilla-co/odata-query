/-
  Props/C06.lean — "Every literal and identifier is recognised as its own kind with its exact value".
  The kind and value of every well-formed spelling are in Props/C06Value.lean, the shapes the lexer guarantees in
  Props/C06Image.lean; this file: dot-free identifiers, and test vectors for `pyVal` and the keyword rules.
-/
import ODataVerif.Model.Lexer
import ODataVerif.Model.PyVal
namespace OQ.C06

theorem splitDots_nodot : (n : Str) → '.' ∉ n → splitDots n = [n]
  | [], _ => rfl
  | c :: t, h => by
      simp only [List.mem_cons, not_or] at h
      have hc : c ≠ '.' := fun e => h.1 e.symm
      rw [splitDots.eq_def]
      simp [hc, splitDots_nodot t h.2]

theorem identOfText_simple (n : Str) (h : '.' ∉ n) : identOfText n = ⟨n, []⟩ := by
  simp [identOfText, splitDots_nodot n h]

example : pyVal .int "-0042".toList = .ok (.int (-42)) := by decide +kernel
example : pyVal .date "2020-02-29".toList = .ok (.date 2020 2 29) := by decide +kernel
example : pyVal .date "2021-02-29".toList = .foreign "ValueError" := by decide +kernel
example : pyVal .duration "-P1Y2M3DT4H5M6.5S".toList
    = .ok (.duration (-((31557600 + 2 * 2630016 + 3 * 86400 + 4 * 3600 + 5 * 60) * 1000000 + 6500000 : Int))) := by decide +kernel
example : pyVal .datetime "2020-01-01T10:00:00.5+02:00".toList = .ok (.datetime 2020 1 1 10 0 0 500000 (some 120)) := by decide +kernel

/-- keyword-prefixed identifiers are single identifier tokens (the repaired keyword rules, D3) -/
example : (lexAll pyCharEnv "nullable eq anything".toList).toks
    = [.ident ⟨"nullable".toList, []⟩, .cmp .eq, .ident ⟨"anything".toList, []⟩] := by decide +kernel
example : (lexAll pyCharEnv "trueness".toList).toks = [.ident ⟨"trueness".toList, []⟩] := by decide +kernel

end OQ.C06
