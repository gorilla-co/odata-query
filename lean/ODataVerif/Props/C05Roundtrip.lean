/-
  C05, "The parser groups operators exactly as the OData precedence table
  dictates", token level: parsing the reference rendering of any printable tree (minimally or fully
  parenthesised, any placement of optional whitespace) gives the tree back; corollaries on how
  un-parenthesised operator sequences group.  Helper lemmas live in Lemmas/Pratt.lean.
-/
import ODataVerif.Lemmas.Pratt
namespace OQ.C05
open Spec

/-- parsing the reference rendering (either parenthesisation, any optional-whitespace style) of any
    printable tree yields that tree -/
theorem parse_printToks (sty : Spec.Style) (mode : Spec.Mode) (e : Expr) (h : Spec.printable e = true) :
    parseToks none (Spec.printToks sty mode e) = .ok e := by
  simp [parseToks, Pratt.parseExpr_printToks sty mode e h _ (Nat.le_refl _)]

/-- the thirteen binary operators that take a `common_expr` on both sides (everything but `in`) -/
inductive BinTok
  | arith (o : ArithOp)
  | cmp (o : CmpOp)
  | bool (o : BoolOp)
  deriving DecidableEq, Repr

namespace BinTok
def tok : BinTok → Tok
  | arith o => .arith o | cmp o => .cmp o | bool o => .bool o
def mk : BinTok → Expr → Expr → Expr
  | arith o => .binop o | cmp o => .compare o | bool o => .boolop o
/-- the row of the operator in OData 4.01 §5.1.1.14 (`Spec.level` of a tree with that top) -/
def lvl : BinTok → Nat
  | arith o => o.lvl | cmp o => o.lvl | bool o => o.lvl
def isIn : BinTok → Bool
  | cmp .in_ => true | _ => false

theorem level_mk (o : BinTok) (l r : Expr) : level (o.mk l r) = o.lvl := by
  cases o <;> simp [mk, lvl]

theorem printable_mk (o : BinTok) (h : o.isIn = false) (l r : Expr) :
    printable (o.mk l r) = (printable l && printable r) := by
  cases o with
  | cmp c => cases c <;> simp [isIn] at h <;> simp [mk, printable]
  | _ => simp [mk, printable]

theorem printToks_mk (sty : Style) (mode : Mode) (o : BinTok) (h : o.isIn = false) (l r : Expr) :
    printToks sty mode (o.mk l r)
      = operand sty mode o.lvl false l ++ [o.tok] ++ operand sty mode o.lvl true r := by
  cases o with
  | cmp c => simp [mk, lvl, tok, Pratt.printToks_compare sty mode (o := c) (by rintro rfl; cases h)]
  | arith a => simp [mk, printToks, lvl, tok]
  | bool b => simp [mk, printToks, lvl, tok]
end BinTok

theorem operand_minimal_left (sty : Style) (pl : Nat) (e : Expr) (h : pl ≤ level e) :
    operand sty .minimal pl false e = printToks sty .minimal e := by
  rw [operand, if_neg]; simp [needsParen]; omega

theorem operand_minimal_right (sty : Style) (pl : Nat) (e : Expr) (h : pl < level e) :
    operand sty .minimal pl true e = printToks sty .minimal e := by
  rw [operand, if_neg]; simp [needsParen]; omega

theorem operand_minimal_left_paren (sty : Style) (pl : Nat) (e : Expr) (h : level e < pl) :
    operand sty .minimal pl false e = paren sty (printToks sty .minimal e) := by
  rw [operand, if_pos]; simp [needsParen]; omega

theorem operand_minimal_right_paren (sty : Style) (pl : Nat) (e : Expr) (h : level e ≤ pl) :
    operand sty .minimal pl true e = paren sty (printToks sty .minimal e) := by
  rw [operand, if_pos]; simp [needsParen]; omega

/-- operands tight enough for `o` on both sides are printed without parentheses -/
theorem printToks_mk_minimal (sty : Style) (o : BinTok) (h : o.isIn = false) (l r : Expr)
    (hl : o.lvl ≤ level l) (hr : o.lvl < level r) :
    printToks sty .minimal (o.mk l r) = printToks sty .minimal l ++ [o.tok] ++ printToks sty .minimal r := by
  rw [BinTok.printToks_mk _ _ _ h, operand_minimal_left _ _ _ hl, operand_minimal_right _ _ _ hr]

/-- **precedence, first operator binds at least as tightly**: in `a o1 b o2 c` without parentheses,
    when `o2` is not tighter than `o1` the sequence groups as `(a o1 b) o2 c`.
    (`a`, `b`, `c` are any printable operands tight enough not to need parentheses themselves.) -/
theorem binary_tighter_first (sty : Style) (o1 o2 : BinTok) (h1 : o1.isIn = false) (h2 : o2.isIn = false)
    (a b c : Expr) (ha : printable a = true) (hb : printable b = true) (hc : printable c = true)
    (hlv : o2.lvl ≤ o1.lvl) (hla : o1.lvl ≤ level a) (hlb : o1.lvl < level b) (hlc : o2.lvl < level c) :
    parseToks none (printToks sty .minimal a ++ [o1.tok] ++ printToks sty .minimal b ++ [o2.tok]
        ++ printToks sty .minimal c)
      = .ok (o2.mk (o1.mk a b) c) := by
  have h := parse_printToks sty .minimal (o2.mk (o1.mk a b) c)
    (by simp [BinTok.printable_mk, h1, h2, ha, hb, hc])
  rw [printToks_mk_minimal _ _ h2 _ _ (by rw [BinTok.level_mk]; exact hlv) hlc,
    printToks_mk_minimal _ _ h1 _ _ hla hlb] at h
  simpa only [List.append_assoc] using h

/-- **binary operators associate to the left**: two operators of the same precedence row -/
theorem binary_left_assoc (sty : Style) (o1 o2 : BinTok) (h1 : o1.isIn = false) (h2 : o2.isIn = false)
    (a b c : Expr) (ha : printable a = true) (hb : printable b = true) (hc : printable c = true)
    (hlv : o1.lvl = o2.lvl) (hla : o1.lvl ≤ level a) (hlb : o1.lvl < level b) (hlc : o2.lvl < level c) :
    parseToks none (printToks sty .minimal a ++ [o1.tok] ++ printToks sty .minimal b ++ [o2.tok]
        ++ printToks sty .minimal c)
      = .ok (o2.mk (o1.mk a b) c) :=
  binary_tighter_first sty o1 o2 h1 h2 a b c ha hb hc (by omega) hla hlb hlc

/-- **precedence, second operator binds tighter**: `a o1 b o2 c` groups as `a o1 (b o2 c)` -/
theorem binary_tighter_second (sty : Style) (o1 o2 : BinTok) (h1 : o1.isIn = false) (h2 : o2.isIn = false)
    (a b c : Expr) (ha : printable a = true) (hb : printable b = true) (hc : printable c = true)
    (hlv : o1.lvl < o2.lvl) (hla : o1.lvl ≤ level a) (hlb : o2.lvl ≤ level b) (hlc : o2.lvl < level c) :
    parseToks none (printToks sty .minimal a ++ [o1.tok] ++ printToks sty .minimal b ++ [o2.tok]
        ++ printToks sty .minimal c)
      = .ok (o1.mk a (o2.mk b c)) := by
  have h := parse_printToks sty .minimal (o1.mk a (o2.mk b c))
    (by simp [BinTok.printable_mk, h1, h2, ha, hb, hc])
  rw [printToks_mk_minimal _ _ h1 _ _ hla (by rw [BinTok.level_mk]; exact hlv),
    printToks_mk_minimal _ _ h2 _ _ hlb hlc] at h
  simpa only [List.append_assoc] using h

/-- **parentheses win** (right): `a o1 (b o2 c)` is read as written although `o2` is not tighter -/
theorem parens_win_right (sty : Style) (o1 o2 : BinTok) (h1 : o1.isIn = false) (h2 : o2.isIn = false)
    (a b c : Expr) (ha : printable a = true) (hb : printable b = true) (hc : printable c = true)
    (hlv : o2.lvl ≤ o1.lvl) (hla : o1.lvl ≤ level a) (hlb : o2.lvl ≤ level b) (hlc : o2.lvl < level c) :
    parseToks none (printToks sty .minimal a ++ [o1.tok] ++
        paren sty (printToks sty .minimal b ++ [o2.tok] ++ printToks sty .minimal c))
      = .ok (o1.mk a (o2.mk b c)) := by
  have h := parse_printToks sty .minimal (o1.mk a (o2.mk b c))
    (by simp [BinTok.printable_mk, h1, h2, ha, hb, hc])
  rw [BinTok.printToks_mk _ _ _ h1, operand_minimal_left _ _ _ hla,
    operand_minimal_right_paren _ _ _ (by rw [BinTok.level_mk]; exact hlv),
    printToks_mk_minimal _ _ h2 _ _ hlb hlc] at h
  exact h

/-- **parentheses win** (left): `(a o1 b) o2 c` is read as written although `o2` is tighter -/
theorem parens_win_left (sty : Style) (o1 o2 : BinTok) (h1 : o1.isIn = false) (h2 : o2.isIn = false)
    (a b c : Expr) (ha : printable a = true) (hb : printable b = true) (hc : printable c = true)
    (hlv : o1.lvl < o2.lvl) (hla : o1.lvl ≤ level a) (hlb : o1.lvl < level b) (hlc : o2.lvl < level c) :
    parseToks none (paren sty (printToks sty .minimal a ++ [o1.tok] ++ printToks sty .minimal b)
        ++ [o2.tok] ++ printToks sty .minimal c)
      = .ok (o2.mk (o1.mk a b) c) := by
  have h := parse_printToks sty .minimal (o2.mk (o1.mk a b) c)
    (by simp [BinTok.printable_mk, h1, h2, ha, hb, hc])
  rw [BinTok.printToks_mk _ _ _ h2,
    operand_minimal_left_paren _ _ _ (by rw [BinTok.level_mk]; exact hlv),
    operand_minimal_right _ _ _ hlc, printToks_mk_minimal _ _ h1 _ _ hla hlb] at h
  exact h

/-- **prefix operators bind tighter than every binary operator except `in`**:
    `not a o b` is `(not a) o b` -/
theorem not_tighter_than_binary (sty : Style) (o : BinTok) (ho : o.isIn = false) (a b : Expr)
    (ha : printable a = true) (hb : printable b = true) (hla : 7 ≤ level a) (hlb : o.lvl < level b) :
    parseToks none ([.not_] ++ printToks sty .minimal a ++ [o.tok] ++ printToks sty .minimal b)
      = .ok (o.mk (.unary .not_ a) b) := by
  have hl : o.lvl ≤ 7 := by
    cases o with
    | arith x => cases x <;> decide
    | cmp x => cases x <;> first | decide | cases ho
    | bool x => cases x <;> decide
  have h := parse_printToks sty .minimal (o.mk (.unary .not_ a) b)
    (by simp [BinTok.printable_mk, ho, ha, hb, printable])
  rw [printToks_mk_minimal _ _ ho _ _ (by simpa [level] using hl) hlb, printToks,
    operand_minimal_left _ _ _ hla] at h
  exact h

/-- **`in` binds tighter than the prefix operators**: `not a in (…)` is `not (a in (…))` -/
theorem in_tighter_than_not (sty : Style) (a : Expr) (xs : Exprs) (ha : printable a = true)
    (hx : printable (.list xs) = true) (hla : 8 ≤ level a) :
    parseToks none ([.not_] ++ printToks sty .minimal a ++ [.cmp .in_] ++ printToks sty .minimal (.list xs))
      = .ok (.unary .not_ (.compare .in_ a (.list xs))) := by
  have hx' := hx
  simp only [printable] at hx'
  have h := parse_printToks sty .minimal (.unary .not_ (.compare .in_ a (.list xs)))
    (by simp [printable, ha, hx'])
  rw [printToks, operand_minimal_left _ _ _ (by simp [level]), printToks,
    operand_minimal_left _ _ _ hla] at h
  simpa only [List.append_assoc] using h

/-! non-vacuity: concrete instances -/

/-- `1 sub 2 sub 3` is `(1 sub 2) sub 3` -/
example : parseToks none [.lit .int ['1'], .arith .sub, .lit .int ['2'], .arith .sub, .lit .int ['3']]
    = .ok (.binop .sub (.binop .sub (.lit .int ['1']) (.lit .int ['2'])) (.lit .int ['3'])) := by
  simpa [printToks, BinTok.tok, BinTok.mk] using
    binary_left_assoc {} (.arith .sub) (.arith .sub) rfl rfl (.lit .int ['1']) (.lit .int ['2'])
      (.lit .int ['3']) rfl rfl rfl rfl (by decide) (by decide) (by decide)

/-- `a or b and c` is `a or (b and c)` -/
example (a b c : Ident) : parseToks none [.ident a, .bool .or_, .ident b, .bool .and_, .ident c]
    = .ok (.boolop .or_ (.ident a) (.boolop .and_ (.ident b) (.ident c))) := by
  simpa [printToks, BinTok.tok, BinTok.mk] using
    binary_tighter_second {} (.bool .or_) (.bool .and_) rfl rfl (.ident a) (.ident b) (.ident c)
      rfl rfl rfl (by decide) (by simp [BinTok.lvl, BoolOp.lvl, level]) (by simp [BinTok.lvl, BoolOp.lvl, level])
      (by simp [BinTok.lvl, BoolOp.lvl, level])

/-- a printable tree using every kind of construct, for the main theorem -/
def sampleTree : Expr :=
  .boolop .and_
    (.compare .in_ (.attr (.ident ⟨"a".toList, []⟩) "b".toList)
      (.list (.cons (.lit .int ['1']) (.cons (.lit .int ['2']) .nil))))
    (.boolop .or_
      (.unary .not_ (.call ⟨"contains".toList, []⟩
        (.cons (.ident ⟨"x".toList, []⟩) (.cons (.lit .str ['y']) .nil))))
      (.coll (.ident ⟨"xs".toList, []⟩) .all
        (.some ⟨"v".toList, []⟩ (.compare .gt (.unary .neg (.ident ⟨"v".toList, []⟩))
          (.binop .mul (.binop .add (.lit .int ['1']) (.lit .int ['2'])) (.lit .int ['3']))))))

example : printable sampleTree = true := by decide +kernel

example : parseToks none (printToks { insideParens := true, beforeComma := true, afterComma := true } .full sampleTree)
    = .ok sampleTree := parse_printToks _ _ _ (by decide +kernel)

end OQ.C05

namespace OQ.C11
open Spec
/-- **arg_order** (C11): a call written with its arguments in source order — positional or named, any
    number a validated or foreign-namespace function accepts — parses to the call node with exactly
    those arguments in that order (instance of the round-trip theorem). -/
theorem arg_order (sty : Style) (mode : Mode) (f : Ident) (args : Exprs)
    (h : printable (.call f args) = true) :
    parseToks none (printToks sty mode (.call f args)) = .ok (.call f args) :=
  C05.parse_printToks sty mode _ h

example : printable (.call ⟨['g'], [['f']]⟩ (.cons (.named ⟨['x'], []⟩ (.lit .int ['1']))
    (.cons (.named ⟨['y'], []⟩ (.lit .str ['a'])) (.cons (.named ⟨['z'], []⟩ (.ident ⟨['q'], []⟩)) .nil)))) = true := by decide +kernel
end OQ.C11
