/-
  Props/C06Value.lean — C06, the VALUE half for every input: each well-formed spelling (Spec/LitSpell.lean, written from
  the ABNF) is read back by the model of `py_val` (Model/PyVal.lean, run against the real py_val on every check) to the
  meaning it was spelled from; and the KIND half: the scanner model reads each spelling, followed by anything that may
  follow a literal, as ONE token of exactly that kind carrying exactly that text (`pyCharEnv`: CPython's character classes).
-/
import ODataVerif.Model.Lexer
import ODataVerif.Model.PyVal
import ODataVerif.Spec.LitSpell
import ODataVerif.Lemmas.LitValue
import ODataVerif.Lemmas.LitLex
namespace OQ.C06V
open OQ.LitSpell

/-- integers: any number of digits with any leading zeros, optional sign -/
theorem int_value (w n : Nat) (h : n < 10 ^ (w + 1)) :
    pyVal .int (pad (w + 1) n) = .ok (.int n) ∧
    pyVal .int ('-' :: pad (w + 1) n) = .ok (.int (-(n : Int))) ∧
    pyVal .int ('+' :: pad (w + 1) n) = .ok (.int n) := by
  refine ⟨LitValue.pyInt_pad w n h, ?_, ?_⟩
  · simp [pyVal, pyInt, LitValue.natOfDigits_pad w n h]
  · simp [pyVal, pyInt, LitValue.natOfDigits_pad w n h]

theorem date_value (y m d : Nat) (h : validDate y m d) : pyVal .date (isoDate y m d) = .ok (.date y m d) := LitValue.date_value y m d h

/-- a four-digit year, two-digit month and day that are NOT a calendar day have no value (the library reports its ValueException) -/
theorem date_no_value (y m d : Nat) (hy : y ≤ 9999) (hm : m ≤ 99) (hd : d ≤ 99) (h : ¬ validDate y m d) :
    pyVal .date (isoDate y m d) = .foreign "ValueError" := LitValue.date_no_value y m d hy hm hd h

theorem time_value (h mi : Nat) (sc : Secs) (hh : h < 24) (hmi : mi < 60) (hs : sc.ok) :
    pyVal .time (clockText h mi sc) = .ok (.time h mi sc.s sc.us) := LitValue.time_value h mi sc hh hmi hs

theorem datetime_value (y mo d h mi : Nat) (sep : Char) (sc : Secs) (o : Off) (hd : validDate y mo d)
    (hh : h < 24) (hmi : mi < 60) (hs : sc.ok) (ho : o.ok) :
    pyVal .datetime (dateTimeText y mo d sep h mi sc o) = .ok (.datetime y mo d h mi sc.s sc.us o.minutes) := LitValue.datetime_value y mo d h mi sep sc o hd hh hmi hs ho

theorem duration_value (sg : Sign) (y mo d : Option (Nat × Nat)) (tp : Option (Option (Nat × Nat) × Option (Nat × Nat) × DSecs))
    (hy : compOk y) (hmo : compOk mo) (hd : compOk d)
    (ht : ∀ h mi s, tp = some (h, mi, s) → compOk h ∧ compOk mi ∧ s.ok) :
    pyVal .duration (durText sg y mo d tp) = .ok (.duration (durMicros sg y mo d tp)) := LitValue.duration_value sg y mo d tp hy hmo hd ht

theorem guid_value (up : Nat → Bool) (n : Nat) (h : n < 2 ^ 128) : pyVal .guid (guidText up n) = .ok (.guid n) := LitValue.guid_value up n h

theorem bool_value (v : Str) :
    (v.map asciiLower = "true".toList → pyVal .bool v = .ok (.bool true)) ∧
    (v.map asciiLower = "false".toList → pyVal .bool v = .ok (.bool false)) := LitValue.bool_value v

/-- strings: the scanner un-doubles the quotes - the token carries exactly the characters that were spelled -/
theorem string_value (s rest : Str) (hr : ∀ t, rest ≠ '\'' :: t) :
    scanString (quoteText s ++ rest) = some (s, rest) ∧ pyVal .str s = .ok (.str s) := ⟨LitValue.scanString_quote s rest hr, rfl⟩

theorem ident_namespaces (segs : List Str) (last : Str) (h : ∀ s ∈ segs ++ [last], '.' ∉ s) :
    identOfText (dotted (segs ++ [last])) = ⟨last, segs⟩ := LitValue.ident_namespaces segs last h

theorem int_kind (w n : Nat) (h : n < 10 ^ (w + 1)) (rest : Str) (hb : boundary rest) :
    lexOne pyCharEnv (pad (w + 1) n ++ rest) = some (.lit .int (pad (w + 1) n), rest) := LitLex.int_kind w n h rest hb

theorem date_kind (y m d : Nat) (h : validDate y m d) (rest : Str) (hb : boundary rest) :
    lexOne pyCharEnv (isoDate y m d ++ rest) = some (.lit .date (isoDate y m d), rest) := LitLex.date_kind y m d h rest hb

/-- the property's time of day is hh:mm:ss[.f] (the library's TIME rule requires the seconds; `hh:mm` alone is an integer, a colon, an integer).
    Without `hf` the statement is false: the TIME rule's `\.\d{1,12}` reads twelve fraction digits and leaves the rest, so
    h = 3, mi = 4, sc = .frac 5 [1,2,3,4,5,6,7,8,9,0,1,2,3], rest = " " lexes to the TIME token `03:04:05.123456789012` with rest `"3 "`. -/
theorem time_kind (h mi : Nat) (sc : Secs) (hh : h < 24) (hmi : mi < 60) (hs : sc.ok) (hsec : sc ≠ .none)
    (hf : ∀ s fs, sc = .frac s fs → fs.length ≤ 12)
    (rest : Str) (hb : boundary rest) :
    lexOne pyCharEnv (clockText h mi sc ++ rest) = some (.lit .time (clockText h mi sc), rest) :=
  LitLex.time_kind h mi sc hh hmi hs hsec hf rest hb

/-- Without `hz` and `hf` the statement is false.  (1) The DATETIME token action upper-cases the text, so a spelling
    with a lower-case `z` is carried with `Z`: y mo d h mi = 2020 1 2 3 4, sc = .whole 5, o = .z false, rest = " " lexes to the
    token text `2020-01-02T03:04:05Z`, not `…05z`.  (2) As for TIME, at most twelve fraction digits are read:
    sc = .frac 5 [1,2,3,4,5,6,7,8,9,0,1,2,3], o = .naive leaves rest `"3 "`. -/
theorem datetime_kind (y mo d h mi : Nat) (sc : Secs) (o : Off) (hd : validDate y mo d)
    (hh : h < 24) (hmi : mi < 60) (hs : sc.ok) (ho : o.ok)
    (hf : ∀ s fs, sc = .frac s fs → fs.length ≤ 12) (hz : o ≠ .z false)
    (rest : Str) (hb : boundary rest) :
    lexOne pyCharEnv (dateTimeText y mo d 'T' h mi sc o ++ rest) = some (.lit .datetime (dateTimeText y mo d 'T' h mi sc o), rest) :=
  LitLex.datetime_kind y mo d h mi sc o hd hh hmi hs ho hf hz rest hb

/-- the general form: either letter case of the `T` separator and of the `Z` designator; the token carries the upper-cased text, whose value
    is the same (`datetime_value` holds for every separator and either `z`) -/
theorem datetime_kind_anycase (y mo d h mi : Nat) (sep : Char) (sc : Secs) (o : Off) (hd : validDate y mo d)
    (hh : h < 24) (hmi : mi < 60) (hs : sc.ok) (ho : o.ok) (hsep : sep = 'T' ∨ sep = 't')
    (hf : ∀ s fs, sc = .frac s fs → fs.length ≤ 12) (rest : Str) (hb : boundary rest) :
    lexOne pyCharEnv (dateTimeText y mo d sep h mi sc o ++ rest) = some (.lit .datetime (dateTimeText y mo d 'T' h mi sc o.up), rest) :=
  LitLex.datetime_kind_anycase y mo d h mi sep sc o hd hh hmi hs ho hsep hf rest hb

/-- durations: the token carries the text between the quotes -/
theorem duration_kind (sg : Sign) (y mo d : Option (Nat × Nat)) (tp : Option (Option (Nat × Nat) × Option (Nat × Nat) × DSecs))
    (hy : compOk y) (hmo : compOk mo) (hd : compOk d)
    (ht : ∀ h mi s, tp = some (h, mi, s) → compOk h ∧ compOk mi ∧ s.ok) (rest : Str) :
    lexOne pyCharEnv ("duration'".toList ++ durText sg y mo d tp ++ '\'' :: rest) = some (.lit .duration (durText sg y mo d tp), rest) := LitLex.duration_kind sg y mo d tp hy hmo hd ht rest

theorem guid_kind (up : Nat → Bool) (n : Nat) (h : n < 2 ^ 128) (rest : Str) (hb : boundary rest) :
    lexOne pyCharEnv (guidText up n ++ rest) = some (.lit .guid (guidText up n), rest) := LitLex.guid_kind up n h rest hb

theorem string_kind (s rest : Str) (hb : boundary rest) :
    lexOne pyCharEnv (quoteText s ++ rest) = some (.lit .str s, rest) := LitLex.string_kind s rest hb

/-- decimal / exponent numbers: optional sign, any digits, a fraction and / or an exponent in either letter case -/
theorem decimal_kind (sg : Sign) (wi ni : Nat) (fr : Option (Nat × Nat)) (ex : Expo) (hi : ni < 10 ^ (wi + 1))
    (hf : ∀ wf nf, fr = some (wf, nf) → nf < 10 ^ (wf + 1)) (he : ex.ok) (hfe : fr ≠ none ∨ ex ≠ .none) (rest : Str) (hb : boundary rest) :
    lexOne pyCharEnv (decimalText sg wi ni fr ex ++ rest) = some (.lit .float (decimalText sg wi ni fr ex), rest) :=
  LitLex.decimal_kind sg wi ni fr ex hi hf he hfe rest hb

/-- Booleans in any letter case: a Boolean token that keeps the spelling, whose value is the keyword's -/
theorem bool_kind (up : Nat → Bool) (b : Bool) (rest : Str) (hb : boundary rest) :
    lexOne pyCharEnv (caseWord up (if b then "true".toList else "false".toList) ++ rest)
      = some (.lit .bool (caseWord up (if b then "true".toList else "false".toList)), rest)
    ∧ pyVal .bool (caseWord up (if b then "true".toList else "false".toList)) = .ok (.bool b) :=
  LitLex.bool_kind up b rest hb

theorem null_kind (up : Nat → Bool) (rest : Str) (hb : boundary rest) :
    lexOne pyCharEnv (caseWord up "null".toList ++ rest) = some (.lit .null [], rest) :=
  LitLex.null_kind up rest hb

/-- geography literals: the token carries the raw content (quotes stay doubled - the library does not un-double them for this kind) -/
theorem geography_kind (up : Nat → Bool) (content rest : Str) (hb : boundary rest) :
    lexOne pyCharEnv (geoText up content ++ rest)
      = some (.lit .geo (content.flatMap (fun c => if c = '\'' then ['\'', '\''] else [c])), rest) :=
  LitLex.geography_kind up content rest hb

/-- identifiers: every well-formed identifier - whether or not it starts with or contains a keyword (nullable, anything, trueness, notes, inside,
    true.x, eq, add ...) - is ONE identifier token whose namespaces are the dotted prefix and whose name is the last segment -/
theorem ident_kind (segs : List Str) (last : Str) (h : wfIdent (segs ++ [last])) (hk : notReserved (dotted (segs ++ [last])))
    (rest : Str) (hb : boundary rest) :
    lexOne pyCharEnv (dotted (segs ++ [last]) ++ rest) = some (.ident ⟨last, segs⟩, rest) :=
  LitLex.ident_kind segs last h hk rest hb

end OQ.C06V
