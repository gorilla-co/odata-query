/-
  C17: "Making a lambda body relative strips exactly the lambda variable's prefix".
-/
import ODataVerif.Model.Rewrite
import ODataVerif.Model.Ast
import ODataVerif.Spec.Reroot
import ODataVerif.Spec.Traversal
import ODataVerif.Props.C16
namespace OQ.C17
open Spec

theorem isAttr_mkAttr (o : Tree) (a : Str) : isAttr (mkAttr o a) = true := by
  simp [isAttr, mkAttr]

theorem attr_cases (k : String) (fs : TreeList) :
    (k = "Attribute" ∧ ∃ o a, fs = .cons o (.cons (.str a) .nil)) ∨ isAttr (.node k fs) = false := by
  unfold isAttr
  split
  · rename_i h; cases h; exact .inl ⟨rfl, _, _, rfl⟩
  · exact .inr rfl

theorem pathView_nonAttr (t : Tree) (h : isAttr t = false) : pathView t = (t, []) := by
  unfold pathView
  split
  · split
    · subst_vars; cases h
    · rfl
  · rfl

theorem pathView_mkAttr (o : Tree) (a : Str) :
    pathView (mkAttr o a) = ((pathView o).1, (pathView o).2 ++ [a]) := by
  simp [pathView, mkAttr]

theorem pathView_attr_ne_nil (t : Tree) (h : isAttr t = true) : (pathView t).2 ≠ [] := by
  match t with
  | .node k fs =>
      rcases attr_cases k fs with ⟨rfl, o, a, rfl⟩ | h'
      · have := pathView_mkAttr o a
        simp [mkAttr] at this
        simp [this]
      · rw [h'] at h; cases h
  | .list _ => simp [isAttr] at h
  | .tuple _ => simp [isAttr] at h
  | .str _ => simp [isAttr] at h
  | .none => simp [isAttr] at h

theorem buildPath_snoc (r : Tree) (ss : List Str) (a : Str) :
    buildPath r (ss ++ [a]) = mkAttr (buildPath r ss) a := by
  simp [buildPath, List.foldl_append]

theorem strip_mkAttr (x o : Tree) (a : Str) :
    strip x (mkAttr o a) =
      if o = x then mkIdent a else if isAttr o then mkAttr (strip x o) a else mkAttr o a := by
  simp [strip, mkAttr]

theorem strip_nonAttr (x : Tree) (k : String) (fs : TreeList) (h : isAttr (.node k fs) = false) :
    strip x (.node k fs) = .node k (stripFields x fs) := by
  unfold strip
  split
  · split
    · subst_vars; cases h
    · rfl
  · rfl

/-- one step along the owner chain: the stripper and re-rooting treat `owner/a` alike if they treat `owner` alike -/
theorem strip_path_step (x o : Tree) (a : Str) (hx : isAttr x = false)
    (ih : isAttr o = true → strip x o = rerootPath x o) : strip x (mkAttr o a) = rerootPath x (mkAttr o a) := by
  rw [strip_mkAttr, rerootPath, pathView_mkAttr]
  by_cases hoa : isAttr o = true
  · have hox : o ≠ x := fun h => by rw [h, hx] at hoa; cases hoa
    rw [if_neg hox, if_pos hoa, ih hoa, rerootPath]
    by_cases hr : (pathView o).1 = x
    · rw [if_pos hr, if_pos hr]
      cases hss : (pathView o).2 with
      | nil => exact absurd hss (pathView_attr_ne_nil o hoa)
      | cons s rest => exact (buildPath_snoc _ _ _).symm
    · rw [if_neg hr, if_neg hr]
  · rw [Bool.not_eq_true] at hoa
    rw [pathView_nonAttr o hoa]
    by_cases hox : o = x
    · rw [if_pos hox, if_pos hox]; rfl
    · rw [if_neg hox, if_neg hox, hoa, if_neg Bool.false_ne_true]

theorem strip_path (x : Tree) (hx : isAttr x = false) :
    (t : Tree) → isAttr t = true → strip x t = rerootPath x t
  | .node k fs, ht => by
      rcases attr_cases k fs with ⟨rfl, o, a, rfl⟩ | h'
      · exact strip_path_step x o a hx (strip_path x hx o)
      · rw [h'] at ht; cases ht
  | .list _, ht => by cases ht
  | .tuple _, ht => by cases ht
  | .str _, ht => by cases ht
  | .none, ht => by cases ht
termination_by t => t
-- the owner is a field of the node; said outright because the default search for this is slow
decreasing_by subst_vars; simp_wf; omega

mutual
theorem strip_reroot (x : Tree) (hx : isAttr x = false) :
    (t : Tree) → wf t = true → strip x t = reroot x t
  | .node k fs, h => by
      by_cases ha : isAttr (.node k fs) = true
      · rw [strip_path x hx _ ha]; simp [reroot, ha]
      · have ha' : isAttr (.node k fs) = false := by simpa using ha
        rw [strip_nonAttr x k fs ha']
        simp [reroot, ha', stripFields_reroot x hx fs (by simpa [wf] using h)]
  | .list _, h => by simp [wf] at h
  | .tuple _, _ => by simp [strip, reroot]
  | .str _, _ => by simp [strip, reroot]
  | .none, _ => by simp [strip, reroot]
theorem stripFields_reroot (x : Tree) (hx : isAttr x = false) :
    (fs : TreeList) → wfFields fs = true → stripFields x fs = rerootList x fs
  | .nil, _ => by simp [stripFields, rerootList]
  | .cons (.list items) rest, h => by
      simp [wfFields] at h
      simp [stripFields, rerootList, reroot, stripItems_reroot x hx items h.1, stripFields_reroot x hx rest h.2]
  | .cons (.node k fs) rest, h => by
      simp [wfFields] at h
      simp [stripFields, rerootList, strip_reroot x hx (.node k fs) h.1, stripFields_reroot x hx rest h.2]
  | .cons (.tuple _) rest, h => by
      simp [wfFields] at h
      simp [stripFields, rerootList, reroot, stripFields_reroot x hx rest h]
  | .cons (.str _) rest, h => by
      simp [wfFields] at h
      simp [stripFields, rerootList, reroot, stripFields_reroot x hx rest h]
  | .cons .none rest, h => by
      simp [wfFields] at h
      simp [stripFields, rerootList, reroot, stripFields_reroot x hx rest h]
theorem stripItems_reroot (x : Tree) (hx : isAttr x = false) :
    (xs : TreeList) → wfItems xs = true → stripItems x xs = rerootList x xs
  | .nil, _ => by simp [stripItems, rerootList]
  | .cons (.node k fs) rest, h => by
      simp [wfItems] at h
      simp [stripItems, rerootList, strip_reroot x hx (.node k fs) h.1, stripItems_reroot x hx rest h.2]
  | .cons (.list _) _, h => by simp [wfItems] at h
  | .cons (.tuple _) _, h => by simp [wfItems] at h
  | .cons (.str _) _, h => by simp [wfItems] at h
  | .cons .none _, h => by simp [wfItems] at h
end

/-- **C17**: for every variable (any non-path node, in particular every `Identifier`) and every
    well-shaped tree, the expression made relative to the variable is the re-rooted expression. -/
theorem strip_eq_reroot (x t : Tree) (hx : isAttr x = false) (ht : wf t = true) :
    strip x t = reroot x t := strip_reroot x hx t ht

theorem strip_eq_reroot_expr (v : Ident) (e : Expr) :
    strip v.toTree e.toTree = reroot v.toTree e.toTree :=
  strip_eq_reroot _ _ (by simp [Ident.toTree, isAttr]) (C16.wf_toTree e)

mutual
theorem reroot_absent (x : Tree) : (t : Tree) → mentions x t = false → reroot x t = t
  | .node k fs, h => by
      simp [mentions] at h
      by_cases ha : isAttr (.node k fs) = true
      · have : ¬ (pathView (.node k fs)).1 = x := h.1 ha
        simp [reroot, ha, rerootPath, this]
      · have ha' : isAttr (.node k fs) = false := by simpa using ha
        simp [reroot, ha', rerootList_absent x fs h.2]
  | .list items, h => by
      simp [mentions] at h
      simp [reroot, rerootList_absent x items h]
  | .tuple _, _ => by simp [reroot]
  | .str _, _ => by simp [reroot]
  | .none, _ => by simp [reroot]
theorem rerootList_absent (x : Tree) : (ts : TreeList) → mentionsList x ts = false → rerootList x ts = ts
  | .nil, _ => by simp [rerootList]
  | .cons h t, hh => by
      simp [mentionsList] at hh
      simp [rerootList, reroot_absent x h hh.1, rerootList_absent x t hh.2]
end

/-- **absent_id**: applied to an expression that does not mention the variable it is the identity -/
theorem absent_id (x t : Tree) (hx : isAttr x = false) (ht : wf t = true)
    (hm : mentions x t = false) : strip x t = t := by
  rw [strip_eq_reroot x t hx ht]; exact reroot_absent x t hm

/-! non-vacuity -/
def xv : Ident := ⟨['x'], []⟩
def body : Expr :=
  .boolop .and_
    (.compare .eq (.attr (.attr (.ident xv) ['a']) ['b']) (.attr (.ident ⟨['y'], []⟩) ['a']))
    (.compare .in_ (.attr (.ident xv) ['c']) (.list (.cons (.attr (.ident ⟨['x'], [['n']]⟩) ['c']) .nil)))
example : strip xv.toTree body.toTree =
    (Expr.boolop .and_
      (.compare .eq (.attr (.ident ⟨['a'], []⟩) ['b']) (.attr (.ident ⟨['y'], []⟩) ['a']))
      (.compare .in_ (.ident ⟨['c'], []⟩) (.list (.cons (.attr (.ident ⟨['x'], [['n']]⟩) ['c']) .nil)))).toTree := by
  decide +kernel
example : mentions xv.toTree body.toTree = true := by decide +kernel

end OQ.C17
