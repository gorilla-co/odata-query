/-
  C01 for the DATE fragment (Spec/DateFilters.lean `DateF`): comparisons of a date column with date literals
  (either operand order), membership in a list of date literals, year / month / day of a date column compared with an integer,
  closed under and / or / not.

  For EVERY such filter f whose literals are valid calendar dates and EVERY row whose date cells are NULL or valid ISO dates, the
  SQLite dialect emits a WHERE text; read by the independent SQL tokeniser and parser it is a tree whose evaluation by the
  SQLite date model selects the row exactly when OData's three-valued semantics makes f true.
  Chain as in C01Full:  date_translates → C07.lex_pieces → C09.parse_mirror → date_sound  (the last uses DateOrder.cmp_iso:
  comparing ISO texts is comparing dates).
-/
import ODataVerif.Spec.DateFilters
import ODataVerif.Props.DateOrder
import ODataVerif.Props.C07Lex
import ODataVerif.Props.C09Parse
import ODataVerif.Lemmas.DateSound
namespace OQ.C01
open Spec

theorem date_translates (isD : Char → Bool) (al : Option Str) (f : DateF) :
    ∃ ps, sqlVisit isD .sqlite al f.toExpr = .ok ps :=
  DateSound.date_vis f

theorem date_sound (isD : Char → Bool) (f : DateF) (ρ : Row) (hw : f.wf = true) (hr : f.rowOk ρ = true) :
    ∃ t, mirror isD .sqlite none f.toExpr = some t ∧ sqliteSelectsD ρ t = some (evalDF ρ f == .tt) := by
  obtain ⟨t, hm, he⟩ := DateSound.sound_v3 isD ρ f hw hr
  refine ⟨t, hm, ?_⟩
  unfold sqliteSelectsD
  rw [he]
  simp

/-- for any digit class `isD`: it is consulted for durations only -/
theorem date_where_selects (isD : Char → Bool)
    (f : DateF) (ρ : Row) (hw : f.wf = true) (hr : f.rowOk ρ = true) :
    ∃ s, sqlText isD .sqlite none f.toExpr = .ok s ∧
      ∃ t, sqlRead s = some t ∧ sqliteSelectsD ρ t = some (evalDF ρ f == .tt) := by
  obtain ⟨ps, hps⟩ := date_translates isD none f
  obtain ⟨t, hm, hsel⟩ := date_sound isD f ρ hw hr
  have hl := DateSound.date_litOk isD f hw
  have hlex := C07.lex_pieces isD .sqlite none f.toExpr ps hl rfl hps
  have hparse := C09.parse_mirror isD .sqlite none f.toExpr ps t hl (DateSound.date_sqlSafe f) hm hps
  refine ⟨renderPieces ps, ?_, t, ?_, hsel⟩
  · unfold sqlText; rw [hps]; rfl
  · unfold sqlRead; rw [hlex]; exact hparse

/-! non-vacuity -/
example : (DateF.and (.cmp .lt "d1".toList ⟨2020, 2, 29⟩) (.not (.part .year .ge "d1".toList 2000))).wf = true := by decide

end OQ.C01
