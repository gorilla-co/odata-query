/-
  C14, last clause: "rewriting with a fresh-name bijection followed by its inverse restores the original", for EVERY tree of the
  parser's shape and every table (`fwdTable`) of field names to names that do not occur in the tree.
-/
import ODataVerif.Props.C14
import ODataVerif.Lemmas.AliasBij
namespace OQ.C14
open Spec

/-- the alias table `{old: new}` of a list of un-namespaced field names -/
def fwdTable (ps : List (Str × Str)) : List (Tree × Tree) := ps.map (fun p => (mkIdent p.1, mkIdent p.2))

/-- the inverse table `{new: old}` -/
def invTable (ps : List (Str × Str)) : List (Tree × Tree) := ps.map (fun p => (mkIdent p.2, mkIdent p.1))

/-- a fresh-name bijection for the tree `t`: old names pairwise distinct, new names pairwise distinct, no new name is an old name, and no new name occurs in
    the tree (as a field, a function name, a parameter name or a lambda variable) -/
def FreshBijection (ps : List (Str × Str)) (t : Tree) : Prop :=
  (ps.map Prod.fst).Nodup ∧ (ps.map Prod.snd).Nodup ∧ (∀ p ∈ ps, ∀ q ∈ ps, p.2 ≠ q.1) ∧ (∀ p ∈ ps, occurs (mkIdent p.2) t = false)

theorem bijection_roundtrip (ps : List (Str × Str)) (t : Tree) (hs : scopeOk t = true) (hb : FreshBijection ps t) :
    alias (invTable ps) (alias (fwdTable ps) t) = t := by
  obtain ⟨_, hnd, _, hfresh⟩ := hb
  refine AliasBij.alias_roundtrip (AliasBij.inverse_tables ps hnd) t hs ?_
  intro kv hkv
  obtain ⟨p, hp, rfl⟩ := List.mem_map.mp hkv
  exact hfresh p hp

theorem bijection_roundtrip_expr (ps : List (Str × Str)) (e : Expr) (h : e.pathsOk = true) (hb : FreshBijection ps e.toTree) :
    alias (invTable ps) (alias (fwdTable ps) e.toTree) = e.toTree :=
  bijection_roundtrip ps e.toTree (scopeOk_toTree e h) hb

/-- non-vacuity: the tree of `date(date) eq 2020-01-01 and f.g(x=x) and (c/any(t: t/label eq t) or t/label eq t)` under a table for date, x, t, c -/
def ps₁ : List (Str × Str) := [("date".toList, "fresh_0".toList), ("x".toList, "fresh_1".toList), ("t".toList, "fresh_2".toList), ("c".toList, "fresh_3".toList)]
example : alias (fwdTable ps₁) e₁.toTree ≠ e₁.toTree := by decide +kernel
example : alias (invTable ps₁) (alias (fwdTable ps₁) e₁.toTree) = e₁.toTree := by decide +kernel

end OQ.C14
