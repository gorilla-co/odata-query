/-
  C12 on the ORM backends from accepted TEXT: for every accepted ASCII filter that is well-typed (Spec/TypesStrict, any field typing),
  the models of the Django visitor and of the SQLAlchemy visitors return a translation or one of the library's exceptions.  Props/C12Orm.lean proves this for trees
  that are `printable` (discharged by C10.parse_image) and whose literals have a Python value (`pyLitOk`); here the second hypothesis is reduced to the kinds whose
  missing value would leak (duration, GUID, integer: the date / time kinds report the library's ValueException) and discharged for every tree the parser returns:
  a duration / GUID / integer token the lexer emits always has a value.
-/
import ODataVerif.Props.C12Orm
import ODataVerif.Props.C13Accepted
import ODataVerif.Lemmas.OrmTotal3
import ODataVerif.Lemmas.AcceptedPyVal
namespace OQ.C12Orm
open OQ.Spec OQ.C06 OQ.AcceptedProv

mutual
/-- every duration / GUID / integer literal of the tree has a Python value -/
def pyLitOk' : Expr → Bool
  | .ident _ => true
  | .attr o _ => pyLitOk' o
  | .lit k v => (if k == .duration || k == .guid || k == .int then (match pyVal k v with | .foreign _ => false | _ => true) else true)
  | .list xs => pyLitOks' xs
  | .binop _ l r | .compare _ l r | .boolop _ l r => pyLitOk' l && pyLitOk' r
  | .unary _ e => pyLitOk' e
  | .named _ e => pyLitOk' e
  | .call _ args => pyLitOks' args
  | .coll o _ l => pyLitOk' o && pyLitOkLam' l
def pyLitOks' : Exprs → Bool
  | .nil => true
  | .cons h t => pyLitOk' h && pyLitOks' t
def pyLitOkLam' : OptLam → Bool
  | .none => true
  | .some _ b => pyLitOk' b
end

theorem pyLitOk'_inv : OrmTotal3.LitInv pyLitOk' pyLitOks' where
  lit := fun k v => by rw [pyLitOk']; rfl
  list := fun xs => by rw [pyLitOk']
  binop := fun o l r => by rw [pyLitOk']
  compare := fun o l r => by rw [pyLitOk']
  boolop := fun o l r => by rw [pyLitOk']
  unary := fun o e => by rw [pyLitOk']
  call := fun f args => by rw [pyLitOk']
  cons := fun h t => by rw [pyLitOks']

/-- the ORM theorems need a value only for the kinds whose `py_val` failure is not reported as the library's exception -/
theorem dj_never_leaks_welltyped' (Γ : Expr → Option OTy) (e : Expr) (hp : printable e = true) (h : wellTypedFilter Γ e = true) (hl : pyLitOk' e = true) :
    leaks (djBuild e) = false :=
  OrmTotal3.dj_never_leaks_W pyLitOk'_inv Γ e hp h hl

theorem sa_never_leaks_welltyped' (fields : List Str) (core : Bool) (Γ : Expr → Option OTy) (e : Expr)
    (hp : printable e = true) (h : wellTypedFilter Γ e = true) (hl : pyLitOk' e = true) :
    leaks (saBuild fields core e) = false :=
  OrmTotal3.sa_never_leaks_W pyLitOk'_inv fields core Γ e hp h hl

open AcceptedLex (Emitted) in
mutual
theorem prov_pyLitOk' : (e : Expr) → Prov Emitted e → pyLitOk' e = true
  | .ident _, _ => by rw [pyLitOk']
  | .attr o _, hp => by
      simp only [Prov] at hp
      rw [pyLitOk']; exact prov_pyLitOk' o hp.1
  | .lit k v, hp => by
      simp only [Prov] at hp
      rw [pyLitOk']
      split
      · rename_i hk
        have hk' : k = .duration ∨ k = .guid ∨ k = .int := by simpa [or_assoc] using hk
        split
        · rename_i c hc; exact absurd hc (AcceptedPyVal.emitted_pyVal hp hk' c)
        · rfl
      · rfl
  | .list xs, hp => by
      simp only [Prov] at hp
      rw [pyLitOk']; exact provL_pyLitOk' xs hp
  | .binop _ l r, hp | .compare _ l r, hp | .boolop _ l r, hp => by
      simp only [Prov] at hp
      rw [pyLitOk', prov_pyLitOk' l hp.1, prov_pyLitOk' r hp.2]; rfl
  | .unary _ e, hp => by
      simp only [Prov] at hp
      rw [pyLitOk']; exact prov_pyLitOk' e hp
  | .named _ e, hp => by
      simp only [Prov] at hp
      rw [pyLitOk']; exact prov_pyLitOk' e hp.2
  | .call _ args, hp => by
      simp only [Prov] at hp
      rw [pyLitOk']; exact provL_pyLitOk' args hp.2
  | .coll o _ l, hp => by
      simp only [Prov] at hp
      rw [pyLitOk', prov_pyLitOk' o hp.1, provLam_pyLitOk' l hp.2]; rfl
theorem provL_pyLitOk' : (xs : Exprs) → ProvL Emitted xs → pyLitOks' xs = true
  | .nil, _ => by rw [pyLitOks']
  | .cons h t, hp => by
      simp only [ProvL] at hp
      rw [pyLitOks', prov_pyLitOk' h hp.1, provL_pyLitOk' t hp.2]; rfl
theorem provLam_pyLitOk' : (l : OptLam) → ProvLam Emitted l → pyLitOkLam' l = true
  | .none, _ => by rw [pyLitOkLam']
  | .some _ b, hp => by
      simp only [ProvLam] at hp
      rw [pyLitOkLam']; exact prov_pyLitOk' b hp.2
end

theorem accepted_pyLitOk' (s : Str) (e : Expr) (ha : s.all isAsciiChar = true) (h : parseText pyCharEnv s = .ok e) : pyLitOk' e = true :=
  prov_pyLitOk' e (AcceptedParse.parseToks_prov AcceptedLex.Emitted _ _ e (AcceptedLex.lexAll_emitted s ha) h)

/-- C12 on Django for every accepted, well-typed ASCII filter text -/
theorem dj_never_leaks_accepted (Γ : Expr → Option OTy) (s : Str) (e : Expr) (ha : s.all isAsciiChar = true) (h : parseText pyCharEnv s = .ok e)
    (ht : wellTypedFilter Γ e = true) : leaks (djBuild e) = false :=
  dj_never_leaks_welltyped' Γ e (C10.parse_image pyCharEnv s e h) ht (accepted_pyLitOk' s e ha h)

/-- C12 on SQLAlchemy (ORM and Core) for every accepted, well-typed ASCII filter text -/
theorem sa_never_leaks_accepted (fields : List Str) (core : Bool) (Γ : Expr → Option OTy) (s : Str) (e : Expr) (ha : s.all isAsciiChar = true)
    (h : parseText pyCharEnv s = .ok e) (ht : wellTypedFilter Γ e = true) : leaks (saBuild fields core e) = false :=
  sa_never_leaks_welltyped' fields core Γ e (C10.parse_image pyCharEnv s e h) ht (accepted_pyLitOk' s e ha h)

end OQ.C12Orm
