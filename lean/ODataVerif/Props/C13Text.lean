/-
  The character-level half of the OData round trip: the TEXT the reference printer (and hence
  odata_query's own printer) produces is tokenised by the lexer model into exactly the tokens it was spelled from,
  so the token-level theorems (`C05.parse_printToks`, `C13.roundtrip_tokens`, `C19.layout_invariant`) hold for TEXT.

  `tokLexable env t` — the token, spelled on its own, is read back as itself (a decidable, executable condition on each
  literal text / identifier: the number looks like a number, the identifier is not a keyword, …).
  `tokLexable' env t` — additionally it is read back as itself in front of a blank and between blanks (`spaced`): this
  excludes identifiers named like an operator keyword (`not`, `add`, `eq` …), which `tokLexable` lets through and which
  do NOT survive the round trip (counterexamples below).
-/
import ODataVerif.Model.Lexer
import ODataVerif.Model.Parser
import ODataVerif.Spec.RefPrinter
import ODataVerif.Props.C05Roundtrip
import ODataVerif.Props.C13Roundtrip
import ODataVerif.Lemmas.TextChain
import ODataVerif.Lemmas.ParseSep
namespace OQ.C13
open Spec LexRender

def tokLexable (env : CharEnv) (t : Tok) : Bool :=
  let r := lexAll env (spellTok t)
  r.toks == [t] && r.err == none

mutual
def lexableE (env : CharEnv) : Expr → Bool
  | .ident i => tokLexable env (.ident i)
  | .attr o n => lexableE env o && tokLexable env (.ident ⟨n, []⟩)
  | .lit k v => tokLexable env (.lit k v)
  | .list xs => lexableEs env xs
  | .binop _ l r | .compare _ l r | .boolop _ l r => lexableE env l && lexableE env r
  | .unary _ e => lexableE env e
  | .named n e => tokLexable env (.ident n) && lexableE env e
  | .call f args => tokLexable env (.ident f) && lexableEs env args
  | .coll o _ l => lexableE env o && lexableLam env l
def lexableEs (env : CharEnv) : Exprs → Bool
  | .nil => true
  | .cons h t => lexableE env h && lexableEs env t
def lexableLam (env : CharEnv) : OptLam → Bool
  | .none => true
  | .some v b => tokLexable env (.ident v) && lexableE env b
end

def spaced (env : CharEnv) (t : Tok) : Bool :=
  (lexAll env (spellTok t ++ [' '])).toks == [t, .ws] &&
  (lexAll env (' ' :: spellTok t ++ [' '])).toks == [.ws, t, .ws]

def tokLexable' (env : CharEnv) (t : Tok) : Bool := tokLexable env t && spaced env t

theorem tokOk_of_lexable {t : Tok} (h : tokLexable' E t = true) : TokOk t := by
  simp only [tokLexable', tokLexable, spaced, Bool.and_eq_true, beq_iff_eq] at h
  obtain ⟨⟨h1, h2⟩, h3, h4⟩ := h
  refine ⟨lexAll_single ?_, lexAll_head h3, lexAll_head h4⟩
  cases hr : lexAll E (spellTok t) with
  | mk toks err =>
    rw [hr] at h1 h2
    simp at h1 h2
    rw [h1, h2]


mutual
def lexableE' (env : CharEnv) : Expr → Bool
  | .ident i => tokLexable' env (.ident i)
  | .attr o n => lexableE' env o && tokLexable' env (.ident ⟨n, []⟩)
  | .lit k v => tokLexable' env (.lit k v)
  | .list xs => lexableEs' env xs
  | .binop _ l r | .compare _ l r | .boolop _ l r => lexableE' env l && lexableE' env r
  | .unary _ e => lexableE' env e
  | .named n e => tokLexable' env (.ident n) && lexableE' env e
  | .call f args => tokLexable' env (.ident f) && lexableEs' env args
  | .coll o _ l => lexableE' env o && lexableLam' env l
def lexableEs' (env : CharEnv) : Exprs → Bool
  | .nil => true
  | .cons h t => lexableE' env h && lexableEs' env t
def lexableLam' (env : CharEnv) : OptLam → Bool
  | .none => true
  | .some v b => tokLexable' env (.ident v) && lexableE' env b
end

section printer
variable (sty : Style) (mode : Mode)

mutual
theorem goodE : (e : Expr) → printable e = true → lexableE' E e = true → GoodE sty mode e
  | .ident i, _, hl => good_ident (tokOk_of_lexable hl)
  | .attr o n, h, hl =>
      have ho := pathOk_attr h
      have hl := Bool.and_eq_true_iff.1 hl
      good_attr (goodE o ho.1 hl.1) ho.2 (tokOk_of_lexable hl.2)
  | .lit k v, _, hl => good_lit (tokOk_of_lexable hl)
  | .list xs, h, hl =>
      have h := Bool.and_eq_true_iff.1 h
      have hne : xs ≠ .nil := fun e => by subst e; cases h.1
      good_list hne (goodArgs xs h.2 hl hne)
  | .binop o l r, h, hl =>
      have h := Bool.and_eq_true_iff.1 h
      have hl := Bool.and_eq_true_iff.1 hl
      good_binop (goodE l h.1 hl.1) (goodE r h.2 hl.2)
  | .boolop o l r, h, hl =>
      have h := Bool.and_eq_true_iff.1 h
      have hl := Bool.and_eq_true_iff.1 hl
      good_boolop (goodE l h.1 hl.1) (goodE r h.2 hl.2)
  | .compare o l r, h, hl => by
      have hp := printable_compare h
      have hx := Bool.and_eq_true_iff.1 hl
      by_cases ho : o = .in_
      · subst ho; exact good_in (goodE l hp.1 hx.1) (goodE r hp.2 hx.2)
      · exact good_compare ho (goodE l hp.1 hx.1) (goodE r hp.2 hx.2)
  | .unary o e, h, hl => good_unary o (goodE e h hl)
  | .named _ _, h, _ => nomatch h
  | .call f args, h, hl =>
      have hl := Bool.and_eq_true_iff.1 hl
      good_call (tokOk_of_lexable hl.1) fun hne =>
        (Bool.or_eq_true_iff.1 (Bool.and_eq_true_iff.1 h).2).elim (fun h1 => goodArgs args h1 hl.2 hne)
          (fun h1 => goodNamed args h1 hl.2)
  | .coll ow op .none, h, hl =>
      have how := pathOk_path (Bool.and_eq_true_iff.1 h).1
      good_coll_none (goodE ow how.1 (Bool.and_eq_true_iff.1 hl).1) how.2
  | .coll ow op (.some v b), h, hl =>
      have h := Bool.and_eq_true_iff.1 h
      have hl := Bool.and_eq_true_iff.1 hl
      have hlam := Bool.and_eq_true_iff.1 hl.2
      have how := pathOk_path h.1
      good_coll_some (goodE ow how.1 hl.1) how.2 (tokOk_of_lexable hlam.1) (goodE b h.2 hlam.2)
theorem goodArgs : (xs : Exprs) → printableArgs xs = true → lexableEs' E xs = true → xs ≠ .nil →
    GoodTs sty (printArgs sty mode xs)
  | .nil, _, _, hne => absurd rfl hne
  | .cons a t, h, hl, _ =>
      have h := Bool.and_eq_true_iff.1 h
      have hl := Bool.and_eq_true_iff.1 hl
      good_args (goodE a h.1 hl.1) (goodArgs t h.2 hl.2)
theorem goodNamed : (xs : Exprs) → printableNamed xs = true → lexableEs' E xs = true →
    GoodTs sty (printArgs sty mode xs)
  | .nil, h, _ => nomatch h
  | .cons (.named _ e) t, h, hl =>
      have h := printableNamed_cons h
      have hl := Bool.and_eq_true_iff.1 hl
      have hn := Bool.and_eq_true_iff.1 hl.1
      good_args (good_named (tokOk_of_lexable hn.1) (goodE e h.1 hn.2)) fun hne => goodNamed t (h.2 hne) hl.2
  | .cons (.ident _) _, h, _ | .cons (.attr _ _) _, h, _ | .cons (.lit _ _) _, h, _ | .cons (.list _) _, h, _
  | .cons (.binop _ _ _) _, h, _ | .cons (.compare _ _ _) _, h, _ | .cons (.boolop _ _ _) _, h, _
  | .cons (.unary _ _) _, h, _ | .cons (.call _ _) _, h, _ | .cons (.coll _ _ _) _, h, _ => nomatch h
end

end printer

/-- the reference printer's token list satisfies the adjacency condition of `LexRender.lex_chain`
    (strictly — no unary minus directly before a number — when the style writes a blank after unary minus) -/
theorem chain_printToks (sty : Style) (mode : Mode) (e : Expr)
    (hp : printable e = true) (hl : lexableE' pyCharEnv e = true) :
    chainOk sty.afterMinus (printToks sty mode e) := by
  have := goodE sty mode e hp hl [] trivial (Or.inl rfl)
  simpa using this

/-- the rendering of the reference printer's tokens lexes back, without error, to those tokens —
    with a WS token wherever `render` kept a unary minus apart from an unsigned number (`LexRender.sep`) -/
theorem lex_render_printToks_sep (sty : Style) (mode : Mode) (e : Expr)
    (hp : printable e = true) (hl : lexableE' pyCharEnv e = true) :
    lexAll pyCharEnv (render (printToks sty mode e)) = ⟨sep (printToks sty mode e), none⟩ := by
  have hc := chain_printToks sty mode e hp hl
  refine lexAll_chain _ ?_
  cases hb : sty.afterMinus with
  | false => rw [hb] at hc; exact hc
  | true => rw [hb] at hc; exact chainOk_mono _ hc

/-- no WS token is added for the styles that write a blank after unary minus (among them the printer's own) -/
theorem lex_render_printToks (sty : Style) (mode : Mode) (e : Expr) (hs : sty.afterMinus = true)
    (hp : printable e = true) (hl : lexableE' pyCharEnv e = true) :
    lexAll pyCharEnv (render (printToks sty mode e)) = ⟨printToks sty mode e, none⟩ := by
  have hc := chain_printToks sty mode e hp hl
  rw [hs] at hc
  rw [lex_render_printToks_sep sty mode e hp hl, sep_strict _ hc]

theorem parse_sep_printToks (sty : Style) (mode : Mode) (e : Expr) (h : printable e = true) :
    parseToks none (sep (printToks sty mode e)) = .ok e := by
  have hc := Pratt.parseExpr_printToks sty mode e h (parseFuel (sep (printToks sty mode e))) (by
    have := ParseSep.minusWs_sep.length_le (printToks sty mode e)
    simp only [parseFuel]; omega)
  have hs := ParseSep.sepInv ParseSep.minusWs_sep _ hc
  simp [parseToks, hs]

/-- C05 / C19 at the level of TEXT: every rendering (any style, any mode) of a printable, lexable tree parses back -/
theorem parse_text (sty : Style) (mode : Mode) (e : Expr)
    (hp : printable e = true) (hl : lexableE' pyCharEnv e = true) :
    parseText pyCharEnv (render (printToks sty mode e)) = .ok e := by
  simp only [parseText, lex_render_printToks_sep sty mode e hp hl]
  exact parse_sep_printToks sty mode e hp

/-- the same by way of `lex_render_printToks`, for styles with a blank after unary minus -/
theorem parse_text_afterMinus (sty : Style) (mode : Mode) (e : Expr) (hs : sty.afterMinus = true)
    (hp : printable e = true) (hl : lexableE' pyCharEnv e = true) :
    parseText pyCharEnv (render (printToks sty mode e)) = .ok e := by
  simp only [parseText, lex_render_printToks sty mode e hs hp hl]
  exact C05.parse_printToks sty mode e hp

/-- C13 at the level of TEXT: what odata_query's printer model emits parses back to the tree -/
theorem roundtrip_text (e : Expr) (hp : printable e = true) (hl : lexableE' pyCharEnv e = true) :
    parseText pyCharEnv (rtRender e) = .ok e := by
  rw [rtRender_eq_render e hp]
  exact parse_text rtStyle .printer e hp hl

/-! ### counterexamples: why `LexRender.sep` and `lexableE'` are in the statements -/

/-- `-1` as a tree: unary minus applied to the integer literal `1` -/
def cexNeg : Expr := .unary .neg (.lit .int ['1'])
/-- a field called `not` -/
def cexNot : Expr := .compare .eq (.ident ⟨"not".toList, []⟩) (.lit .int ['1'])
/-- a field called `add` in a list -/
def cexAdd : Expr := .list (.cons (.ident ⟨"add".toList, []⟩) (.cons (.lit .int ['1']) .nil))

theorem cexNeg_toks : printToks {} .minimal cexNeg = [.uminus, .lit .int ['1']] := by
  simp [printToks, cexNeg, operand, needsParen, level, ws?]
theorem cexNot_toks : printToks {} .minimal cexNot = [.ident ⟨"not".toList, []⟩, .cmp .eq, .lit .int ['1']] := by
  simp [printToks, cexNot, operand, needsParen, level]
theorem cexAdd_toks : printToks { insideParens := true, beforeComma := true } .minimal cexAdd
    = [.lp, .ws, .ident ⟨"add".toList, []⟩, .ws, .comma, .lit .int ['1'], .ws, .rp] := by
  simp [printToks, printList, printArgs, cexAdd, paren, commaToks, ws?]

/-- `lexAll … = ⟨printToks …, none⟩` for every style is false, also under `lexableE'`: without a blank after unary
    minus the text of `-1` is `- 1` (see `render`) and lexes to `[uminus, ws, 1]`, one WS token more than was printed -/
theorem lex_render_printToks_original_false :
    printable cexNeg = true ∧ lexableE pyCharEnv cexNeg = true ∧ lexableE' pyCharEnv cexNeg = true ∧
    lexAll pyCharEnv (render (printToks {} .minimal cexNeg)) ≠ ⟨printToks {} .minimal cexNeg, none⟩ := by
  rw [cexNeg_toks]
  decide +kernel

/-- `tokLexable` is too weak: the identifier `not` lexes to itself when alone, but `not eq 1` is read as the operator
    `not` applied to …; neither the reference rendering nor the printer's own text parses back -/
theorem parse_text_original_false :
    printable cexNot = true ∧ lexableE pyCharEnv cexNot = true ∧
    parseText pyCharEnv (render (printToks {} .minimal cexNot)) ≠ .ok cexNot ∧
    parseText pyCharEnv (rtRender cexNot) ≠ .ok cexNot ∧ lexableE' pyCharEnv cexNot = false := by
  rw [cexNot_toks]
  decide +kernel

/-- the same for an identifier named like a binary operator, between optional blanks: `( add , 1 )` -/
theorem parse_text_original_false' :
    printable cexAdd = true ∧ lexableE pyCharEnv cexAdd = true ∧
    parseText pyCharEnv (render (printToks { insideParens := true, beforeComma := true } .minimal cexAdd)) ≠ .ok cexAdd ∧
    lexableE' pyCharEnv cexAdd = false := by
  rw [cexAdd_toks]
  decide +kernel


end OQ.C13
