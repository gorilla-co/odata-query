/- Tie: handler names of the three ORM visitors, the expression each literal handler returns (what makes a
   filter value a bound parameter: `Value(node.py_val)` / `literal(node.py_val)`) and the return expressions of the
   two `_substr_function`s, as re-extracted from /repo on this run, equal the tables the ORM model was written
   against; and the model's own handler lists agree with them. -/
import ODataVerif.Model.Orm
import ODataVerif.Model.OrmTables
import ODataVerif.Generated.Orm
namespace OQ.Tie
open OQ
theorem orm_djangoHandlers_tie : Generated.Orm.djangoHandlers = OrmTables.djangoHandlers := rfl
theorem orm_saOrmHandlers_tie : Generated.Orm.saOrmHandlers = OrmTables.saOrmHandlers := rfl
theorem orm_saCoreHandlers_tie : Generated.Orm.saCoreHandlers = OrmTables.saCoreHandlers := rfl
theorem orm_djangoLiterals_tie : Generated.Orm.djangoLiterals = OrmTables.djangoLiterals := rfl
theorem orm_saLiterals_tie : Generated.Orm.saLiterals = OrmTables.saLiterals := rfl
theorem orm_djangoSubstr_tie : Generated.Orm.djangoSubstr = OrmTables.djangoSubstr := rfl
theorem orm_saSubstr_tie : Generated.Orm.saSubstr = OrmTables.saSubstr := rfl

theorem orm_model_handlers :
    OrmTables.saOrmHandlers = ormHandlers ∧ OrmTables.saCoreHandlers = ormHandlers
    ∧ OrmTables.djangoHandlers.filter (fun h => !djangoGeoHandlers.contains h) = ormHandlers
    ∧ OrmTables.djangoHandlers.filter (fun h => djangoGeoHandlers.contains h) = djangoGeoHandlers :=
  ⟨rfl, rfl, by decide +kernel, by decide +kernel⟩

/-- the positional-argument counts the model's `djArityOk` accepts are those of the handlers' signatures (re-extracted with `inspect.signature`), and
    `visit_Call` binds the arguments against the signature before calling the handler (fix cf3d3cd) -/
theorem orm_django_arities_tie :
    (Generated.Orm.djangoHandlerArities.filter (fun r => !djangoGeoHandlers.contains r.1)).all
      (fun r => (List.range 8).all (fun n => djArityOk r.1 n == (decide (r.2.1 ≤ n) && decide (n ≤ r.2.2)))) = true
    ∧ Generated.Orm.djangoCallBindsFirst = true := by decide +kernel

/-- every literal handler of both backends wraps the value in a bound parameter (`Value(…)` / `literal(…)`), except
    the inline constants of SQLAlchemy (null / true / false) and lists (element-wise) -/
theorem orm_literals_are_parameters :
    (OrmTables.djangoLiterals.filter (fun p => p.1 != "List" && p.1 != "Geography")).all (fun p => p.2.startsWith "return Value(") = true
    ∧ (OrmTables.saLiterals.filter (fun p => p.1 != "List" && p.1 != "Geography" && p.1 != "Null" && p.1 != "Boolean")).all
        (fun p => p.2.startsWith "return literal(") = true := by decide +kernel
end OQ.Tie
