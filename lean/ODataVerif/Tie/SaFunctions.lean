/- Tie: the SQL function classes of odata_query/sqlalchemy/functions_ext.py — each class's OWN `package` attribute, the
   package of SQLAlchemy's registry it is actually found in after import, and its type — as re-extracted from /repo (and
   from the live registry) on this run, equal the table the registry model is written against; and no class of the
   library sits in the `_default` package. -/
import ODataVerif.Model.Shorthand
import ODataVerif.Generated.SaFunctions
namespace OQ.Tie
theorem saFunctions_tie : Generated.SaFunctions.functionsExt = OQ.functionsExt := rfl
theorem saFunctions_not_in_default : Generated.SaFunctions.odataClassesInDefaultPackage = [] := rfl
end OQ.Tie
