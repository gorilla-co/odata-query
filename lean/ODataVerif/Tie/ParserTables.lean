/- Tie: the lexer rules, literals, flags, precedence declaration, productions and LR-table facts
   re-extracted from /repo on this run equal the ones the lexer and parser models are written against. -/
import ODataVerif.Model.ParserTables
import ODataVerif.Generated.ParserTables
namespace OQ.Tie
open OQ
theorem lexerRules_tie : Generated.ParserTables.lexerRules = ParserTables.lexerRules := rfl
theorem lexerLiterals_tie : Generated.ParserTables.lexerLiterals = ParserTables.lexerLiterals := rfl
theorem lexerFlags_tie : Generated.ParserTables.lexerReflags = ParserTables.lexerReflags
    ∧ Generated.ParserTables.lexerIgnore = ParserTables.lexerIgnore := ⟨rfl, rfl⟩
theorem parserPrecedence_tie : Generated.ParserTables.parserPrecedence = ParserTables.parserPrecedence := rfl
theorem productions_tie : Generated.ParserTables.productions = ParserTables.productions := rfl
theorem lrTables_tie : Generated.ParserTables.lrStates = ParserTables.lrStates
    ∧ Generated.ParserTables.lrDefaultedStates = ParserTables.lrDefaultedStates := ⟨rfl, rfl⟩
end OQ.Tie
