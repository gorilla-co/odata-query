/- Tie: the table re-extracted from /repo (grammar.ODATA_FUNCTIONS) on this run equals the table the
   model and the proofs are stated over. -/
import ODataVerif.Model.Parser
import ODataVerif.Generated.OdataFunctions
namespace OQ.Tie
theorem odataFunctions_tie : Generated.odataFunctions = OQ.odataFunctions := rfl
end OQ.Tie
