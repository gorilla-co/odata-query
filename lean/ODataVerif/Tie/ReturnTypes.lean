/- Tie: the rows obtained by probing the real `typing.infer_return_type` on this run (every function
   name of the table plus near-misses, with sentinel arguments of different kinds) equal what the
   model's `inferReturnRule` says for the same names. -/
import ODataVerif.Model.Typing
import ODataVerif.Generated.ReturnTypes
namespace OQ.Tie
def ruleCode : RetRule → String
  | .fixed t => t.className
  | .arg0or1 => "arg0|arg1"
  | .arg0 => "arg0"
  | .unknown => "None"
theorem returnTypes_tie :
    Generated.returnTypeRows = Generated.returnTypeRows.map (fun r => (r.1, ruleCode (inferReturnRule r.1))) := by
  decide +kernel
end OQ.Tie
