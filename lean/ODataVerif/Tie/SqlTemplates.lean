/- Tie: the f-string skeleton of every `sqlfunc_*` handler, re-extracted from the source of the three dialect classes on
   this run, equals the table the template model is written against; and EVERY template `selectTpl` can return — for every
   dialect, handler key and combination of inferred argument types — renders to one of the `return` f-strings of the class
   that defines the handler for that dialect. -/
import ODataVerif.Lemmas.SqlModel
import ODataVerif.Model.SqlTemplateTable
import ODataVerif.Generated.SqlTemplates
namespace OQ.Tie
open OQ

theorem sqlTemplates_tie : Generated.SqlTemplates.templates = SqlTemplateTable.templates := rfl

def itemSkel : TItem → String
  | .p x => String.ofList x.spell
  | .arg i => "{" ++ toString i ++ "}"
  | .argW i _ _ => "{" ++ toString i ++ "}"
  | .pat _ _ _ => "{pattern}"

def tplSkeleton (tpl : List TItem) : String := String.join (tpl.map itemSkel)

def dialectTag : Dialect → String
  | .std => "std" | .sqlite => "sqlite" | .athena => "athena"

/-- the `return` f-strings of the method the dialect's class resolves `sqlfunc_<key>` to (its own, else the base class's) -/
def templatesFor (d : Dialect) (key : String) : List String :=
  match SqlTemplateTable.templates.find? (fun r => r.1 == dialectTag d && r.2.1 == key) with
  | some r => r.2.2
  | none =>
      match SqlTemplateTable.templates.find? (fun r => r.1 == "std" && r.2.1 == key) with
      | some r => r.2.2
      | none => []

/-- the template renders to an f-string of the handler the dialect's class resolves to (`hassubset` raises at once
    outside Athena, so its template counts there only) -/
def inSource (d : Dialect) (key : String) (tpl : List TItem) : Bool :=
  (key == "hassubset" && d != .athena) || (templatesFor d key).contains (tplSkeleton tpl)

theorem tplTable_in_source : SqlModel.tplAll inSource = true := by decide +kernel

theorem hassubset_athena {d : Dialect} {n : Nat} (hp : preCheck d "hassubset" n = none) : d = .athena := by
  have hf : sqlSigs.find? (fun e => e.1 == "hassubset") = some ("hassubset", .atLeast 0) := by decide +kernel
  unfold preCheck at hp
  rw [hf] at hp
  cases d <;> first | rfl | exact absurd hp (by simp)

theorem selectTpl_in_source (d : Dialect) (key : String) (tys : List (Option Ty)) (tpl : List TItem)
    (hp : preCheck d key tys.length = none)
    (h : selectTpl d key tys = .ok tpl) : (templatesFor d key).contains (tplSkeleton tpl) = true := by
  have ht := SqlModel.selectTpl_all tplTable_in_source h
  simp only [inSource, Bool.or_eq_true, Bool.and_eq_true, beq_iff_eq, bne_iff_ne] at ht
  rcases ht with ⟨rfl, hd⟩ | ht
  · exact absurd (hassubset_athena hp) hd
  · exact ht
end OQ.Tie
