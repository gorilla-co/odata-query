/- Tie: the handler matrix (method -> defining class, MRO-resolved) of the three raw SQL visitors, their
   precedence constants and the function-precedence table, as re-extracted from /repo on this run, equal
   the tables the SQL model is written against; and the model's own lookup tables agree with them. -/
import ODataVerif.Model.Sql
import ODataVerif.Model.SqlTables
import ODataVerif.Generated.Sql
namespace OQ.Tie
open OQ
theorem sql_stdFuncs_tie : Generated.Sql.stdFuncs = SqlTables.stdFuncs := rfl
theorem sql_sqliteFuncs_tie : Generated.Sql.sqliteFuncs = SqlTables.sqliteFuncs := rfl
theorem sql_athenaFuncs_tie : Generated.Sql.athenaFuncs = SqlTables.athenaFuncs := rfl
theorem sql_stdVisits_tie : Generated.Sql.stdVisits = SqlTables.stdVisits := rfl
theorem sql_sqliteVisits_tie : Generated.Sql.sqliteVisits = SqlTables.sqliteVisits := rfl
theorem sql_athenaVisits_tie : Generated.Sql.athenaVisits = SqlTables.athenaVisits := rfl
theorem sql_precConsts_tie : Generated.Sql.precConsts = SqlTables.precConsts := rfl
theorem sql_funcPrec_tie : Generated.Sql.funcPrec = SqlTables.funcPrec := rfl

theorem sql_model_handlers :
    SqlTables.stdFuncs.map (fun p => p.1) = sqlHandlers.map (fun n => "sqlfunc_" ++ n)
    ∧ SqlTables.sqliteFuncs.map (fun p => p.1) = sqlHandlers.map (fun n => "sqlfunc_" ++ n)
    ∧ SqlTables.athenaFuncs.map (fun p => p.1) = sqlHandlers.map (fun n => "sqlfunc_" ++ n) := by decide +kernel

/-- the model's function-precedence table is `_FUNCTION_PRECEDENCE` (as a finite map) -/
theorem sql_model_funcPrec :
    ∀ n ∈ sqlHandlers, funcPrec n.toList = ((SqlTables.funcPrec.find? (fun e => e.1 == n)).map (·.2)).getD 8 := by decide +kernel

/-- the levels used by `sqlPrec` are the `_PREC_*` constants -/
theorem sql_model_precConsts :
    SqlTables.precConsts = [("_PREC_ADDITIVE", 5), ("_PREC_AND", 2), ("_PREC_ATOM", 8), ("_PREC_COMPARISON", 4),
                            ("_PREC_MULTIPLICATIVE", 6), ("_PREC_NOT", 3), ("_PREC_OR", 1), ("_PREC_UNARY", 7)] := rfl
end OQ.Tie
