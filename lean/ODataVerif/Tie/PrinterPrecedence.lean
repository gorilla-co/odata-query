/- Tie: roundtrip.PRECEDENCE as re-extracted from /repo on this run equals the table of the printer model. -/
import ODataVerif.Model.Printer
import ODataVerif.Generated.PrinterPrecedence
namespace OQ.Tie
theorem printerPrecedence_tie : Generated.printerPrecedence = OQ.printerPrecedence := rfl
end OQ.Tie
