/- Tie: the exception class hierarchy re-extracted from /repo on this run equals the one the model is written against. -/
import ODataVerif.Model.ExceptionTree
import ODataVerif.Generated.ExceptionTree
namespace OQ.Tie
theorem exceptionTree_tie : Generated.exceptionTree = ExceptionTree.exceptionTree := rfl
end OQ.Tie
