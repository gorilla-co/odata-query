/- Lemmas/ScanGuid.lean — what the GUID rule matches, said once: `scanGuid env cs = some (v, r)` exactly when `v` is
   five groups of 8, 4, 4, 4 and 12 hexadecimal digits with a `-` between them and `cs = v ++ r`
   (`scanGuid_eq_some_iff`).  The scanner is first rewritten as four `group`s (hex digits, then a dash) and a last `takeN`. -/
import ODataVerif.Model.Lexer
namespace OQ

theorem takeN_eq_some_iff {p : Char → Bool} {n : Nat} {cs m r : List Char} :
    takeN p n cs = some (m, r) ↔ cs = m ++ r ∧ m.length = n ∧ ∀ x ∈ m, p x = true := by
  induction n generalizing cs m with
  | zero =>
    simp only [takeN, Option.some.injEq, Prod.mk.injEq, List.length_eq_zero_iff]
    constructor
    · rintro ⟨rfl, rfl⟩; exact ⟨rfl, rfl, nofun⟩
    · rintro ⟨rfl, rfl, -⟩; exact ⟨rfl, rfl⟩
  | succ n ih =>
    rcases cs with _ | ⟨c, cs⟩
    · simp only [takeN, reduceCtorEq, false_iff]
      rintro ⟨h, hl, -⟩
      rw [(List.append_eq_nil_iff.1 h.symm).1] at hl
      cases hl
    · rcases m with _ | ⟨x, m⟩
      · simp only [takeN, List.length_nil, Nat.right_eq_add, Nat.add_eq_zero_iff, Nat.succ_ne_self, and_false, false_and, iff_false]
        split
        · split <;> nofun
        · nofun
      · simp only [takeN, List.cons_append, List.cons.injEq, List.length_cons, Nat.add_right_cancel_iff, List.forall_mem_cons]
        by_cases hc : p c = true
        · rw [if_pos hc]
          constructor
          · intro h
            split at h
            · rename_i m' r' heq
              cases h
              obtain ⟨h1, h2, h3⟩ := ih.1 heq
              exact ⟨⟨rfl, h1⟩, h2, hc, h3⟩
            · cases h
          · rintro ⟨⟨rfl, h1⟩, h2, -, h3⟩
            rw [ih.2 ⟨h1, h2, h3⟩]
        · rw [if_neg hc]
          exact ⟨nofun, fun ⟨⟨e, _⟩, _, hx, _⟩ => absurd (e ▸ hx) hc⟩

/-- fewer than `n` characters before one that does not match: `takeN` fails -/
theorem takeN_stop (p : Char → Bool) {c : Char} (hc : p c = false) (r : List Char) :
    ∀ (n : Nat) (a : List Char), a.length < n → takeN p n (a ++ c :: r) = none
  | 0, _, h => absurd h (Nat.not_lt_zero _)
  | n + 1, [], _ => by simp only [List.nil_append, takeN, hc]; rfl
  | n + 1, x :: a, h => by
    simp only [List.cons_append, takeN, takeN_stop p hc r n a (Nat.lt_of_succ_lt_succ h)]
    split <;> rfl

def dash (r : List Char) : Option (List Char) :=
  match r with
  | '-' :: t => some t
  | _ => none

theorem dash_eq_some_iff {r t : List Char} : dash r = some t ↔ r = '-' :: t := by
  unfold dash
  split
  · simp only [Option.some.injEq, List.cons.injEq, true_and]
  · rename_i hne; exact ⟨nofun, fun e => (hne t e).elim⟩

theorem dash_bind {β : Type} (r : List Char) (k : List Char → Option β) :
    scanGuid.match_1 (fun _ => Option β) r (fun t => (some t).bind k) (fun _ => none.bind k) = (dash r).bind k := by
  unfold dash
  split
  · rfl
  · rename_i hne
    split
    · exact (hne _ rfl).elim
    · rfl

variable (env : CharEnv)

/-- `n` hexadecimal digits and a dash, then `k` on the digits and on what follows the dash -/
def group {β : Type} (n : Nat) (cs : List Char) (k : Str → List Char → Option β) : Option β :=
  (takeN (isHex env) n cs).bind fun a => (dash a.2).bind (k a.1)

theorem scanGuid_eq (cs : List Char) : scanGuid env cs =
    group env 8 cs fun a r => group env 4 r fun b r => group env 4 r fun c r => group env 4 r fun d r =>
    (takeN (isHex env) 12 r).bind fun e => some (a ++ '-' :: b ++ '-' :: c ++ '-' :: d ++ '-' :: e.1, e.2) := by
  unfold scanGuid group
  simp only [Option.bind_eq_bind, dash_bind]
  rfl

variable {env}

theorem group_eq_some_iff {β : Type} {n : Nat} {cs : List Char} {k : Str → List Char → Option β} {x : β} :
    group env n cs k = some x ↔
      ∃ a t, cs = a ++ '-' :: t ∧ (a.length = n ∧ ∀ c ∈ a, isHex env c = true) ∧ k a t = some x := by
  simp only [group, Option.bind_eq_some_iff, Prod.exists, takeN_eq_some_iff, dash_eq_some_iff]
  constructor
  · rintro ⟨a, _, ⟨rfl, h⟩, t, rfl, hk⟩; exact ⟨a, t, rfl, h, hk⟩
  · rintro ⟨a, t, rfl, h, hk⟩; exact ⟨a, _, ⟨rfl, h⟩, t, rfl, hk⟩

/-- `[0-9a-f]{8}-[0-9a-f]{4}-[0-9a-f]{4}-[0-9a-f]{4}-[0-9a-f]{12}` under `re.I` (grammar.py:156), as a predicate on texts -/
def IsGuid (env : CharEnv) (v : Str) : Prop :=
  ∃ a b c d e : Str, v = a ++ '-' :: (b ++ '-' :: (c ++ '-' :: (d ++ '-' :: e))) ∧
    (a.length = 8 ∧ ∀ x ∈ a, isHex env x = true) ∧ (b.length = 4 ∧ ∀ x ∈ b, isHex env x = true) ∧
    (c.length = 4 ∧ ∀ x ∈ c, isHex env x = true) ∧ (d.length = 4 ∧ ∀ x ∈ d, isHex env x = true) ∧
    (e.length = 12 ∧ ∀ x ∈ e, isHex env x = true)

/-- the GUID rule matches the GUID texts, and its value is the matched text -/
theorem scanGuid_eq_some_iff {cs v r : List Char} : scanGuid env cs = some (v, r) ↔ IsGuid env v ∧ cs = v ++ r := by
  simp only [scanGuid_eq, group_eq_some_iff, Option.bind_eq_some_iff, Prod.exists, takeN_eq_some_iff, Option.some.injEq,
    Prod.mk.injEq, IsGuid]
  constructor
  · rintro ⟨a, _, rfl, ha, b, _, rfl, hb, c, _, rfl, hc, d, _, rfl, hd, e, r, ⟨rfl, he⟩, rfl, rfl⟩
    refine ⟨⟨a, b, c, d, e, ?_, ha, hb, hc, hd, he⟩, ?_⟩ <;> simp only [List.append_assoc, List.cons_append]
  · rintro ⟨⟨a, b, c, d, e, rfl, ha, hb, hc, hd, he⟩, rfl⟩
    simp only [List.append_assoc, List.cons_append]
    exact ⟨a, _, rfl, ha, b, _, rfl, hb, c, _, rfl, hc, d, _, rfl, hd, e, r, ⟨rfl, he⟩, rfl, rfl⟩

theorem IsGuid.chars {v : Str} (h : IsGuid env v) : ∀ x ∈ v, isHex env x = true ∨ x = '-' := by
  obtain ⟨a, b, c, d, e, rfl, ⟨-, ha⟩, ⟨-, hb⟩, ⟨-, hc⟩, ⟨-, hd⟩, ⟨-, he⟩⟩ := h
  simp only [List.forall_mem_append, List.forall_mem_cons, or_true, true_and]
  exact ⟨fun x hx => .inl (ha x hx), fun x hx => .inl (hb x hx), fun x hx => .inl (hc x hx), fun x hx => .inl (hd x hx),
    fun x hx => .inl (he x hx)⟩

/-- a GUID text starts with four characters, the first a hexadecimal digit -/
theorem IsGuid.head4 {v : Str} (h : IsGuid env v) : ∃ c1 c2 c3 c4 t, v = c1 :: c2 :: c3 :: c4 :: t ∧ isHex env c1 = true := by
  obtain ⟨a, b, c, d, e, rfl, ⟨la, ha⟩, -⟩ := h
  match a, la, ha with
  | x1 :: x2 :: x3 :: x4 :: a', _, ha => exact ⟨x1, x2, x3, x4, _, rfl, ha x1 List.mem_cons_self⟩

/-- fewer than eight characters before one that is not a hexadecimal digit: not a GUID -/
theorem scanGuid_stop {a : List Char} {c : Char} (ha : a.length < 8) (hc : isHex env c = false) (r : List Char) :
    scanGuid env (a ++ c :: r) = none := by
  rw [scanGuid_eq, group, takeN_stop _ hc r 8 a ha]; rfl

end OQ
