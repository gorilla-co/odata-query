/- For Props/C01.lean, after Lemmas/SqliteSound.lean: evaluation of IN lists, of LIKE on the patterns `patternOf` builds, and of
   Boolean columns and literals. -/
import ODataVerif.Lemmas.SqliteSound
import ODataVerif.Spec.OrmSql
namespace OQ.SqliteSound
open Spec SqliteLike

theorem _root_.OQ.Spec.V3.or_assoc (a b c : V3) : V3.or (V3.or a b) c = V3.or a (V3.or b c) := by
  cases a <;> cases b <;> cases c <;> rfl
theorem _root_.OQ.Spec.V3.or_ff (a : V3) : V3.or a .ff = a := by cases a <;> rfl

theorem foldl_or (f : α → V3) (vs : List α) (a : V3) :
    vs.foldl (fun acc v => V3.or acc (f v)) a = V3.or a (vs.foldr (fun v r => V3.or (f v) r) .ff) := by
  induction vs generalizing a with
  | nil => simp [V3.or_ff]
  | cons v t ih => simp only [List.foldl_cons, List.foldr_cons]; rw [ih, V3.or_assoc]

theorem inList_eq {α} [BEq α] (x : Option α) (vs : List (Option α)) :
    inList x vs = vs.foldr (fun v r => V3.or (cmp2 (· == ·) x v) r) .ff := by
  have h : inList x vs = vs.foldl (fun acc v => V3.or acc (cmp2 (· == ·) x v)) .ff := by
    unfold inList
    congr 1
    funext acc v
    cases x <;> cases v <;> rfl
  rw [h, foldl_or]
  cases (List.foldr (fun v r => V3.or (cmp2 (fun x1 x2 => x1 == x2) x v) r) V3.ff vs) <;> rfl

theorem inVals_map {α} [BEq α] (val : Option α → SqlVal)
    (hval : ∀ x v, eqForIn (val x) (val v) = some (cmp2 (· == ·) x v)) (x : Option α) (vs : List (Option α)) :
    inVals (val x) (vs.map val) = some (inList x vs) := by
  rw [inList_eq]
  induction vs with
  | nil => rfl
  | cons v t ih => simp only [List.map_cons, inVals, hval, ih, List.foldr_cons]

theorem eqForIn_int (x v : Option Int) : eqForIn (valI x) (valI v) = some (cmp2 (· == ·) x v) := by
  unfold eqForIn
  have := cmpVals_int .eq x v
  rw [show cmpName CmpK.eq.toOp = sx "=" from rfl] at this
  rw [this]
  cases x <;> cases v <;> simp [cmp2, cmpInt]
theorem eqForIn_str (x v : Option Str) : eqForIn (valS x) (valS v) = some (cmp2 (· == ·) x v) := by
  unfold eqForIn
  have := cmpVals_str .eq x v
  rw [show cmpName CmpK.eq.toOp = sx "=" from rfl] at this
  rw [this]
  cases x <;> cases v <;> simp [cmp2, cmpStr]

section
variable (ρ : Row)
theorem eval_inI (t : SqlTree) (ts : SqlTrees) (x : Option Int) (vs : List (Option Int))
    (ht : sqlEval ρ t = some (valI x)) (hts : sqlEvalList ρ ts = some (vs.map valI)) :
    sqlEval ρ (.inl t ts) = some (v3ToVal (inList x vs)) := by
  rw [sqlEval, ht, hts]
  simp [inVals_map valI eqForIn_int]
theorem eval_inS (t : SqlTree) (ts : SqlTrees) (x : Option Str) (vs : List (Option Str))
    (ht : sqlEval ρ t = some (valS x)) (hts : sqlEvalList ρ ts = some (vs.map valS)) :
    sqlEval ρ (.inl t ts) = some (v3ToVal (inList x vs)) := by
  rw [sqlEval, ht, hts]
  simp [inVals_map valS eqForIn_str]
end

section
variable (ρ : Row)

theorem eval_catPat (k : LikeK) (p : SqlTree) (y : Option Str) (h : sqlEval ρ p = some (valS y)) :
    sqlEval ρ (catPat (preOf k) (sufOf k) p) = some (valS (y.map (fun s => preOf k ++ s ++ sufOf k))) := by
  have hpct := eval_str ρ ['%']
  cases k
  · exact (eval_concat ρ _ (.str ['%']) _ (some ['%']) (eval_concat ρ (.str ['%']) p (some ['%']) y hpct h) hpct).trans
      (by cases y <;> simp [lift2, preOf, sufOf])
  · exact (eval_concat ρ p (.str ['%']) y (some ['%']) h hpct).trans (by cases y <;> simp [lift2, preOf, sufOf])
  · exact (eval_concat ρ (.str ['%']) p (some ['%']) y hpct h).trans (by cases y <;> simp [lift2, preOf, sufOf])

theorem eval_like {t0 p : SqlTree} {x y : Option Str} (esc : Option Char) (f : Str → Str) (R : Str → Str → Bool)
    (h0 : sqlEval ρ t0 = some (valS x)) (hp : sqlEval ρ p = some (valS (y.map f)))
    (hR : ∀ h n, x = some h → y = some n → sqliteLike (f n) h esc = R h n) :
    sqlEval ρ (.like t0 p (esc.map fun c => [c])) = some (v3ToVal (cmp2 R x y)) := by
  cases esc <;>
  · rw [Option.map, sqlEval, h0, hp]
    cases x with
    | none => cases y <;> rfl
    | some h =>
      cases y with
      | none => rfl
      | some n => simp only [valS_some, Option.map_some, cmp2, v3ToVal_ofBool, hR h n rfl rfl]

/-- a literal substring: the dialect escapes it, and names the escape character only when something was escaped -/
theorem eval_like_lit (k : LikeK) (t0 t1 : SqlTree) (x : Option Str) (n : Str)
    (h0 : sqlEval ρ t0 = some (valS x)) :
    sqlEval ρ (.like t0 (patternOf (.lit .str n) t1 (preOf k) (sufOf k)).1
                        (patternOf (.lit .str n) t1 (preOf k) (sufOf k)).2) =
      some (v3ToVal (cmp2 (likeCI k) x (some n))) := by
  simp only [patternOf]
  by_cases hn : likeLit n = n
  · rw [hn, bne_self_eq_false, if_neg Bool.false_ne_true]
    exact eval_like ρ none (fun m => preOf k ++ m ++ sufOf k) _ h0 (y := some n) (eval_str ρ _)
      fun h m _ hm => by cases hm; exact sqliteLike_lit_noesc k h n hn
  · rw [if_pos (bne_iff_ne.2 hn)]
    exact eval_like ρ (some '\\') (fun m => preOf k ++ likeLit m ++ sufOf k) _ h0 (y := some n) (eval_str ρ _)
      fun h m _ _ => sqliteLike_lit_esc k h m

/-- a computed substring: its value is spliced between the wildcards unescaped -/
theorem eval_like_computed (k : LikeK) (b : Expr) (t0 t1 : SqlTree) (x y : Option Str) (hb : isStrLitE b = false)
    (h0 : sqlEval ρ t0 = some (valS x)) (h1 : sqlEval ρ t1 = some (valS y))
    (hm : ∀ h n, x = some h → y = some n → hasLikeMeta n = false) :
    sqlEval ρ (.like t0 (patternOf b t1 (preOf k) (sufOf k)).1 (patternOf b t1 (preOf k) (sufOf k)).2) =
      some (v3ToVal (cmp2 (likeCI k) x y)) := by
  have hp : patternOf b t1 (preOf k) (sufOf k) = (catPat (preOf k) (sufOf k) t1, none) := by
    unfold patternOf
    split
    · cases hb
    · rfl
  rw [hp]
  exact eval_like ρ none _ _ h0 (eval_catPat ρ k t1 y h1) fun h n hx hy => sqliteLike_computed k h n (hm h n hx hy)
end

section
variable (isD : Char → Bool) (ρ : Row)
theorem mirror_boolLit (b : Bool) :
    mir isD (.lit .bool (if b then "true".toList else "false".toList)) = some (.num (if b then ['1'] else ['0'])) := by
  cases b <;> rfl
theorem eval_boolLit (b : Bool) : sqlEval ρ (.num (if b then ['1'] else ['0'])) = some (v3ToVal (V3.ofBool b)) := by
  cases b
  · rw [if_neg (by decide), eval_num ρ ['0'] (by decide)]; rfl
  · rw [if_pos rfl, eval_num ρ ['1'] (by decide)]; rfl
end

end OQ.SqliteSound
