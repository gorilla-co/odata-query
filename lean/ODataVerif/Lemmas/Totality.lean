/-
  Lemmas/Totality.lean — for Props/C10Total.lean: every scanner of the lexer leaves a suffix of its
  input, a proper one where it has to match something; the parser's recursion budget is never
  exhausted; grammar actions raise only the two `_function_call` exceptions.
-/
import ODataVerif.Lemmas.ScanGuid
import ODataVerif.Lemmas.ParseInduct
set_option linter.unusedSimpArgs false
namespace OQ

/-- what a scanner, or a parser function, leaves of `cs` after it has read something -/
def ProperSuffix {α : Type} (r cs : List α) : Prop := r <:+ cs ∧ r.length < cs.length

theorem ProperSuffix.of_cons {α : Type} {r t : List α} {c : α} (h : r <:+ t) : ProperSuffix r (c :: t) :=
  ⟨h.trans (List.suffix_cons c t), Nat.lt_succ_of_le h.length_le⟩

theorem ProperSuffix.of_append {cs v r : List Char} (h : cs = v ++ r ∧ v ≠ []) : ProperSuffix r cs := by
  obtain ⟨rfl, hv⟩ := h
  have := List.length_pos_iff.mpr hv
  exact ⟨List.suffix_append v r, by simp only [List.length_append]; omega⟩

theorem ProperSuffix.trans_suffix {α : Type} {r s cs : List α} (h : ProperSuffix r s) (h' : s <:+ cs) :
    ProperSuffix r cs :=
  ⟨h.1.trans h', Nat.lt_of_lt_of_le h.2 h'.length_le⟩

theorem ProperSuffix.of_suffix {α : Type} {r s cs : List α} (h : r <:+ s) (h' : ProperSuffix s cs) :
    ProperSuffix r cs :=
  ⟨h.trans h'.1, Nat.lt_of_le_of_lt h.length_le h'.2⟩

theorem all_of_suffix {P : Char → Bool} {r cs : List Char} (h : r <:+ cs) (ha : cs.all P = true) :
    r.all P = true := by
  rw [List.all_eq_true] at ha ⊢
  exact fun x hx => ha x (h.subset hx)

theorem asciiUpper_id {c : Char} (h : ¬isAsciiLower c = true) : asciiUpper c = c := by
  rw [asciiUpper, if_neg h]

/-- the non-ASCII case twins of `re.I` are no ASCII characters -/
theorem ciExtra_ascii {p c : Char} (h : c.toNat < 128) : pyCharEnv.ciExtra p c = false := by
  simp [pyCharEnv, CharTables.ciExtras]; omega

section Lexer
variable {env : CharEnv}

theorem kw_append : ∀ {p cs m r : List Char}, kw env p cs = some (m, r) → cs = m ++ r ∧ m.length = p.length
  | [], _, _, _, h => by cases h; exact ⟨rfl, rfl⟩
  | _ :: _, [], _, _, h => by cases h
  | p :: ps, c :: cs, m, r, h => by
      unfold kw at h
      split at h
      · split at h
        · rename_i heq
          cases h
          exact ⟨congrArg (c :: ·) (kw_append heq).1, congrArg (· + 1) (kw_append heq).2⟩
        · cases h
      · cases h

theorem kw_suffix {p cs m r : List Char} (h : kw env p cs = some (m, r)) : r <:+ cs :=
  ⟨m, (kw_append h).1.symm⟩

theorem span_eq (p : Char → Bool) : ∀ cs, span p cs = (cs.takeWhile p, cs.dropWhile p)
  | [] => rfl
  | c :: cs => by
    simp only [span, List.takeWhile_cons, List.dropWhile_cons]
    split <;> simp [span_eq p cs]

theorem span1_eq (p : Char → Bool) (cs : List Char) :
    span1 p cs = if cs.takeWhile p = [] then none else some (cs.takeWhile p, cs.dropWhile p) := by
  unfold span1
  rw [span_eq]
  split
  · rename_i h; simp only [Prod.mk.injEq] at h; simp [h.1]
  · rename_i a b hne h
    simp only [Prod.mk.injEq] at h
    obtain ⟨rfl, rfl⟩ := h
    rw [if_neg hne]

/-- `tl` is empty or begins with a character that `p` rejects: a run of `p` characters ends where `tl` begins -/
def Stops (p : Char → Bool) (tl : List Char) : Prop := ∀ d rest, tl = d :: rest → p d = false

theorem stops_nil (p : Char → Bool) : Stops p [] := fun _ _ e => nomatch e

theorem stops_cons {p : Char → Bool} {c : Char} (h : p c = false) (r : List Char) : Stops p (c :: r) :=
  fun _ _ e => by cases e; exact h

theorem span1_eq_some_iff {p : Char → Bool} {cs a r : List Char} :
    span1 p cs = some (a, r) ↔ cs = a ++ r ∧ a ≠ [] ∧ (∀ c ∈ a, p c = true) ∧ Stops p r := by
  rw [span1_eq]
  constructor
  · intro h
    split at h
    · cases h
    · cases h
      refine ⟨List.takeWhile_append_dropWhile.symm, ‹_›, List.all_eq_true.1 List.all_takeWhile, fun d rest e => ?_⟩
      have := List.head_dropWhile_not p (l := cs) (by rw [e]; exact List.cons_ne_nil _ _)
      simpa only [e, List.head_cons, Bool.not_eq_true] using this
  · rintro ⟨rfl, hne, ha, hr⟩
    have ht : r.takeWhile p = [] := by
      cases r with
      | nil => rfl
      | cons d rest => rw [List.takeWhile_cons, hr d rest rfl]; rfl
    have hd : r.dropWhile p = r := by
      cases r with
      | nil => rfl
      | cons d rest => rw [List.dropWhile_cons, hr d rest rfl]; rfl
    rw [List.takeWhile_append_of_pos ha, List.dropWhile_append_of_pos ha, ht, hd, List.append_nil, if_neg hne]

theorem span1_append {p : Char → Bool} {cs a r : List Char} (h : span1 p cs = some (a, r)) :
    cs = a ++ r ∧ a ≠ [] :=
  ⟨(span1_eq_some_iff.1 h).1, (span1_eq_some_iff.1 h).2.1⟩

theorem span1_left {p : Char → Bool} {cs a r : List Char} (h : span1 p cs = some (a, r)) : ProperSuffix r cs :=
  .of_append (span1_append h)

theorem takeUpTo_append (p : Char → Bool) : ∀ (n : Nat) (cs : List Char),
    cs = (takeUpTo p n cs).1 ++ (takeUpTo p n cs).2
  | 0, cs => rfl
  | _ + 1, [] => rfl
  | n + 1, c :: cs => by
      unfold takeUpTo
      split
      · exact congrArg (c :: ·) (takeUpTo_append p n cs)
      · rfl

theorem durGroup_suffix (l : Char) (cs : List Char) : (durGroup env l cs).2 <:+ cs := by
  unfold durGroup
  split
  · rename_i ds c r heq
    split
    · exact (List.suffix_cons c r).trans (span1_left heq).1
    · exact List.suffix_refl cs
  · exact List.suffix_refl cs

theorem durSeconds_suffix (cs : List Char) : (durSeconds env cs).2 <:+ cs := by
  unfold durSeconds
  split
  · rename_i ds r heq
    split
    · rename_i fs c r' heq'
      split
      · exact ((List.suffix_cons c r').trans (span1_left heq').1).trans
          ((List.suffix_cons '.' r).trans (span1_left heq).1)
      · exact List.suffix_refl cs
    · exact List.suffix_refl cs
  · rename_i ds c r _ heq
    split
    · exact (List.suffix_cons c r).trans (span1_left heq).1
    · exact List.suffix_refl cs
  · exact List.suffix_refl cs

theorem scanDuration_left {cs v r} (h : scanDuration env cs = some (v, r)) : ProperSuffix r cs := by
  unfold scanDuration at h
  simp only [Option.bind_eq_bind, Option.bind_eq_some_iff] at h
  obtain ⟨⟨m0, r0⟩, h0, ⟨pm, r2⟩, hp, h⟩ := h
  dsimp only at hp h
  have s2 : r2 <:+ r0 := by
    split at hp
    · exact (kw_suffix hp).trans (List.suffix_cons _ _)
    · exact (kw_suffix hp).trans (List.suffix_cons _ _)
    · exact kw_suffix hp
  generalize hr5 : (durGroup env 'd' (durGroup env 'm' (durGroup env 'y' r2).2).2).2 = r5 at h
  have s5 : r5 <:+ r2 :=
    hr5 ▸ (durGroup_suffix _ _).trans ((durGroup_suffix _ _).trans (durGroup_suffix _ _))
  split at h
  · rename_i r' heq
    cases h
    have s6 : ('\'' :: r) <:+ r5 := by
      rw [← heq]
      split
      · split
        · exact (durSeconds_suffix _).trans
            ((durGroup_suffix _ _).trans ((durGroup_suffix _ _).trans (List.suffix_cons _ _)))
        · exact List.suffix_rfl
      · exact List.suffix_rfl
    exact (ProperSuffix.of_cons (List.suffix_refl r)).trans_suffix
      (s6.trans (s5.trans (s2.trans (kw_suffix h0))))
  · cases h

theorem strBody_left {cs b r : List Char} (h : strBody cs = some (b, r)) : ProperSuffix r cs := by
  fun_induction strBody cs generalizing b r with
  | case1 => cases h
  | case2 t b' r' heq ih =>
      cases h; exact (ih heq).trans_suffix ((List.suffix_cons _ _).trans (List.suffix_cons _ _))
  | case3 t heq => cases h; exact .of_cons List.suffix_rfl
  | case4 t hne => cases h; exact .of_cons List.suffix_rfl
  | case5 c t hne1 hne2 b' r' heq ih => cases h; exact (ih heq).trans_suffix (List.suffix_cons _ _)
  | case6 => cases h

theorem scanString_left {cs v r} (h : scanString cs = some (v, r)) : ProperSuffix r cs := by
  unfold scanString at h
  split at h
  · simp only [Option.bind_eq_bind, Option.bind_eq_some_iff] at h
    obtain ⟨⟨b, r'⟩, h1, h2⟩ := h
    cases h2
    exact .of_cons (strBody_left h1).1
  · cases h

theorem scanGeography_left {cs v r} (h : scanGeography env cs = some (v, r)) : ProperSuffix r cs := by
  unfold scanGeography at h
  simp only [Option.bind_eq_bind, Option.bind_eq_some_iff] at h
  obtain ⟨⟨b, r'⟩, h1, h2⟩ := h
  exact (strBody_left h2).trans_suffix (kw_suffix h1)

theorem scanGuid_append {cs v r} (h : scanGuid env cs = some (v, r)) :
    (cs = v ++ r ∧ v ≠ []) ∧ v.all (fun c => isHex env c || c == '-') = true := by
  obtain ⟨hv, rfl⟩ := scanGuid_eq_some_iff.1 h
  obtain ⟨c, _, _, _, _, rfl, _⟩ := hv.head4
  exact ⟨⟨rfl, List.cons_ne_nil _ _⟩, List.all_eq_true.2 fun x hx => by simpa using hv.chars x hx⟩

theorem scanDatePart_append {cs v r} (h : scanDatePart env cs = some (v, r)) : cs = v ++ r ∧ v ≠ [] := by
  unfold scanDatePart at h
  split at h
  · split at h
    · cases h; exact ⟨rfl, List.cons_ne_nil _ _⟩
    · cases h
  · cases h

theorem scanHourMinute_append {cs v r} (h : scanHourMinute env cs = some (v, r)) : cs = v ++ r ∧ v ≠ [] := by
  unfold scanHourMinute at h
  split at h
  · split at h
    · cases h; exact ⟨rfl, List.cons_ne_nil _ _⟩
    · cases h
  · cases h

theorem scanFraction_append (cs : List Char) : cs = (scanFraction env cs).1 ++ (scanFraction env cs).2 := by
  unfold scanFraction
  split
  · rename_i r
    split
    · rfl
    · rename_i ds r' hne heq
      have := takeUpTo_append env.isDigit 12 r
      rw [heq] at this
      exact congrArg ('.' :: ·) this
  · rfl

theorem scanSeconds_append {cs v r} (h : scanSeconds env cs = some (v, r)) : cs = v ++ r ∧ v ≠ [] := by
  unfold scanSeconds at h
  split at h
  · rename_i s1 s2 r0
    split at h
    · cases h; exact ⟨congrArg (':' :: ':' :: s1 :: s2 :: ·) (scanFraction_append r0), List.cons_ne_nil _ _⟩
    · cases h
  · rename_i s1 s2 r0 _
    split at h
    · cases h; exact ⟨congrArg (':' :: s1 :: s2 :: ·) (scanFraction_append r0), List.cons_ne_nil _ _⟩
    · cases h
  · cases h

theorem scanOffset_append (cs : List Char) : cs = (scanOffset env cs).1 ++ (scanOffset env cs).2 := by
  unfold scanOffset
  split
  · rename_i c r
    split
    · rfl
    · split
      · split
        · rename_i hm r' heq; exact congrArg (c :: ·) (scanHourMinute_append heq).1
        · rfl
      · rfl
  · rfl

theorem scanDateTime_left {cs v r} (h : scanDateTime env cs = some (v, r)) : ProperSuffix r cs := by
  unfold scanDateTime at h
  simp only [Option.bind_eq_bind, Option.bind_eq_some_iff] at h
  obtain ⟨⟨d, r1⟩, h1, h⟩ := h
  dsimp only at h
  split at h
  · rename_i t r1'
    split at h
    · simp only [Option.bind_eq_bind, Option.bind_eq_some_iff] at h
      obtain ⟨⟨hm, r2⟩, h2, h⟩ := h
      have s2 : r2 <:+ t :: r1' := (ProperSuffix.of_append (scanHourMinute_append h2)).1.trans (List.suffix_cons _ _)
      refine .of_suffix (.trans ?_ s2) (.of_append (scanDatePart_append h1))
      cases hs : scanSeconds env r2 with
      | none => rw [hs] at h; cases h; exact ⟨_, (scanOffset_append r2).symm⟩
      | some p =>
        rw [hs] at h; cases h
        exact .trans ⟨_, (scanOffset_append p.2).symm⟩ (ProperSuffix.of_append (scanSeconds_append hs)).1
    · cases h
  · cases h

theorem scanTime_left {cs v r} (h : scanTime env cs = some (v, r)) : ProperSuffix r cs := by
  unfold scanTime at h
  simp only [Option.bind_eq_bind, Option.bind_eq_some_iff] at h
  obtain ⟨⟨hm, r1⟩, h1, ⟨s, r2⟩, h2, h⟩ := h
  cases h
  exact (ProperSuffix.of_append (scanSeconds_append h2)).trans_suffix (ProperSuffix.of_append (scanHourMinute_append h1)).1

theorem scanInteger_sign {c : Char} (hc : c = '+' ∨ c = '-') (t : List Char) :
    scanInteger env (c :: t) = (span1 env.isDigit t).map (fun x => (c :: x.1, x.2)) := by
  rcases hc with rfl | rfl <;> rfl

theorem scanInteger_other {c : Char} (h1 : c ≠ '+') (h2 : c ≠ '-') (t : List Char) :
    scanInteger env (c :: t) = span1 env.isDigit (c :: t) := by
  unfold scanInteger
  split
  · rename_i heq; exact absurd (List.cons.inj heq).1 h1
  · rename_i heq; exact absurd (List.cons.inj heq).1 h2
  · rfl

theorem scanInteger_append {cs v r} (h : scanInteger env cs = some (v, r)) : cs = v ++ r ∧ v ≠ [] := by
  unfold scanInteger at h
  split at h
  · simp only [Option.map_eq_some_iff] at h
    obtain ⟨⟨a, b⟩, h1, h⟩ := h
    cases h
    exact ⟨congrArg ('+' :: ·) (span1_append h1).1, List.cons_ne_nil _ _⟩
  · simp only [Option.map_eq_some_iff] at h
    obtain ⟨⟨a, b⟩, h1, h⟩ := h
    cases h
    exact ⟨congrArg ('-' :: ·) (span1_append h1).1, List.cons_ne_nil _ _⟩
  · exact span1_append h

theorem scanExponent_left {cs v r} (h : scanExponent env cs = some (v, r)) : ProperSuffix r cs := by
  unfold scanExponent at h
  split at h
  · split at h
    · split at h
      all_goals
        simp only [Option.map_eq_some_iff] at h
        obtain ⟨⟨a, b⟩, h1, h⟩ := h
        cases h
      · exact (span1_left h1).trans_suffix ((List.suffix_cons _ _).trans (List.suffix_cons _ _))
      · exact (span1_left h1).trans_suffix ((List.suffix_cons _ _).trans (List.suffix_cons _ _))
      · exact (span1_left h1).trans_suffix (List.suffix_cons _ _)
    · cases h
  · cases h

theorem scanDecimal_left {cs v r} (h : scanDecimal env cs = some (v, r)) : ProperSuffix r cs := by
  unfold scanDecimal at h
  simp only [Option.bind_eq_bind, Option.bind_eq_some_iff] at h
  obtain ⟨⟨i, r1⟩, h1, h⟩ := h
  refine .of_suffix ?_ (.of_append (scanInteger_append h1))
  dsimp only at h
  split at h
  · rename_i t
    split at h
    · rename_i f r' heq
      have s := (span1_left heq).1.trans (List.suffix_cons '.' t)
      split at h
      · rename_i e r'' heq'; cases h; exact (scanExponent_left heq').1.trans s
      · cases h; exact s
    · cases h
  · split at h
    · rename_i e r'' heq'; cases h; exact (scanExponent_left heq').1
    · cases h

theorem scanWord_left {w cs v r} (hw : w ≠ []) (h : scanWord env w cs = some (v, r)) : ProperSuffix r cs := by
  unfold scanWord at h
  split at h
  · rename_i m r' heq
    split at h
    · cases h
      exact .of_append ⟨(kw_append heq).1, fun e => hw (List.length_eq_zero_iff.mp ((kw_append heq).2 ▸ congrArg List.length e))⟩
    · cases h
  · cases h

theorem scanOp_left {w cs r} (h : scanOp env w cs = some r) : ProperSuffix r cs := by
  unfold scanOp at h
  simp only [Option.bind_eq_bind, Option.bind_eq_some_iff] at h
  obtain ⟨⟨_, r1⟩, h1, ⟨_, r2⟩, h2, ⟨_, r3⟩, h3, h⟩ := h
  cases h
  exact (span1_left h3).trans_suffix ((kw_suffix h2).trans (span1_left h1).1)

theorem scanNot_left {cs r} (h : scanNot env cs = some r) : ProperSuffix r cs := by
  unfold scanNot at h
  simp only [Option.bind_eq_bind, Option.bind_eq_some_iff] at h
  obtain ⟨⟨_, r2⟩, h2, ⟨_, r3⟩, h3, h⟩ := h
  cases h
  exact (span1_left h3).trans_suffix (kw_suffix h2)

theorem identTail_append (n : Nat) (cs : List Char) : cs = (identTail env n cs).1 ++ (identTail env n cs).2 := by
  fun_induction identTail env n cs
  all_goals try rfl
  · rename_i n c t hc a b heq ih; rw [heq] at ih; exact congrArg ('.' :: c :: ·) ih
  · rename_i n c t _ hc a b heq ih; rw [heq] at ih; exact congrArg (c :: ·) ih

theorem scanIdent_left {cs v r} (h : scanIdent env cs = some (v, r)) : ProperSuffix r cs := by
  unfold scanIdent at h
  split at h
  · rename_i c t
    split at h
    · cases h; exact .of_cons ⟨_, (identTail_append 127 t).symm⟩
    · cases h
  · cases h

theorem lexOne_left {cs t r} (h : lexOne env cs = some (t, r)) : ProperSuffix r cs := by
  unfold lexOne at h
  repeat' (split at h)
  all_goals cases h
  next heq => exact scanDuration_left heq
  next heq => exact scanString_left heq
  next heq => exact scanGeography_left heq
  next heq => exact .of_append (scanGuid_append heq).1
  next heq => exact scanDateTime_left heq
  next heq => exact .of_append (scanDatePart_append heq)
  next heq => exact scanTime_left heq
  next heq => exact scanDecimal_left heq
  next heq => exact .of_append (scanInteger_append heq)
  iterate 3 next heq => exact scanWord_left (by decide) heq
  iterate 5 next heq => exact scanOp_left heq
  next => exact .of_cons (List.suffix_refl r)
  iterate 2 next heq => exact scanOp_left heq
  next heq => exact scanNot_left heq
  iterate 7 next heq => exact scanOp_left heq
  iterate 2 next heq => exact scanWord_left (by decide) heq
  next heq => exact scanIdent_left heq
  next heq => exact span1_left heq
  all_goals exact .of_cons (List.suffix_refl r)

theorem lexOne_len (env : CharEnv) (cs : List Char) (t : Tok) (r : List Char)
    (h : lexOne env cs = some (t, r)) : r.length < cs.length :=
  (lexOne_left h).2

end Lexer

section
variable (env : CharEnv)

theorem lexFuel_irrel : ∀ (f1 f2 pos : Nat) (cs : List Char),
    cs.length < f1 → cs.length < f2 → lexFuel env f1 pos cs = lexFuel env f2 pos cs
  | 0, _, _, _, h1, _ => by omega
  | _ + 1, 0, _, _, _, h2 => by omega
  | f1 + 1, f2 + 1, pos, [], _, _ => by simp [lexFuel]
  | f1 + 1, f2 + 1, pos, c :: cs, h1, h2 => by
      simp only [lexFuel]
      cases hl : lexOne env (c :: cs) with
      | none => rfl
      | some p =>
        obtain ⟨t, r⟩ := p
        have := lexOne_len env _ _ _ hl
        simp only [List.length_cons] at this h1 h2 ⊢
        rw [lexFuel_irrel f1 f2 _ r (by omega) (by omega)]

end

/-- no fuel error, and what is left stands in relation `S` to the input -/
abbrev Good {α : Type} (S : List Tok → Prop) (x : Except PErr (α × List Tok)) : Prop :=
  Res (fun _ rest => S rest) (· ≠ .fuel) x

theorem Good.mono {α : Type} {S S' : List Tok → Prop} {x : Except PErr (α × List Tok)} (hx : Good S x)
    (h : ∀ r, S r → S' r) : Good S' x :=
  Res.mono hx (fun _ => h) fun _ h => h

theorem liftOutcome_good {α : Type} {S : List Tok → Prop} (o : Outcome α) {rest : List Tok} (h : S rest) :
    Good S (liftOutcome o rest) := by
  cases o <;> simp [liftOutcome, h]

theorem finishCall_good {S : List Tok → Prop} (lexErr f args) {rest : List Tok} (h : S rest) :
    Good S (finishCall lexErr f args rest) := by
  unfold finishCall
  split
  · split
    · simp
    · exact liftOutcome_good _ h
  · split
    · exact liftOutcome_good _ h
    · simp

/-- Each function has a rank; fuel `3 * ts.length + rank` suffices for it on input `ts`.  What it leaves is a
    suffix of `ts` — a proper one for `parseExpr` and `parsePrefix`, which read at least one token. -/
def NF (lexErr : Bool) (f : Nat) : Prop :=
  (∀ min ts, 3 * ts.length + 3 ≤ f → Good (ProperSuffix · ts) (parseExpr lexErr f min ts)) ∧
  (∀ min lhs ts, 3 * ts.length + 2 ≤ f → Good (· <:+ ts) (parseLoop lexErr f min lhs ts)) ∧
  (∀ ts, 3 * ts.length + 2 ≤ f → Good (ProperSuffix · ts) (parsePrefix lexErr f ts)) ∧
  (∀ ts, 3 * ts.length + 4 ≤ f → Good (· <:+ ts) (parseParen lexErr f ts)) ∧
  (∀ acc ts, 3 * ts.length + 4 ≤ f → Good (· <:+ ts) (parseItems lexErr f acc ts)) ∧
  (∀ ts, 3 * ts.length + 2 ≤ f → Good (· <:+ ts) (parseListExpr lexErr f ts)) ∧
  (∀ i ts, 3 * ts.length + 4 ≤ f → Good (· <:+ ts) (parseCallArgs lexErr f i ts)) ∧
  (∀ i acc ts, 3 * ts.length + 1 ≤ f → Good (· <:+ ts) (parseNamedRest lexErr f i acc ts)) ∧
  (∀ i ts, 3 * ts.length + 1 ≤ f → Good (· <:+ ts) (parsePath lexErr f i ts)) ∧
  (∀ ts, 3 * ts.length + 1 ≤ f → Good (· <:+ ts) (parseLambda lexErr f ts))

theorem nf_zero (lexErr) : NF lexErr 0 := by
  refine ⟨?_, ?_, ?_, ?_, ?_, ?_, ?_, ?_, ?_, ?_⟩ <;> intros <;> omega

/-- The arithmetic of the budget, for a caller of rank `c` on input `ts` with one unit of fuel more.  A call on
    what is left of `ts` may go to any lower rank; once a token has been read, to any rank below `c + 3`. -/
theorem budget_le {r ts : List Tok} {c c' f : Nat} (hb : 3 * ts.length + c ≤ f + 1) (hs : r <:+ ts)
    (hc : c' < c := by decide) : 3 * r.length + c' ≤ f := by
  have := hs.length_le; omega

theorem budget_lt {r ts : List Tok} {c c' f : Nat} (hb : 3 * ts.length + c ≤ f + 1) (hs : ProperSuffix r ts)
    (hc : c' < c + 3 := by decide) : 3 * r.length + c' ≤ f := by
  have := hs.2; omega

theorem budget_cons {r ts : List Tok} {t : Tok} {c c' f : Nat} (hb : 3 * (t :: ts).length + c ≤ f + 1)
    (hs : r <:+ ts) (hc : c' < c + 3 := by decide) : 3 * r.length + c' ≤ f :=
  budget_lt hb (.of_cons hs) hc

theorem skipWs_cons {ts r : List Tok} {t : Tok} (h : skipWs ts = t :: r) : ProperSuffix r ts :=
  (ProperSuffix.of_cons (List.suffix_refl r)).trans_suffix (h ▸ skipWs_suffix ts)

/-- an operator and its right operand have been read by `x`: back into the loop -/
theorem Good.loop {lexErr : Bool} {f min : Nat} {mk : Expr → Expr} {t : Tok} {r : List Tok}
    (ihL : ∀ min lhs ts, 3 * ts.length + 2 ≤ f → Good (· <:+ ts) (parseLoop lexErr f min lhs ts))
    (hb : 3 * (t :: r).length + 2 ≤ f + 1) {x : Except PErr (Expr × List Tok)} (hx : Good (· <:+ r) x) :
    Good (· <:+ t :: r) (x >>= fun p => parseLoop lexErr f min (mk p.1) p.2) :=
  Res.bind hx fun rhs r' hr => (ihL _ _ r' (budget_cons hb hr)).mono fun _ h =>
    h.trans (hr.trans (List.suffix_cons _ _))

theorem nf_succ (lexErr f) (ih : NF lexErr f) : NF lexErr (f + 1) := by
  obtain ⟨ihE, ihL, ihP, ihPar, ihI, ihLE, ihCA, ihNR, ihPath, ihLam⟩ := ih
  have ihE' : ∀ min ts, 3 * ts.length + 3 ≤ f → Good (· <:+ ts) (parseExpr lexErr f min ts) :=
    fun min ts h => (ihE min ts h).mono fun _ h => h.1
  refine ⟨?_, ?_, ?_, ?_, ?_, ?_, ?_, ?_, ?_, ?_⟩
  · intro min ts hb
    simp only [parseExpr]
    exact Res.bind (ihP ts (budget_le hb List.suffix_rfl)) fun lhs r hr =>
      (ihL min lhs r (budget_le hb hr.1)).mono fun _ h => .of_suffix h hr
  · intro min lhs ts hb
    simp only [parseLoop]
    split
    · split
      · exact Good.loop ihL hb (ihE' _ _ (budget_cons hb List.suffix_rfl))
      · exact List.suffix_rfl
    · split
      · exact Good.loop ihL hb (ihLE _ (budget_cons hb List.suffix_rfl))
      · exact List.suffix_rfl
    · split
      · exact Good.loop ihL hb (ihE' _ _ (budget_cons hb List.suffix_rfl))
      · exact List.suffix_rfl
    · split
      · exact Good.loop ihL hb (ihE' _ _ (budget_cons hb List.suffix_rfl))
      · exact List.suffix_rfl
    · exact List.suffix_rfl
  · intro ts hb
    simp only [parsePrefix]
    split
    · exact Res.bind (ihE' _ _ (budget_cons hb List.suffix_rfl)) fun e r' h =>
        ProperSuffix.of_cons h
    · next r =>
      exact Res.bind (ihE' _ _ (budget_cons hb (skipWs_suffix r))) fun e r' h =>
        ProperSuffix.of_cons (h.trans (skipWs_suffix r))
    · exact ProperSuffix.of_cons List.suffix_rfl
    · next r =>
      exact (ihPar _ (budget_cons hb (skipWs_suffix r))).mono fun _ h =>
        .of_cons (h.trans (skipWs_suffix r))
    · exact finishCall_good _ _ _ (ProperSuffix.of_cons ⟨[_, _], rfl⟩)
    · next i r _ =>
      have hs : skipWs r <:+ .lp :: r := (skipWs_suffix r).trans (List.suffix_cons _ _)
      exact (ihCA i _ (budget_cons hb hs)).mono fun _ h => .of_cons (h.trans hs)
    · exact (ihPath _ _ (budget_cons hb List.suffix_rfl)).mono fun _ h => .of_cons h
    · exact failAt_ne_fuel _ _
  · intro ts hb
    simp only [parseParen]
    refine Res.bind (ihE' _ ts (budget_le hb List.suffix_rfl)) fun e r hr => ?_
    dsimp only
    split
    · next heq => exact (skipWs_cons heq).1.trans hr
    · next r' heq =>
      have hr' : ProperSuffix r' ts := (skipWs_cons heq).trans_suffix hr
      split
      · next heq' => exact (skipWs_cons heq').1.trans hr'.1
      · exact Res.bind (ihI _ _ (budget_lt hb (.of_suffix (skipWs_suffix r') hr')))
          fun items r3 h3 => (h3.trans (skipWs_suffix r')).trans hr'.1
    · exact failAt_ne_fuel _ _
  · intro acc ts hb
    simp only [parseItems]
    refine Res.bind (ihE' _ ts (budget_le hb List.suffix_rfl)) fun e r hr => ?_
    dsimp only
    split
    · next heq => exact (skipWs_cons heq).1.trans hr
    · next r' heq =>
      have hr' : ProperSuffix r' ts := (skipWs_cons heq).trans_suffix hr
      exact (ihI _ _ (budget_lt hb (.of_suffix (skipWs_suffix r') hr'))).mono fun _ h =>
        (h.trans (skipWs_suffix r')).trans hr'.1
    · exact failAt_ne_fuel _ _
  · intro ts hb
    simp only [parseListExpr]
    split
    · next r =>
      have hs : skipWs r <:+ .lp :: r := (skipWs_suffix r).trans (List.suffix_cons _ _)
      refine Res.bind (ihE' _ _ (budget_cons hb (skipWs_suffix r))) fun e r1 hr => ?_
      dsimp only
      split
      · next r2 heq =>
        have hr2 : ProperSuffix r2 (.lp :: r) := (skipWs_cons heq).trans_suffix (hr.trans hs)
        split
        · next heq' => exact (skipWs_cons heq').1.trans hr2.1
        · exact Res.bind (ihI _ _ (budget_lt hb (.of_suffix (skipWs_suffix r2) hr2)))
            fun items r4 h4 => (h4.trans (skipWs_suffix r2)).trans hr2.1
      · exact failAt_ne_fuel _ _
    · exact failAt_ne_fuel _ _
  · intro i ts hb
    simp only [parseCallArgs]
    split
    · next n r =>
      refine Res.bind (ihE' _ r (budget_cons hb (List.suffix_cons _ _))) fun e r1 hr => ?_
      exact (ihNR _ _ r1 (budget_cons hb (hr.trans (List.suffix_cons _ _)))).mono fun _ h =>
        h.trans (hr.trans ⟨[_, _], rfl⟩)
    · refine Res.bind (ihE' _ ts (budget_le hb List.suffix_rfl)) fun e r1 hr => ?_
      dsimp only
      split
      · next heq => exact finishCall_good _ _ _ ((skipWs_cons heq).1.trans hr)
      · next r2 heq =>
        have hr2 : ProperSuffix r2 ts := (skipWs_cons heq).trans_suffix hr
        split
        · next heq' => exact finishCall_good _ _ _ ((skipWs_cons heq').1.trans hr2.1)
        · exact Res.bind (ihI _ _ (budget_lt hb (.of_suffix (skipWs_suffix r2) hr2)))
            fun items r4 h4 => finishCall_good _ _ _ ((h4.trans (skipWs_suffix r2)).trans hr2.1)
      · exact failAt_ne_fuel _ _
  · intro i acc ts hb
    simp only [parseNamedRest]
    split
    · next heq => exact finishCall_good _ _ _ (skipWs_cons heq).1
    · next r heq =>
      split
      · next n r' heq' =>
        have hr' : ProperSuffix r' ts :=
          .of_suffix (List.suffix_cons _ _) ((skipWs_cons heq').trans_suffix (skipWs_cons heq).1)
        refine Res.bind (ihE' _ _ (budget_lt hb hr')) fun e r1 hr => ?_
        exact (ihNR _ _ r1 (budget_lt hb (.of_suffix hr hr'))).mono fun _ h =>
          (h.trans hr).trans hr'.1
      · exact failAt_ne_fuel _ _
      · exact failAt_ne_fuel _ _
    · exact failAt_ne_fuel _ _
  · intro i ts hb
    simp only [parsePath]
    have close : ∀ (op : CollOp) {s : List Tok} {x : Except PErr (OptLam × List Tok)}, Good (· <:+ s) x →
        Good (· <:+ s) (x >>= fun p => do
          let r3 ← expectRp lexErr (skipWs p.2)
          pure (Expr.coll (.ident i) op p.1, r3)) := by
      intro op s x hx
      refine Res.bind hx fun lam r2 h2 => ?_
      rcases expectRp_cases lexErr (skipWs r2) with ⟨r3, h3, h4⟩ | ⟨e, he, _, h4⟩
      · rw [h4]; exact (skipWs_cons h3).1.trans h2
      · rw [h4]; exact he
    split
    · next j r =>
      exact Res.bind (ihPath j r (budget_cons hb (List.suffix_cons _ _))) fun tail r' hr =>
        liftOutcome_good _ (hr.trans ⟨[_, _], rfl⟩)
    · next r =>
      have hs : skipWs r <:+ .any :: .lp :: r := (skipWs_suffix r).trans ⟨[_, _], rfl⟩
      split
      · next heq => exact (skipWs_cons heq).1.trans ⟨[_, _, _], rfl⟩
      · exact (close .any (ihLam _ (budget_cons hb hs))).mono fun _ h =>
          h.trans (hs.trans (List.suffix_cons _ _))
    · next r =>
      have hs : skipWs r <:+ .all :: .lp :: r := (skipWs_suffix r).trans ⟨[_, _], rfl⟩
      exact (close .all (ihLam _ (budget_cons hb hs))).mono fun _ h =>
        h.trans (hs.trans (List.suffix_cons _ _))
    · exact failAt_ne_fuel _ _
    · exact failAt_ne_fuel _ _
    · exact failAt_ne_fuel _ _
    · exact List.suffix_rfl
  · intro ts hb
    simp only [parseLambda]
    split
    · next v r =>
      split
      · next r' heq =>
        have hs : skipWs r' <:+ r := (skipWs_suffix r').trans (skipWs_cons heq).1
        exact Res.bind (ihE' _ _ (budget_cons hb hs)) fun e r1 hr =>
          (hr.trans hs).trans (List.suffix_cons _ _)
      · exact failAt_ne_fuel _ _
    · exact failAt_ne_fuel _ _

theorem nf_all (lexErr) : ∀ f, NF lexErr f
  | 0 => nf_zero lexErr
  | f + 1 => nf_succ lexErr f (nf_all lexErr f)

/-- the two exceptions `_function_call` raises -/
def FnErr (o : Outcome Unit) : Prop :=
  (∃ n, o = .lib (.unknownFunction n)) ∨ (∃ n lo hi g, o = .lib (.argumentCount n lo hi g))

/-- an acceptable parser error: if it is an exception of a grammar action, it is a `_function_call` one -/
def ErrOk (e : PErr) : Prop := ∀ o, e = .exc o → FnErr o

/-- shapes `parsePath` returns: an identifier / attribute chain off an identifier, or a collection
    lambda owned by one -/
def pathShape : Expr → Prop
  | .coll owner _ _ => (explodePath owner).isSome
  | e => (explodePath e).isSome

theorem explodePath_foldl (names : List Str) : ∀ (base : Expr),
    explodePath (names.foldl (fun o n => .attr o n) base) = (explodePath base).map (· ++ names) := by
  induction names with
  | nil => intro base; simp
  | cons n ns ih =>
    intro base
    simp only [List.foldl_cons]
    rw [ih]
    simp [explodePath, Option.map_map, Function.comp_def]

theorem pathShape_of_explode (e : Expr) (h : (explodePath e).isSome) : pathShape e := by
  cases e <;> simp_all [pathShape, explodePath]

theorem pathCons_ok (i : Ident) (tail : Expr) (h : pathShape tail) :
    ∃ e, pathCons i tail = .ok e ∧ pathShape e := by
  unfold pathCons
  split
  · rename_i o n
    simp only [pathShape] at h
    obtain ⟨names, hn⟩ := Option.isSome_iff_exists.mp h
    rw [hn]
    simp only [rebuildPath]
    refine ⟨_, rfl, pathShape_of_explode _ ?_⟩
    simp [explodePath_foldl, explodePath]
  · rename_i owner op lam
    simp only [pathShape] at h
    split
    · obtain ⟨names, hn⟩ := Option.isSome_iff_exists.mp h
      rw [hn]
      simp only [rebuildPath]
      refine ⟨_, rfl, ?_⟩
      simp [pathShape, explodePath_foldl, explodePath]
    · refine ⟨_, rfl, ?_⟩
      simp [pathShape, explodePath]
    · rename_i h1 h2
      cases owner <;> simp [explodePath] at h
      · exact (h2 _ rfl).elim
      · exact (h1 _ _ rfl).elim
  · refine ⟨_, rfl, ?_⟩
    simp [pathShape, explodePath]
  · rename_i h1 h2 h3
    cases tail <;> simp [pathShape, explodePath] at h
    · exact (h3 _ rfl).elim
    · exact (h1 _ _ rfl).elim
    · exact (h2 _ _ _ rfl).elim

theorem functionCall_errOk (f args) (rest : List Tok) :
    Res (fun _ _ => True) ErrOk (liftOutcome (functionCall f args) rest) := by
  unfold functionCall functionCallWith
  split
  · split
    · intro o h; cases h; exact .inl ⟨_, rfl⟩
    · split
      · intro o h; cases h; exact .inr ⟨_, _, _, _, rfl⟩
      · trivial
  · trivial

/-- Errors are acceptable and `parsePath` returns path shapes — so `pathCons` never meets a shape it cannot
    handle, which is the only other way a grammar action could raise. -/
def noForeign : ParseInv where
  K _ := True
  Q := ErrOk
  E _ := True
  L _ := True
  Items _ := True
  Named _ := True
  Path := pathShape
  Lam _ := True
  err _ h o ho := absurd ho (h o)
  lit _ _ _ := trivial
  unary _ _ _ := trivial
  boolop _ _ _ _ _ := trivial
  binop _ _ _ _ _ := trivial
  compare _ _ _ _ _ _ := trivial
  isIn _ _ _ _ := trivial
  list _ _ := trivial
  ofList _ _ := trivial
  one _ _ := trivial
  snoc _ _ _ _ := trivial
  named _ _ _ _ := trivial
  namedSnoc _ _ _ _ _ _ := trivial
  call f args _ _ rest := functionCall_errOk f args rest
  pathIdent _ _ := rfl
  pathCons i tl _ ht _ := by
    obtain ⟨e, he, hs⟩ := pathCons_ok i tl ht
    rw [he]; exact hs
  pathAny _ _ := rfl
  pathColl _ _ _ _ _ := rfl
  ofPath _ _ := trivial
  lam _ _ _ _ := trivial

end OQ
