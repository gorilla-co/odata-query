/- Lemmas/OrmSound.lean — what the Django and the SQLAlchemy developments (Props/C02.lean, Props/C03.lean) share: a Hoare-style
   rule for the `Outcome` of a visitor, and the SQL both compilers emit alike (integer parameters, `pre || pattern || suf`,
   LIKE). -/
import ODataVerif.Props.C01
import ODataVerif.Spec.OrmSql
import ODataVerif.Spec.OrmSemOk
import ODataVerif.Lemmas.SqlTotal
namespace OQ.OrmSound
open Spec SqliteSound SqliteLike

/-- what a visitor may return on a typed filter: a value satisfying `P`, or one of the library's exceptions, and the latter
    only outside the fragment `c` -/
def res {α} (c : Prop) (P : α → Prop) : Outcome α → Prop
  | .ok a => P a
  | .lib _ => ¬ c
  | _ => False

section
variable {α β : Type} {c c₁ : Prop} {P : α → Prop} {Q : β → Prop} {x : Outcome α} {f : α → Outcome β}

/-- the rule for `>>=`: the fragment of the whole lies inside the fragment of the part -/
theorem res_bind (hx : res c₁ P x) (hc : c → c₁) (hf : ∀ a, P a → res c Q (f a)) : res c Q (x >>= f) := by
  cases x with
  | ok a => exact hf a hx
  | lib e => exact fun h => hx (hc h)
  | notImplemented => exact hx
  | foreign c => exact hx

theorem res_pure {a : α} (h : P a) : res c P (.ok a) := h

theorem res_ok {a : α} (h : res c P x) (hx : x = .ok a) : P a := by
  subst hx; exact h

theorem res_run (h : res c P x) (hc : c) : ∃ a, x = .ok a ∧ P a := by
  cases x with
  | ok a => exact ⟨a, rfl, h⟩
  | lib e => exact absurd hc h
  | notImplemented => exact h.elim
  | foreign c => exact h.elim

theorem res_clean (h : res c P x) : SqlTotal.clean x = true := by
  cases x <;> first | rfl | exact h.elim
end

theorem litParam_int (v : Str) : litParam .int v = .ok (.param .int v) := by
  have h : ∀ c, pyVal .int v ≠ .foreign c := by
    intro c
    simp only [pyVal, pyInt]
    split <;> split <;> simp
  simp only [litParam]

theorem substrTypecheck_ok {a b : Expr} (ha : strTy (inferType a)) (hb : strTy (inferType b)) :
    substrTypecheck a b = .ok () := by
  unfold substrTypecheck
  rcases ha with ha | ha <;> rcases hb with hb | hb <;> rw [ha, hb] <;> rfl

section
variable (ρ : Row)

theorem paramTree_int (neg : Bool) (ds : Str) (h : asciiDigits ds = true) :
    paramTree .int (if neg then '-' :: ds else ds) = some (numOf (if neg then '-' :: ds else ds)) := by
  have h' := h
  simp only [asciiDigits, Bool.and_eq_true] at h'
  cases neg
  · simp only [Bool.false_eq_true, if_false]
    rw [numOf_digits ds h]
    cases ds with
    | nil => simp at h'
    | cons c t =>
      have hc : isDig c = true := by
        have := h'.2
        simp only [List.all_cons, Bool.and_eq_true] at this
        exact this.1
      have hne : c ≠ '-' := by rintro rfl; exact absurd hc (by decide)
      simp only [paramTree]
      split
      · rename_i heq; cases heq; exact absurd rfl hne
      · simp [h'.2]
  · simp only [if_true, paramTree, numOf, h'.1, h'.2, Bool.and_self, if_true]
end

end OQ.OrmSound
