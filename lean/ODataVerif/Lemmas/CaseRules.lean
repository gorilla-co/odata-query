/- Lemmas/CaseRules.lean — the literal rules of the lexer commute with a letter-case change; `asciiLower` and
   `asciiUpper` are such changes for `pyCharEnv` (for Props/C19Text.lean). -/
import ODataVerif.Lemmas.CaseMap
import ODataVerif.Lemmas.LexAdj
namespace OQ.CaseMap
open Spec LexRender
variable {env : CharEnv} {φ : Char → Char}

/-- what a letter-case change of the text does to the token of a literal rule: duration and datetime values are
    case-normalised by the token action, the other values are the text -/
def mapLitTok (φ : Char → Char) : Tok → Tok
  | .lit .duration v => .lit .duration v
  | .lit .datetime v => .lit .datetime v
  | .lit k v => .lit k (v.map φ)
  | .ident i => .ident ⟨i.name.map φ, i.ns.map (·.map φ)⟩
  | t => t

def mapRes (φ : Char → Char) (x : Option (Tok × List Char)) : Option (Tok × List Char) :=
  x.map fun p => (mapLitTok φ p.1, p.2.map φ)

theorem boolOrIdent_map (h : CaseMap env φ) (v : Str) : boolOrIdent (v.map φ) = mapLitTok φ (boolOrIdent v) := by
  have e : (v.map φ).map asciiLower = v.map asciiLower := by
    simp [List.map_map, Function.comp_def, h.low]
  unfold boolOrIdent
  rw [e]
  split <;> rfl

theorem litRules_map (h : CaseMap env φ) : ∀ f ∈ litRules env, ∀ s, f (s.map φ) = mapRes φ (f s) := by
  -- a rule whose token carries the matched text, and one whose token does not show the case change
  have lit : ∀ {g : Str → Tok} {sc : List Char → Option (Str × List Char)}, (∀ v, g (v.map φ) = mapLitTok φ (g v)) →
      (∀ s, sc (s.map φ) = mapBoth φ (sc s)) →
      ∀ s, ((sc (s.map φ)).map fun p => (g p.1, p.2)) = mapRes φ ((sc s).map fun p => (g p.1, p.2)) := by
    intro g sc hg hsc s; rw [hsc]; cases sc s <;> simp [mapRes, hg]
  have litR : ∀ {g : Str → Tok} {sc : List Char → Option (Str × List Char)}, (∀ v, mapLitTok φ (g v) = g v) →
      (∀ s, sc (s.map φ) = mapRest φ (sc s)) →
      ∀ s, ((sc (s.map φ)).map fun p => (g p.1, p.2)) = mapRes φ ((sc s).map fun p => (g p.1, p.2)) := by
    intro g sc hg hsc s; rw [hsc]; cases sc s <;> simp [mapRes, hg]
  have word : ∀ w, (∀ p ∈ w, p ∈ patChars) → ∀ s, scanWord env w (s.map φ) = mapBoth φ (scanWord env w s) := fun w hw =>
    map_of (scanWord_tr h .nil (fun e => absurd rfl e) w hw)
  simp only [litRules, List.forall_mem_cons, List.not_mem_nil, false_imp_iff, implies_true, and_true]
  exact ⟨litR (fun _ => rfl) (scanDuration_map h), lit (fun _ => rfl) (scanString_map h),
    lit (fun _ => rfl) (scanGeography_map h), lit (fun _ => rfl) (map_of (scanGuid_tr h .nil)),
    litR (fun _ => rfl) (map_of_rest (scanDateTime_tr h .nil fun _ e => nomatch e)),
    lit (fun _ => rfl) (map_of (scanDatePart_tr h .nil)), lit (fun _ => rfl) (map_of (scanTime_tr h .nil fun _ e => nomatch e)),
    lit (fun _ => rfl) (map_of (scanDecimal_tr h .nil)), lit (fun _ => rfl) (map_of (scanInteger_tr h .nil)),
    lit (boolOrIdent_map h) (word _ (by decide)), lit (boolOrIdent_map h) (word _ (by decide)),
    lit (g := fun _ => .lit .null []) (fun _ => rfl) (word _ (by decide))⟩

theorem firstSome_map (fs : List Rule) (hfs : ∀ f ∈ fs, ∀ s, f (s.map φ) = mapRes φ (f s)) (s : List Char) :
    firstSome fs (s.map φ) = mapRes φ (firstSome fs s) := by
  induction fs with
  | nil => rfl
  | cons f fs ih =>
    simp only [firstSome, hfs f List.mem_cons_self]
    cases f s with
    | none => simpa [mapRes] using ih (fun g hg => hfs g (List.mem_cons_of_mem _ hg))
    | some x => rfl


def upperChars : List Char := "ABCDEFGHIJKLMNOPQRSTUVWXYZ".toList
def lowerChars : List Char := "abcdefghijklmnopqrstuvwxyz".toList

theorem mem_of_run {a : Nat} {L : List Char} (key : ∀ n, n < 26 → Char.ofNat (a + n) ∈ L) {c : Char}
    (h : a ≤ c.toNat ∧ c.toNat ≤ a + 25) : c ∈ L := by
  have := key (c.toNat - a) (by omega)
  rwa [Nat.add_sub_cancel' h.1, Char.ofNat_toNat] at this

theorem upper_mem {c : Char} (h : isAsciiUpper c = true) : c ∈ upperChars :=
  mem_of_run (a := 65) (by decide +kernel) (by simpa [isAsciiUpper, le_char_iff] using h)

theorem lower_mem {c : Char} (h : isAsciiLower c = true) : c ∈ lowerChars :=
  mem_of_run (a := 97) (by decide +kernel) (by simpa [isAsciiLower, le_char_iff] using h)

theorem asciiLower_id {c : Char} (h : isAsciiUpper c = false) : asciiLower c = c := by simp [asciiLower, h]

/-- a test that agrees on each lower-case letter and its upper-case form agrees on `c` and `asciiUpper c` throughout:
    `asciiUpper` moves nothing else -/
theorem upper_of_table {β : Sort _} (F : Char → β) (ht : ∀ c ∈ lowerChars, F (asciiUpper c) = F c) (c : Char) :
    F (asciiUpper c) = F c := by
  cases hc : isAsciiLower c with
  | true => exact ht c (lower_mem hc)
  | false => rw [asciiUpper_id (Bool.eq_false_iff.1 hc)]

instance : DecidablePred letterNat := fun n => by unfold letterNat; infer_instance

/-- a lower-case letter and its upper-case form are letters, hence neither space nor digit (`letter_imp`); what else
    the scanners test is compared letter by letter -/
theorem caseMap_upper : CaseMap E asciiUpper := by
  have hl : ∀ c ∈ lowerChars, letterNat c.toNat ∧ letterNat (asciiUpper c).toNat := by decide +kernel
  have hcl : ∀ c ∈ lowerChars, (E.isSpace (asciiUpper c) = false ∧ E.isSpace c = false) ∧
      E.isDigit (asciiUpper c) = false ∧ E.isDigit c = false := fun c hc =>
    have h1 := letter_imp _ (Or.inl (hl c hc).1)
    have h2 := letter_imp _ (Or.inl (hl c hc).2)
    ⟨⟨h2.2.1, h1.2.1⟩, h2.1, h1.1⟩
  exact {
    space := upper_of_table _ fun c hc => by rw [(hcl c hc).1.1, (hcl c hc).1.2]
    digit := upper_of_table _ fun c hc => by rw [(hcl c hc).2.1, (hcl c hc).2.2]
    word := upper_of_table _ (by decide +kernel)
    ci := fun p hp => upper_of_table _ fun c hc =>
      (by decide +kernel : ∀ c ∈ lowerChars, ∀ p ∈ patChars, ciChar E p (asciiUpper c) = ciChar E p c) c hc p hp
    hex := upper_of_table _ fun c hc => by
      simp only [isHex, (hcl c hc).2.1, (hcl c hc).2.2, Bool.false_or]
      exact (by decide +kernel : ∀ c ∈ lowerChars, (inCharRange 'a' 'f' (asciiUpper c) || inCharRange 'A' 'F' (asciiUpper c))
        = (inCharRange 'a' 'f' c || inCharRange 'A' 'F' c)) c hc
    r02 := upper_of_table _ (by decide +kernel)
    r01 := upper_of_table _ (by decide +kernel)
    r03 := upper_of_table _ (by decide +kernel)
    r05 := upper_of_table _ (by decide +kernel)
    eqc := fun x hx c => Eq.to_iff (upper_of_table (· = x) (fun c hc => propext
      ((by decide +kernel : ∀ c ∈ lowerChars, ∀ x ∈ ['0', '1', '2', '3', '+', '-', '.', '\'', ':'],
        (asciiUpper c = x ↔ c = x)) c hc x hx)) c)
    durUp := upper_of_table _ (by decide +kernel)
    up := upper_of_table _ (by decide +kernel)
    low := upper_of_table _ (by decide +kernel) }

/-- a map that is undone by a `CaseMap` wherever it moves a character is a `CaseMap` too: every test is an equation
    `F (φ c) = F c`, read from right to left at `ψ c` -/
theorem CaseMap.inv (h : CaseMap env φ) {ψ : Char → Char} (hψ : ∀ c, ψ c = c ∨ φ (ψ c) = c) : CaseMap env ψ := by
  have key : ∀ {β : Type} (F : Char → β), (∀ c, F (φ c) = F c) → ∀ c, F (ψ c) = F c := by
    intro β F hF c
    rcases hψ c with e | e
    · rw [e]
    · rw [← hF (ψ c), e]
  refine ⟨key _ h.space, key _ h.digit, key _ h.word, fun p hp => key _ (h.ci p hp), key _ h.hex, key _ h.r02,
    key _ h.r01, key _ h.r03, key _ h.r05, fun x hx c => ?_, key _ h.durUp, key _ h.up, key _ h.low⟩
  rcases hψ c with e | e
  · rw [e]
  · rw [← h.eqc x hx (ψ c), e]

theorem caseMap_lower : CaseMap E asciiLower :=
  caseMap_upper.inv fun c => by
    cases h : isAsciiUpper c with
    | false => exact Or.inl (asciiLower_id h)
    | true => exact Or.inr ((by decide +kernel : ∀ c ∈ upperChars, asciiUpper (asciiLower c) = c) c (upper_mem h))

end OQ.CaseMap
