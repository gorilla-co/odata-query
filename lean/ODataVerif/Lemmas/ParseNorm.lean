/- The parser model commutes with `normTok` on the tokens and `normE` on the trees: it never looks
   at the value of a literal (`ninv`, from `ParseSim.inv`; for Props/C19Text.lean). -/
import ODataVerif.Lemmas.ParseSim
import ODataVerif.Spec.Respell
namespace OQ.ParseNorm
open Spec

def normLit (k : LitKind) (v : Str) : Str :=
  match k with
  | .bool => v.map asciiLower
  | .float => v.map asciiLower
  | _ => v

theorem normTok_lit (k v) : normTok (.lit k v) = .lit k (normLit k v) := by cases k <;> rfl
theorem normE_lit (k v) : normE (.lit k v) = .lit k (normLit k v) := by cases k <;> simp [normE, normLit]

abbrev G (ts : List Tok) : List Tok := ts.map normTok

def mapR (x : Except PErr (Expr × List Tok)) : Except PErr (Expr × List Tok) :=
  match x with
  | .ok p => .ok (normE p.1, G p.2)
  | .error e => .error e
def mapRs (x : Except PErr (Exprs × List Tok)) : Except PErr (Exprs × List Tok) :=
  match x with
  | .ok p => .ok (normEs p.1, G p.2)
  | .error e => .error e
def mapRl (x : Except PErr (OptLam × List Tok)) : Except PErr (OptLam × List Tok) :=
  match x with
  | .ok p => .ok (normLam p.1, G p.2)
  | .error e => .error e

@[simp] theorem mapR_ok (a r) : mapR (.ok (a, r)) = .ok (normE a, G r) := rfl
@[simp] theorem mapR_err (e) : mapR (.error e) = .error e := rfl
@[simp] theorem mapRs_ok (a r) : mapRs (.ok (a, r)) = .ok (normEs a, G r) := rfl
@[simp] theorem mapRs_err (e) : mapRs (.error e) = .error e := rfl
@[simp] theorem mapRl_ok (a r) : mapRl (.ok (a, r)) = .ok (normLam a, G r) := rfl
@[simp] theorem mapRl_err (e) : mapRl (.error e) = .error e := rfl

theorem skipWs_G (ts : List Tok) : skipWs (G ts) = G (skipWs ts) := by
  cases ts with
  | nil => rfl
  | cons t r => cases t <;> first | rfl | (simp [G, normTok_lit, skipWs])

theorem failAt_G (ts : List Tok) : failAt false (G ts) = failAt false ts := by
  cases ts <;> simp [failAt, G]

theorem normEs_length : ∀ xs : Exprs, (normEs xs).length = xs.length
  | .nil => rfl
  | .cons h t => by simp [normEs, Exprs.length, normEs_length t]

theorem normEs_snoc : ∀ (xs : Exprs) (e : Expr), normEs (xs.snoc e) = (normEs xs).snoc (normE e)
  | .nil, e => rfl
  | .cons h t, e => by simp [Exprs.snoc, normEs, normEs_snoc t e]

theorem functionCall_norm (i : Ident) (args : Exprs) : functionCall i (normEs args) = mapO normE (functionCall i args) := by
  simp only [functionCall, functionCallWith, normEs_length]
  split
  · split
    · rfl
    · split <;> simp [mapO, normE]
  · simp [mapO, normE]

theorem explodePath_norm : (e : Expr) → explodePath (normE e) = explodePath e
  | .ident i => rfl
  | .attr o n => by simp [normE, explodePath, explodePath_norm o]
  | .lit k v => by rw [normE_lit]; rfl
  | .list _ => rfl
  | .binop _ _ _ => rfl
  | .compare _ _ _ => rfl
  | .boolop _ _ _ => rfl
  | .unary _ _ => rfl
  | .named _ _ => rfl
  | .call _ _ => rfl
  | .coll _ _ _ => rfl

theorem normE_foldl (names : List Str) : ∀ (b : Expr), normE b = b →
    normE (names.foldl (fun o n => Expr.attr o n) b) = names.foldl (fun o n => Expr.attr o n) b := by
  induction names with
  | nil => intro b hb; exact hb
  | cons n ns ih => intro b hb; exact ih (.attr b n) (by simp [normE, hb])

theorem rebuildPath_norm {names : List Str} {e : Expr} (h : rebuildPath names = some e) : normE e = e := by
  cases names with
  | nil => simp [rebuildPath] at h
  | cons hd rest =>
    simp only [rebuildPath, Option.some.injEq] at h
    subst h
    exact normE_foldl rest _ rfl

theorem pathCons_norm (i : Ident) (tail : Expr) : pathCons i (normE tail) = mapO normE (pathCons i tail) := by
  cases tail with
  | attr o n =>
    have he := explodePath_norm (.attr o n)
    simp only [normE] at he
    simp only [normE, pathCons, he]
    cases hx : explodePath (.attr o n) with
    | none => rfl
    | some names =>
      simp only []
      cases hr : rebuildPath (i.name :: names) with
      | none => rfl
      | some e => simp [mapO, rebuildPath_norm hr]
  | coll owner op lam =>
    cases owner with
    | attr o n =>
      have he := explodePath_norm (.attr o n)
      simp only [normE] at he
      simp only [normE, pathCons, he]
      cases hx : explodePath (.attr o n) with
      | none => rfl
      | some names =>
        simp only []
        cases hr : rebuildPath (i.name :: names) with
        | none => rfl
        | some e => simp [mapO, normE, rebuildPath_norm hr]
    | ident o => simp [normE, pathCons, mapO]
    | lit k v => rw [normE]; rw [normE_lit]; rfl
    | _ => rfl
  | ident j => rfl
  | lit k v => rw [normE_lit]; rfl
  | _ => rfl

theorem normTok_eq_nonlit {t t0 : Tok} (h0 : ∀ k v, t0 ≠ .lit k v) (h : normTok t = t0) : t = t0 := by
  cases t with
  | lit k v => rw [normTok_lit] at h; exact absurd h.symm (h0 _ _)
  | _ => exact h

theorem G_cons (t : Tok) (r : List Tok) : G (t :: r) = normTok t :: G r := rfl

/-- changing the letter case of Boolean and Float literal texts, in the tokens and in the trees, is a rewriting the
    parser cannot tell apart; it keeps lengths, so failures carry over as well -/
def normSim : ParseSim True where
  g := G
  N := normE
  Ns := normEs
  Nl := normLam
  nil := rfl
  plain t r h := by cases t <;> first | rfl | cases h
  lit k v r := ⟨normLit k v, by rw [G_cons, normTok_lit], normE_lit k v⟩
  uminus r := ⟨G r, rfl, skipWs_G r⟩
  len _ ts := List.length_map _
  ident _ := rfl
  unary _ _ := by simp only [normE]
  binop _ _ _ := by simp only [normE]
  boolop _ _ _ := by simp only [normE]
  compare _ _ _ := by simp only [normE]
  list _ := by simp only [normE]
  named _ _ := by simp only [normE]
  coll _ _ _ := by simp only [normE]
  lamNone := rfl
  lamSome _ _ := rfl
  nilS := rfl
  snoc := normEs_snoc
  call := functionCall_norm
  path := pathCons_norm

theorem mapR_of_rel {p q : Except PErr (Expr × List Tok)} (h : normSim.Rel normE p q) : q = mapR p := by
  cases p with
  | ok a => exact h
  | error e => exact h trivial
theorem mapRs_of_rel {p q : Except PErr (Exprs × List Tok)} (h : normSim.Rel normEs p q) : q = mapRs p := by
  cases p with
  | ok a => exact h
  | error e => exact h trivial
theorem mapRl_of_rel {p q : Except PErr (OptLam × List Tok)} (h : normSim.Rel normLam p q) : q = mapRl p := by
  cases p with
  | ok a => exact h
  | error e => exact h trivial

structure NInv (f : Nat) : Prop where
  expr : ∀ m ts, parseExpr false f m (G ts) = mapR (parseExpr false f m ts)
  loop : ∀ m lhs ts, parseLoop false f m (normE lhs) (G ts) = mapR (parseLoop false f m lhs ts)
  pre : ∀ ts, parsePrefix false f (G ts) = mapR (parsePrefix false f ts)
  paren : ∀ ts, parseParen false f (G ts) = mapR (parseParen false f ts)
  items : ∀ acc ts, parseItems false f (normEs acc) (G ts) = mapRs (parseItems false f acc ts)
  listE : ∀ ts, parseListExpr false f (G ts) = mapR (parseListExpr false f ts)
  callArgs : ∀ i ts, parseCallArgs false f i (G ts) = mapR (parseCallArgs false f i ts)
  namedRest : ∀ i acc ts, parseNamedRest false f i (normEs acc) (G ts) = mapR (parseNamedRest false f i acc ts)
  path : ∀ i ts, parsePath false f i (G ts) = mapR (parsePath false f i ts)
  lam : ∀ ts, parseLambda false f (G ts) = mapRl (parseLambda false f ts)

theorem ninv (f : Nat) : NInv f :=
  have I := normSim.inv f
  ⟨fun m ts => mapR_of_rel (I.expr m ts), fun m lhs ts => mapR_of_rel (I.loop m lhs ts), fun ts => mapR_of_rel (I.pre ts),
   fun ts => mapR_of_rel (I.paren ts), fun acc ts => mapRs_of_rel (I.items acc ts), fun ts => mapR_of_rel (I.listE ts),
   fun i ts => mapR_of_rel (I.callArgs i ts), fun i acc ts => mapR_of_rel (I.namedRest i acc ts),
   fun i ts => mapR_of_rel (I.path i ts), fun ts => mapRl_of_rel (I.lam ts)⟩

theorem after_comma_norm {f} (ih : NInv f) (e : Expr) (z : List Tok)
    (k : Exprs → List Tok → Except PErr (Expr × List Tok)) (k' : Exprs → List Tok → Except PErr (Expr × List Tok))
    (hk : ∀ items r, k' (normEs items) (G r) = mapR (k items r)) :
    (do let (items, r3) ← parseItems false f (.cons (normE e) .nil) (G z); k' items r3) =
      mapR (do let (items, r3) ← parseItems false f (.cons e .nil) z; k items r3) := by
  have := ih.items (.cons e .nil) z
  simp only [normEs] at this
  rw [this]
  cases parseItems false f (.cons e .nil) z with
  | error e' => rfl
  | ok q => exact hk q.1 q.2

end OQ.ParseNorm
