/-
  What Props/C12Orm.lean needs to show that the ORM visitor models do not leak a Python-level error:
  `nl` through `do` blocks, literals, the function handlers (by plan: arity and arguments), the one place a visit's kind
  matters (only a list node is visited to a Python list: the `in` branch of SQLAlchemy's `visit_Compare`), and the inversion
  of the typing and shape judgements.
-/
import ODataVerif.Model.Orm
import ODataVerif.Model.PyVal
import ODataVerif.Spec.TypesStrict
import ODataVerif.Spec.RefPrinter
import ODataVerif.Lemmas.OrmTree
namespace OQ.OrmTotal
open OQ.Spec OQ.OrmParams OQ.OrmTree

/-- not an internal error of the modelled part (`.foreign "unmodelled"` is outside the model, not a leak) -/
def nl {α} : Outcome α → Bool
  | .foreign c => c == "unmodelled"
  | _ => true

theorem nl_bind' {α β} (x : Outcome α) (f : α → Outcome β) (hx : nl x = true)
    (hf : ∀ a, x = .ok a → nl (f a) = true) : nl (x >>= f) = true := by
  cases x with
  | ok a => exact hf a rfl
  | lib e => rfl
  | notImplemented => rfl
  | foreign c => exact hx

theorem nl_bind {α β} (x : Outcome α) (f : α → Outcome β) (hx : nl x = true)
    (hf : ∀ a, nl (f a) = true) : nl (x >>= f) = true :=
  nl_bind' x f hx fun a _ => hf a

theorem nl_ite {α} {c : Prop} [Decidable c] {x y : Outcome α} (hx : nl x = true) (hy : nl y = true) :
    nl (if c then x else y) = true := by
  split <;> assumption

theorem nl_unmodelled {α} : nl (.foreign "unmodelled" : Outcome α) = true := by
  simp only [nl]; decide

/-- `litParam` lets a missing Python value escape for three kinds only -/
theorem litParam_nl (k : LitKind) (v : Str)
    (h : k = .duration ∨ k = .guid ∨ k = .int → ∀ c, pyVal k v ≠ .foreign c) : nl (litParam k v) = true := by
  unfold litParam
  cases k <;> dsimp only <;> first
    | rfl
    | exact nl_unmodelled
    | (split <;> rfl)
    | (split
       · rename_i c hc; exact absurd hc (h (by simp) c)
       · rfl)

/-- the handler key of a function spelled `s` (`full_name().replace(".", "__").lower()`) -/
def keyOf (s : Str) : String :=
  String.ofList (pyLower (s.flatMap (fun c => if c == '.' then ['_', '_'] else [c])))

theorem joinWith_dot (l : List Str) : joinWith ['.'] l = joinDots l := by
  induction l with
  | nil => rfl
  | cons a r ih =>
    cases r with
    | nil => rfl
    | cons b r' => simp only [joinWith, joinDots, ih, List.append_assoc, List.singleton_append]

theorem key_eq (f : Ident) : String.ofList (pyLower (funcKey f)) = keyOf f.fullName := by
  unfold funcKey keyOf Ident.fullName
  rw [joinWith_dot]

/-- every row of the signature table selects a handler that takes the row's number of arguments -/
def tableArity : Bool := sigTable.all (fun r => (djPlan (keyOf r.1.toList)).arity r.2.1.length)

theorem tableArity_holds : tableArity = true := by decide +kernel

theorem arity_of_sig (f : Ident) (tys : List OTy) (τ : OTy)
    (h : sigResultN (String.ofList f.fullName) tys = some τ) :
    (djPlan (String.ofList (pyLower (funcKey f)))).arity tys.length = true := by
  unfold sigResultN at h
  split at h
  · rename_i r hr
    have hmem := List.mem_of_find?_eq_some hr
    have hp := List.find?_some hr
    simp only [Bool.and_eq_true, beq_iff_eq] at hp
    have ht := tableArity_holds
    unfold tableArity at ht
    rw [List.all_eq_true] at ht
    have h1 := ht r hmem
    rw [key_eq, ← hp.1.2]
    have : f.fullName = r.1.toList := by rw [hp.1.1, String.toList_ofList]
    rw [this]; exact h1
  · cases h

theorem substrTypecheck_nl (a b : Expr) : nl (substrTypecheck a b) = true := by
  unfold substrTypecheck
  repeat' split
  all_goals rfl

theorem visitAll_nl {visit} : (xs : Exprs) → (∀ a ∈ xs.toList, nl (visit a) = true) → nl (visitAll visit xs) = true
  | .nil, _ => rfl
  | .cons h t, hx => by
      rw [visitAll]
      exact nl_bind _ _ (hx h (by simp [Exprs.toList])) fun _ =>
        nl_bind _ _ (visitAll_nl t fun a ha => hx a (by simp [Exprs.toList, ha])) fun _ => rfl

theorem runPlan_nl {visit} (plan : FPlan) (args : Exprs) (ha : ∀ a ∈ args.toList, nl (visit a) = true)
    (hn : plan.arity args.length = true) : nl (runPlan visit (visitAll visit) plan args) = true := by
  cases plan
  case concat2 =>
    refine nl_bind _ _ (visitAll_nl args ha) fun items => ?_
    split
    · rfl
    · exact nl_unmodelled
  case concatN => exact nl_bind _ _ (visitAll_nl args ha) fun _ => rfl
  case bad => rfl
  all_goals
    rcases args with _ | ⟨a, _ | ⟨b, _ | ⟨c, _ | ⟨d, r⟩⟩⟩⟩ <;> first | cases hn | skip
  case un | un2 => exact nl_bind _ _ (ha a (.head _)) fun _ => rfl
  case like | likeEsc =>
    exact nl_bind _ _ (substrTypecheck_nl a b) fun _ => nl_bind _ _ (ha a (.head _)) fun _ =>
      nl_bind _ _ (ha b (.tail _ (.head _))) fun _ => rfl
  case bin | indexof =>
    exact nl_bind _ _ (ha a (.head _)) fun _ => nl_bind _ _ (ha b (.tail _ (.head _))) fun _ => rfl
  case substring =>
    exact nl_bind _ _ (ha a (.head _)) fun _ => nl_bind _ _ (ha b (.tail _ (.head _))) fun _ => rfl
  case substring =>
    exact nl_bind _ _ (ha a (.head _)) fun _ => nl_bind _ _ (ha b (.tail _ (.head _))) fun _ =>
      nl_bind _ _ (ha c (.tail _ (.tail _ (.head _)))) fun _ => rfl
  case now => rfl

def DjArgsOk : Exprs → Prop
  | .nil => True
  | .cons h t => nl (djVisit h) = true ∧ DjArgsOk t

theorem DjArgsOk.mem : (xs : Exprs) → DjArgsOk xs → ∀ a ∈ xs.toList, nl (djVisit a) = true
  | .cons h t, hx, a, ha => by
      rw [Exprs.toList, List.mem_cons] at ha
      rcases ha with rfl | ha
      · exact hx.1
      · exact DjArgsOk.mem t hx.2 a ha

theorem djVisitList_nl (xs : Exprs) (hx : DjArgsOk xs) : nl (djVisitList xs) = true := by
  rw [djVisitList_eq]; exact visitAll_nl xs hx.mem

theorem djFunc_nl (key : String) (args : Exprs) (ha : DjArgsOk args) (hn : (djPlan key).arity args.length = true) :
    nl (djFunc key args) = true := by
  rw [djFunc_eq]; exact runPlan_nl _ args ha.mem hn

section
variable (fields : List Str) (core : Bool)

def SaArgsOk : Exprs → Prop
  | .nil => True
  | .cons h t => nl (saVisit fields core h) = true ∧ SaArgsOk t

theorem SaArgsOk.mem : (xs : Exprs) → SaArgsOk fields core xs → ∀ a ∈ xs.toList, nl (saVisit fields core a) = true
  | .cons h t, hx, a, ha => by
      rw [Exprs.toList, List.mem_cons] at ha
      rcases ha with rfl | ha
      · exact hx.1
      · exact SaArgsOk.mem t hx.2 a ha

theorem saVisitList_nl (xs : Exprs) (hx : SaArgsOk fields core xs) : nl (saVisitList fields core xs) = true := by
  rw [saVisitList_eq]; exact visitAll_nl xs hx.mem

theorem saFunc_nl (key : String) (args : Exprs) (ha : SaArgsOk fields core args)
    (hn : (djPlan key).arity args.length = true) : nl (saFunc fields core key args) = true := by
  rw [saFunc_eq]; exact runPlan_nl _ args ha.mem (saPlan_arity key ▸ hn)

def notList : Outcome (OTree × OKind) → Bool
  | .ok (_, .list) => false
  | _ => true

theorem notList_bind {α} (x : Outcome α) (f : α → Outcome (OTree × OKind))
    (hf : ∀ a, notList (f a) = true) : notList (x >>= f) = true := by
  cases x with
  | ok a => exact hf a
  | lib e => rfl
  | notImplemented => rfl
  | foreign c => rfl

theorem notList_ite {c : Prop} [Decidable c] {x y : Outcome (OTree × OKind)} (hx : notList x = true)
    (hy : notList y = true) : notList (if c then x else y) = true := by
  split <;> assumption

theorem saFunc_notList (key : String) (args : Exprs) : notList (saFunc fields core key args) = true := by
  cases h : saFunc fields core key args with
  | ok p =>
    obtain ⟨t, k⟩ := p
    rw [saFunc_eq] at h
    cases k <;> first | rfl | exact absurd rfl (runPlan_ok h).2
  | _ => rfl

theorem saVisit_notList (e : Expr) (h : ∀ xs, e ≠ .list xs) : notList (saVisit fields core e) = true := by
  cases e
  case list xs => exact absurd rfl (h xs)
  case lit k v =>
    cases k <;> rw [saVisit] <;> first | rfl | (intro hh; cases hh) | exact notList_bind _ _ fun _ => rfl
  case ident | attr | coll => rw [saVisit]; exact notList_ite rfl rfl
  case named => rw [saVisit]; rfl
  case binop =>
    rw [saVisit]
    exact notList_bind _ _ fun _ => notList_bind _ _ fun _ => notList_ite rfl rfl
  case compare =>
    rw [saVisit]
    exact notList_bind _ _ fun _ => notList_bind _ _ fun _ =>
      notList_ite (notList_ite rfl rfl) (notList_ite rfl (notList_ite rfl rfl))
  case boolop => rw [saVisit]; exact notList_bind _ _ fun _ => notList_bind _ _ fun _ => rfl
  case unary => rw [saVisit]; exact notList_bind _ _ fun _ => notList_ite rfl rfl
  case call => rw [saVisit]; exact notList_ite rfl (saFunc_notList fields core _ _)
end

theorem sTypes_cons {Γ h t tys} (hs : sTypes Γ (.cons h t) = some tys) :
    ∃ a as, sType Γ h = some a ∧ sTypes Γ t = some as ∧ tys = a :: as := by
  rw [sTypes] at hs
  split at hs
  · rename_i a as h1 h2; exact ⟨a, as, h1, h2, by injection hs with hs; exact hs.symm⟩
  · cases hs

theorem sTypes_length {Γ} : (xs : Exprs) → ∀ tys, sTypes Γ xs = some tys → tys.length = xs.length
  | .nil, tys, h => by rw [sTypes] at h; injection h with h; subst h; rfl
  | .cons a t, tys, h => by
      obtain ⟨x, as, _, h2, rfl⟩ := sTypes_cons h
      simp [Exprs.length, sTypes_length t as h2]

theorem sType_list {Γ xs τ} (h : sType Γ (.list xs) = some τ) : τ = .coll ∧ ∃ tys, sTypes Γ xs = some tys := by
  rw [sType] at h
  cases hx : sTypes Γ xs with
  | none => simp [hx] at h
  | some tys => simp [hx] at h; exact ⟨h.symm, tys, rfl⟩

theorem sType_binop {Γ op l r τ} (h : sType Γ (.binop op l r) = some τ) :
    (∃ a, sType Γ l = some a) ∧ (∃ b, sType Γ r = some b) := by
  rw [sType] at h
  split at h
  · rename_i h1 h2; exact ⟨⟨_, h1⟩, ⟨_, h2⟩⟩
  · rename_i h1 h2; exact ⟨⟨_, h1⟩, ⟨_, h2⟩⟩
  · cases h

theorem sType_boolop {Γ op l r τ} (h : sType Γ (.boolop op l r) = some τ) :
    (∃ a, sType Γ l = some a) ∧ (∃ b, sType Γ r = some b) := by
  rw [sType] at h
  split at h
  · rename_i h1 h2; exact ⟨⟨_, h1⟩, ⟨_, h2⟩⟩
  · cases h

theorem sType_unary {Γ op e τ} (h : sType Γ (.unary op e) = some τ) : ∃ a, sType Γ e = some a := by
  cases op <;> rw [sType] at h <;> split at h
  · rename_i h1; exact ⟨_, h1⟩
  · cases h
  · rename_i h1; exact ⟨_, h1⟩
  · cases h

theorem sType_call {Γ f args τ} (h : sType Γ (.call f args) = some τ) :
    ∃ tys, sTypes Γ args = some tys ∧ sigResultN (String.ofList f.fullName) tys = some τ := by
  rw [sType] at h
  split at h
  · rename_i tys h1; exact ⟨tys, h1, h⟩
  · cases h

theorem sType_compare {Γ op l r τ} (h : sType Γ (.compare op l r) = some τ) :
    (∃ a, sType Γ l = some a ∧ (op = .in_ → a ≠ .coll)) ∧ (∃ b, sType Γ r = some b) := by
  have gen : ∀ {op : CmpOp}, op ≠ .in_ →
      (match sType Γ l, sType Γ r with
        | some a, some b => if compatTy a b then some (OTy.prim .bool) else none
        | _, _ => none) = some τ →
      (∃ a, sType Γ l = some a ∧ (op = .in_ → a ≠ .coll)) ∧ (∃ b, sType Γ r = some b) := by
    intro op hop h
    split at h
    · rename_i h1 h2; exact ⟨⟨_, h1, fun e => absurd e hop⟩, ⟨_, h2⟩⟩
    · cases h
  cases op
  case in_ =>
    by_cases hr : ∃ xs, r = .list xs
    · obtain ⟨xs, rfl⟩ := hr
      rw [sType] at h
      split at h
      · rename_i t ts h1 h2
        split at h
        · rename_i hc
          simp only [Bool.and_eq_true, bne_iff_ne, ne_eq] at hc
          refine ⟨⟨t, h1, fun _ => hc.1.1⟩, ⟨.coll, ?_⟩⟩
          rw [sType, h2]; rfl
        · cases h
      · cases h
    · rw [sType] at h
      · split at h
        · rename_i t h1 h2
          split at h
          · rename_i hc
            exact ⟨⟨t, h1, fun _ => by simpa using hc⟩, ⟨_, h2⟩⟩
          · cases h
        · cases h
      · intro xs hx; exact hr ⟨xs, hx⟩
  all_goals
    rw [sType] at h
    · exact gen (by decide) h
    all_goals (intros; contradiction)


theorem printable_compare {op l r} (h : printable (.compare op l r) = true) :
    printable l = true ∧ printable r = true := by
  cases op
  case in_ =>
    cases r <;> simp_all [printable]
  all_goals
    rw [printable] at h
    · simpa using h
    all_goals (intros; contradiction)

theorem printableNamed_false {Γ} : (xs : Exprs) → ∀ tys, sTypes Γ xs = some tys → printableNamed xs = false
  | .nil, _, _ => by rw [printableNamed]
  | .cons a t, tys, h => by
      obtain ⟨x, as, h1, _, _⟩ := sTypes_cons h
      cases a
      case named => rw [sType] at h1; cases h1
      all_goals
        rw [printableNamed]
        all_goals (intros; contradiction)

theorem printable_call {Γ f args tys} (h : printable (.call f args) = true) (ht : sTypes Γ args = some tys) :
    printableArgs args = true := by
  rw [printable] at h
  simp only [Bool.and_eq_true, Bool.or_eq_true] at h
  rcases h.2 with h | h
  · exact h
  · rw [printableNamed_false args tys ht] at h; cases h

theorem djVisit_path : (o : Expr) → (n : Str) → pathOk (.attr o n) = true →
    ∃ p, djVisit (.attr o n) = .ok (.col p, .field)
  | .ident i, n, _ => ⟨[i.name] ++ [n], by rw [djVisit, djVisit]; rfl⟩
  | .attr o' n', n, h => by
      rw [pathOk] at h
      simp only [Bool.and_eq_true] at h
      obtain ⟨p, hp⟩ := djVisit_path o' n' h.2
      exact ⟨p ++ [n], by rw [djVisit, hp]; rfl⟩
  | .lit _ _, _, h | .list _, _, h | .binop _ _ _, _, h | .compare _ _ _, _, h | .boolop _ _ _, _, h
  | .unary _ _, _, h | .named _ _, _, h | .call _ _, _, h | .coll _ _ _, _, h => by
      simp [pathOk] at h

end OQ.OrmTotal
