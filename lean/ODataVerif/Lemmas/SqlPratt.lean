/-
  The printer side of the SQL round trip (C09 `parse_mirror`): the tokens of the pieces a visitor method emits read,
  by the lemmas of SqlPrattRead, as the tree `Spec.mirror` demands.  `CoreR e t ps` is what is shown of every
  expression (`Goal`), by `Expr.induct` (`core_all`).  For a built-in, `call_frame` (what a
  successful `visit_Call` did) and `call_unary` / `call_binary` reduce the goal to "the template `selectTpl` returns
  reads as the tree the specification demands", shown per built-in (`call_*`).
-/
import ODataVerif.Model.SqlPieces
import ODataVerif.Spec.SqlMirror
import ODataVerif.Lemmas.SqlPrattRead
import ODataVerif.Lemmas.SqlModel
import ODataVerif.Lemmas.ExprInduct
namespace OQ.SqlPratt
open Spec

@[simp] theorem pieceToks_nil : pieceToks [] = [] := rfl
@[simp] theorem pieceToks_cons (p : Piece) (ps : List Piece) : pieceToks (p :: ps) = p.toks ++ pieceToks ps := rfl
@[simp] theorem toks_tok (t : SqlTok) : (Piece.tok t).toks = [t] := rfl
@[simp] theorem toks_sq (s : Str) : (Piece.sq s).toks = [.str s] := rfl
@[simp] theorem toks_dq (s : Str) : (Piece.dq s).toks = [.qid s] := rfl
@[simp] theorem toks_raw (s : Str) : (Piece.raw s).toks = numToks s := rfl
@[simp] theorem toks_ws (s : Str) : (Piece.ws s).toks = [] := rfl
@[simp] theorem toks_w (s : String) : (w s).toks = [.word s.toList] := rfl
@[simp] theorem toks_o (s : String) : (o s).toks = [.op s.toList] := rfl
@[simp] theorem toks_sp : sp.toks = [] := rfl
@[simp] theorem toks_lp : OQ.lp.toks = [.lp] := rfl
@[simp] theorem toks_rp : OQ.rp.toks = [.rp] := rfl
@[simp] theorem toks_comma : OQ.comma.toks = [.comma] := rfl
@[simp] theorem pieceToks_parenP (ps : List Piece) : pieceToks (parenP ps) = .lp :: (pieceToks ps ++ [.rp]) := by
  simp [parenP]

theorem pieceToks_joinComma : ∀ (items : List (List Piece)), pieceToks (joinComma items) = joinT (items.map pieceToks)
  | [] => rfl
  | [a] => by simp [joinComma, joinT]
  | a :: b :: rest => by
      have ih := pieceToks_joinComma (b :: rest)
      simp only [joinComma, SqlModel.pieceToks_append, pieceToks_cons, toks_comma, toks_sp, ih]
      simp [joinT]

/-- what is known when the parser reports a non-atomic result -/
def FlagOk (a : Bool) (t : SqlTree) (e : Expr) : Prop :=
  a = false → (isCatTree t = true → isConcatE e = true) ∧ (isArithTree t = true → isArithE e = true)

/-- a tree that is neither a concatenation nor arithmetic -/
theorem flag_plain {t : SqlTree} {e : Expr} (hc : isCatTree t = false) (ha : isArithTree t = false) : FlagOk false t e :=
  fun _ => ⟨fun h => by simp [hc] at h, fun h => by simp [ha] at h⟩

def CoreR (e : Expr) (t : SqlTree) (ps : List Piece) : Prop :=
  ∃ a, FlagOk a t e ∧ Opd (sqlPrec e) (pieceToks ps) t a

theorem core_of_atom {e t ps} (hp : sqlPrec e = 8) (h : Atom (pieceToks ps) t) : CoreR e t ps :=
  ⟨true, fun h => by simp at h, by rw [hp]; exact atom_opd h⟩

theorem sqlPrec_le (e : Expr) : sqlPrec e ≤ 8 := by
  unfold sqlPrec
  split <;> try omega
  split
  · unfold funcPrec; split
    · rename_i e' he
      have := List.find?_some he
      have hm := List.mem_of_find?_eq_some he
      revert hm; simp [funcPrecTable]; rintro (h|h|h|h|h|h) <;> subst h <;> simp
    · omega
  · omega

def wrapped (e : Expr) (parent : Nat) (oe : Bool) : Bool :=
  decide (sqlPrec e < parent) || (oe && sqlPrec e == parent)

/-- an operand as `_visit_operand` renders it -/
theorem wrap_opd {e t ps} (h : CoreR e t ps) (parent : Nat) (oe : Bool) (K : Nat) (hK8 : K ≤ 8)
    (hK : wrapped e parent oe = false → K ≤ sqlPrec e) :
    ∃ a, Opd K (pieceToks (wrapOperand e parent oe ps)) t a ∧
      (a = false → wrapped e parent oe = false ∧ FlagOk false t e) := by
  obtain ⟨a, hf, ho⟩ := h
  cases hw : wrapped e parent oe with
  | true =>
    refine ⟨true, ?_, by simp⟩
    have : wrapOperand e parent oe ps = parenP ps := by
      unfold wrapOperand; unfold wrapped at hw; rw [if_pos hw]
    rw [this, pieceToks_parenP]
    exact opd_mono (atom_opd (atom_paren ho)) hK8
  | false =>
    refine ⟨a, ?_, ?_⟩
    · have : wrapOperand e parent oe ps = ps := by
        unfold wrapOperand; unfold wrapped at hw; rw [if_neg (by simp [hw])]
      rw [this]
      exact opd_mono ho (hK hw)
    · intro ha; subst ha; exact ⟨rfl, hf⟩

theorem athenaClean_eq (s : Str) : athenaClean s = athenaName s := by
  rfl

theorem numForm (v : Str) : (∃ t, v = '-' :: t ∧ numToks v = [.op ['-'], .num t] ∧ numOf v = .un ['-'] (.num t)) ∨
    (∃ t, v = '+' :: t ∧ numToks v = [.op ['+'], .num t] ∧ numOf v = .un ['+'] (.num t)) ∨
    (numToks v = [.num v] ∧ numOf v = .num v) := by
  cases v with
  | nil => right; right; simp [numToks, numOf]
  | cons c t =>
    by_cases h1 : c = '-'
    · subst h1; left; exact ⟨t, rfl, rfl, rfl⟩
    by_cases h2 : c = '+'
    · subst h2; right; left; exact ⟨t, rfl, rfl, rfl⟩
    right; right
    constructor
    · unfold numToks; split <;> simp_all
    · unfold numOf; split <;> simp_all

theorem num_core (k : LitKind) (v : Str) : CoreR (.lit k v) (numOf v) [.raw v] := by
  rcases numForm v with ⟨t, -, h1, h2⟩ | ⟨t, -, h1, h2⟩ | ⟨h1, h2⟩
  · refine ⟨false, fun _ => by simp [h2, isCatTree, isArithTree], ?_⟩
    simp only [pieceToks_cons, toks_raw, pieceToks_nil, List.append_nil, h1, h2]
    exact opd_neg _ (by decide) (atom_opd (atom_num t)) (by omega)
  · refine ⟨false, fun _ => by simp [h2, isCatTree, isArithTree], ?_⟩
    simp only [pieceToks_cons, toks_raw, pieceToks_nil, List.append_nil, h1, h2]
    exact opd_neg _ (by decide) (atom_opd (atom_num t)) (by omega)
  · apply core_of_atom rfl
    simp only [pieceToks_cons, toks_raw, pieceToks_nil, List.append_nil, h1, h2]
    exact atom_num v

theorem reads_str (m : Nat) (hm : m ≤ 8) (s : Str) : ReadsAt m [.str s] (.str s) :=
  opd_reads (atom_opd (atom_str s)) hm

theorem readsL_one {T t} (h : ReadsAt 0 T t) : ReadsL [T] (.cons t .nil) := ⟨h, trivial⟩
theorem readsL_two {T t T' t'} (h : ReadsAt 0 T t) (h' : ReadsAt 0 T' t') : ReadsL [T, T'] (.cons t (.cons t' .nil)) :=
  ⟨h, h', trivial⟩
theorem readsL_three {T t T' t' T'' t''} (h : ReadsAt 0 T t) (h' : ReadsAt 0 T' t') (h'' : ReadsAt 0 T'' t'') :
    ReadsL [T, T', T''] (.cons t (.cons t' (.cons t'' .nil))) :=
  ⟨h, h', h'', trivial⟩

theorem atom_call_str (nm : String) (hw : plainWord nm.toList = true) (v : Str) :
    Atom [.word nm.toList, .lp, .str v, .rp] (.call nm.toList (.cons (.str v) .nil)) := by
  have hr := readsL_one (reads_str 0 (by omega) v)
  simpa [joinT] using atom_call nm.toList hw hr

def lowFn (c : Char) : Char := if 'A' ≤ c && c ≤ 'Z' then Char.ofNat (c.toNat + 32) else c

theorem lowerAscii_eq (v : Str) : lowerAscii v = v.map lowFn := rfl

/-- a character that `str.upper()` maps to one of T, R, U, E is that letter in either case -/
def trueCharOk (c : Char) : Bool :=
  ['T', 'R', 'U', 'E'].all (fun x => !(pyUpperC c == x) || (pyLowerC c == asciiLower x && lowFn c == asciiLower x))

theorem trueChar (c : Char) : trueCharOk c = true := by
  by_cases hl : isAsciiLower c = true
  · have key : ∀ n, n < 123 → 97 ≤ n → trueCharOk (Char.ofNat n) = true := by decide +kernel
    simp only [isAsciiLower, Bool.and_eq_true, decide_eq_true_eq, Char.le_def, UInt32.le_iff_toNat_le] at hl
    have := key c.toNat (Nat.lt_succ_of_le hl.2) hl.1
    rwa [Char.ofNat_toNat] at this
  · unfold trueCharOk pyUpperC asciiUpper
    simp only [hl]
    by_cases h1 : (c.toNat == 0x17F) = true
    · simp only [h1, if_true]; simp
    by_cases h2 : (c.toNat == 0x131) = true
    · simp only [h1, h2, if_true]; simp
    simp only [h1, h2, Bool.false_eq_true, if_false]
    simp only [List.all_cons, List.all_nil, Bool.and_true, Bool.and_eq_true, Bool.or_eq_true, Bool.not_eq_true', beq_eq_false_iff_ne, beq_iff_eq]
    refine ⟨?_, ?_, ?_, ?_⟩
    · by_cases hc : c = 'T'
      · right; subst hc; decide
      · left; exact hc
    · by_cases hc : c = 'R'
      · right; subst hc; decide
      · left; exact hc
    · by_cases hc : c = 'U'
      · right; subst hc; decide
      · left; exact hc
    · by_cases hc : c = 'E'
      · right; subst hc; decide
      · left; exact hc

theorem trueChar' (c x : Char) (hx : x ∈ ['T', 'R', 'U', 'E']) (h : pyUpperC c = x) :
    pyLowerC c = asciiLower x ∧ lowFn c = asciiLower x := by
  have := trueChar c
  simp only [trueCharOk, List.all_eq_true] at this
  simpa [h] using this x hx

theorem bool_true (v : Str) (h : pyUpper v = "TRUE".toList) :
    lowerAscii v = "true".toList ∧ pyLower v = "true".toList := by
  rw [lowerAscii_eq]
  unfold pyUpper at h
  unfold pyLower
  match v, h with
  | [c1, c2, c3, c4], h =>
    simp at h
    obtain ⟨h1, h2, h3, h4⟩ := h
    have e1 := trueChar' c1 'T' (by decide) h1
    have e2 := trueChar' c2 'R' (by decide) h2
    have e3 := trueChar' c3 'U' (by decide) h3
    have e4 := trueChar' c4 'E' (by decide) h4
    simp [e1, e2, e3, e4]
    decide
  | [], h => simp at h
  | [_], h => simp at h
  | [_, _], h => simp at h
  | [_, _, _], h => simp at h
  | _ :: _ :: _ :: _ :: _ :: _, h => simp at h

theorem bool_false (v : Str) (h : pyUpper v = "FALSE".toList) :
    lowerAscii v ≠ "true".toList ∧ pyLower v ≠ "true".toList := by
  have hl : v.length = 5 := by
    simpa [pyUpper] using congrArg List.length h
  constructor
  · intro h'
    have := congrArg List.length h'
    simp [lowerAscii, hl] at this
  · intro h'
    have := congrArg List.length h'
    simp [pyLower, hl] at this

def optL (x : Option Str) (u : String) : List (Str × String) :=
  match x with
  | some n => if n.isEmpty then [] else [(n, u)]
  | none => []

def durList (p : DurParts) : List (Str × String) :=
  optL p.years "YEAR" ++ optL p.months "MONTH" ++ optL p.days "DAY" ++ optL p.hours "HOUR"
    ++ optL p.minutes "MINUTE" ++ optL p.seconds "SECOND"

def ivP (x : Str × String) : List Piece := intervalP x.1 x.2
def ivT (x : Str × String) : SqlTree := .interval x.1 (S x.2)
def ivToks (x : Str × String) : List SqlTok := [.word "INTERVAL".toList, .str x.1, .word x.2.toList]

/-- one optional component of a duration, as the specification lists it -/
theorem optL_ivT (x : Option Str) (u : String) :
    (match x with
     | some n => if n.isEmpty then [] else [SqlTree.interval n (S u)]
     | none => []) = (optL x u).map ivT := by
  cases x with
  | none => rfl
  | some n => simp only [optL]; split <;> rfl

theorem durIntervals_eq (p : DurParts) : durIntervals p = (durList p).map ivT := by
  simp only [durIntervals, durList, List.map_append, ← optL_ivT]
  rfl

theorem optIv_eq (x : Option Str) (u : String) : SqlModel.optIv x u = (optL x u).map ivP := by
  cases x with
  | none => rfl
  | some n => simp only [SqlModel.optIv, optL]; split <;> rfl

theorem durIvs_eq (p : DurParts) : SqlModel.durIvs p = (durList p).map ivP := by
  simp only [SqlModel.durIvs, durList, List.map_append, optIv_eq]

@[simp] theorem pieceToks_ivP (x : Str × String) : pieceToks (ivP x) = ivToks x := rfl

theorem atom_iv (x : Str × String) : Atom (ivToks x) (ivT x) := atom_interval _ _

theorem pieceToks_joinPlus : ∀ (x : Str × String) (xs : List (Str × String)),
    pieceToks (joinPlus ((x :: xs).map ivP)) = ivToks x ++ xs.flatMap (fun y => .op ['+'] :: ivToks y)
  | x, [] => by simp [joinPlus]
  | x, y :: ys => by
      have ih := pieceToks_joinPlus y ys
      simp only [List.map_cons] at ih ⊢
      simp only [joinPlus, SqlModel.pieceToks_append, pieceToks_cons, ih, pieceToks_ivP, toks_sp, toks_o]
      simp

theorem sum_opd : ∀ (xs : List (Str × String)) (A : List SqlTok) (ta : SqlTree) (aa : Bool) (La : Nat),
    Opd La A ta aa → 5 ≤ La → (aa || !isCatTree ta) = true →
    ∃ a, Opd 5 (A ++ xs.flatMap (fun y => .op ['+'] :: ivToks y)) (sumTrees ta (xs.map ivT)) a
  | [], A, ta, aa, La, h, hL, _ => ⟨aa, by simpa [sumTrees] using opd_mono h hL⟩
  | x :: xs, A, ta, aa, La, h, hL, hf => by
      have h1 := opd_add ['+'] (by decide) (by decide) h hL (atom_opd (atom_iv x)) (by omega)
        (by simpa [mixOk, isCatOp] using hf) (by simp [mixOk])
      obtain ⟨a, ha⟩ := sum_opd xs _ _ false 5 h1 (Nat.le_refl 5) (by simp [isCatTree, isCatOp])
      exact ⟨a, by simpa [sumTrees] using ha⟩

theorem duration_core (isD : Char → Bool) (d : Dialect) (v : Str) (t : SqlTree) (ps : List Piece)
    (hm : litMirror isD d .duration v = some t) (hv : durationPieces isD v = .ok ps) :
    CoreR (.lit .duration v) t ps := by
  simp only [litMirror] at hm
  cases hu : durUnpack isD v with
  | none => simp [hu] at hm
  | some p =>
    rw [SqlModel.durationPieces_eq] at hv
    simp only [hu, durIvs_eq] at hv
    simp only [hu, durIntervals_eq] at hm
    have hsign := SqlModel.durUnpack_sign isD v p hu
    -- the body without the sign
    have body : ∃ (B : List Piece) (tb : SqlTree),
        ps = SqlModel.durSign p ++ B ∧
        t = (match p.sign with | some c => .un [c] tb | none => tb) ∧ Atom (pieceToks B) tb := by
      cases hl : durList p with
      | nil => simp [hl] at hm
      | cons x xs =>
        cases xs with
        | nil =>
          simp only [hl, List.map_cons, List.map_nil, sumTrees] at hm hv
          refine ⟨ivP x, ivT x, ?_, ?_, atom_iv x⟩
          · cases hv; rfl
          · cases hs : p.sign <;> simp [hs] at hm ⊢ <;> exact hm.symm
        | cons y ys =>
          simp only [hl, List.map_cons] at hm hv
          refine ⟨parenP (joinPlus ((x :: y :: ys).map ivP)), sumTrees (ivT x) ((y :: ys).map ivT), ?_, ?_, ?_⟩
          · cases hv; rfl
          · cases hs : p.sign <;> simp [hs] at hm ⊢ <;> exact hm.symm
          · rw [pieceToks_parenP, pieceToks_joinPlus]
            obtain ⟨a, ha⟩ := sum_opd (y :: ys) _ _ true 8 (atom_opd (atom_iv x)) (by omega) rfl
            exact atom_paren ha
    obtain ⟨B, tb, hps, ht, hB⟩ := body
    simp only [SqlModel.durSign] at hps
    rcases hsign with hs | hs | hs
    · rw [hs] at hps ht; subst hps ht
      exact core_of_atom rfl (by simpa using hB)
    · rw [hs] at hps ht; subst hps ht
      refine ⟨false, flag_plain rfl rfl, ?_⟩
      simpa [sqlPrec] using opd_neg ['+'] (by decide) (atom_opd hB) (by omega)
    · rw [hs] at hps ht; subst hps ht
      refine ⟨false, flag_plain rfl rfl, ?_⟩
      simpa [sqlPrec] using opd_neg ['-'] (by decide) (atom_opd hB) (by omega)

theorem ofList_eq {s : Str} {n : String} (h : String.ofList s = n) : s = n.toList := by
  simpa using congrArg String.toList h

theorem prec_of_concat {e : Expr} (h : isConcatE e = true) : sqlPrec e = 5 := by
  cases e <;> simp [isConcatE, isBuiltin] at h
  rename_i f args
  obtain ⟨h1, h2⟩ := h
  have := ofList_eq h2
  simp only [sqlPrec, List.isEmpty_iff.mpr h1, if_true, this]
  decide

theorem prec_of_arith {e : Expr} (h : isArithE e = true) : sqlPrec e = 5 ∨ sqlPrec e = 6 := by
  cases e <;> simp [isArithE, isBinopE, isBuiltin] at h
  · rename_i op l r; cases op <;> simp [sqlPrec]
  · rename_i f args
    obtain ⟨h1, h2⟩ := h
    have := ofList_eq h2
    simp only [sqlPrec, List.isEmpty_iff.mpr h1, if_true, this]
    left; decide

theorem wrapped_false_lt {e : Expr} {parent : Nat} (h : wrapped e parent false = false) : parent ≤ sqlPrec e := by
  simp [wrapped] at h; exact h
theorem wrapped_false_le {e : Expr} {parent : Nat} (h : wrapped e parent true = false) : parent < sqlPrec e := by
  simp [wrapped] at h; omega

theorem cat_flag {e : Expr} {t : SqlTree} {a : Bool} {parent : Nat} {oe : Bool}
    (h : a = false → wrapped e parent oe = false ∧ FlagOk false t e)
    (hp : wrapped e parent oe = false → sqlPrec e ≠ 5) : (a || !isCatTree t) = true := by
  cases a with
  | true => rfl
  | false =>
    obtain ⟨hw, hf⟩ := h rfl
    cases hc : isCatTree t with
    | false => rfl
    | true => exact absurd (prec_of_concat ((hf rfl).1 hc)) (hp hw)

theorem flag_bin (s : Str) (l r : SqlTree) (e : Expr) (h1 : isCatOp s = false) (h2 : isAddOp s = false)
    (h3 : isMulOp s = false) : FlagOk false (.bin s l r) e :=
  flag_plain h1 (by simp [isArithTree, h2, h3])

theorem cmp_left {l tl ls} (hl : CoreR l tl ls) : ∃ a, Opd 5 (pieceToks (wrapOperand l 4 true ls)) tl a := by
  obtain ⟨a, ha, -⟩ := wrap_opd hl 4 true 5 (by omega) (fun h => wrapped_false_le h)
  exact ⟨a, ha⟩

/-- `x IS NULL` / `x IS NOT NULL`, for either order of the operands in the filter (`null eq x`: the visitor
    swaps them): only the level of the comparison `e` matters -/
theorem core_is_null (e : Expr) (he : sqlPrec e = 4) {x : Expr} {tx : SqlTree} {xs : List Piece} (hx : CoreR x tx xs) :
    CoreR e (.bin (S "IS") tx (.kw (S "NULL"))) (wrapOperand x 4 true xs ++ sp :: [w "IS"] ++ sp :: [w "NULL"]) := by
  obtain ⟨ax, hax⟩ := cmp_left hx
  refine ⟨false, flag_bin _ _ _ _ (by decide) (by decide) (by decide), ?_⟩
  simpa [he, S] using opd_is_null hax (Nat.le_refl 5)

theorem core_isnot_null (e : Expr) (he : sqlPrec e = 4) {x : Expr} {tx : SqlTree} {xs : List Piece} (hx : CoreR x tx xs) :
    CoreR e (.bin (S "ISNOT") tx (.kw (S "NULL")))
      (wrapOperand x 4 true xs ++ sp :: [w "IS", sp, w "NOT"] ++ sp :: [w "NULL"]) := by
  obtain ⟨ax, hax⟩ := cmp_left hx
  refine ⟨false, flag_bin _ _ _ _ (by decide) (by decide) (by decide), ?_⟩
  simpa [he, S] using opd_isnot_null hax (Nat.le_refl 5)

def CoreRL : Exprs → SqlTrees → List (List Piece) → Prop
  | .nil, .nil, [] => True
  | .cons h t, .cons h' t', p :: ps => CoreR h h' p ∧ CoreRL t t' ps
  | _, _, _ => False

theorem core_reads0 {e t ps} (h : CoreR e t ps) : ReadsAt 0 (pieceToks ps) t := by
  obtain ⟨a, -, ha⟩ := h
  exact opd_reads ha (Nat.zero_le _)

theorem readsL_of_core : ∀ (xs : Exprs) (ts : SqlTrees) (items : List (List Piece)), CoreRL xs ts items →
    ReadsL (items.map pieceToks) ts
  | .nil, .nil, [], _ => trivial
  | .cons h t, .cons h' t', p :: ps, hc => ⟨core_reads0 hc.1, readsL_of_core t t' ps hc.2⟩
  | .nil, .nil, _ :: _, hc => by simp [CoreRL] at hc
  | .nil, .cons _ _, _, hc => by simp [CoreRL] at hc
  | .cons _ _, .nil, _, hc => by simp [CoreRL] at hc
  | .cons _ _, .cons _ _, [], hc => by simp [CoreRL] at hc

theorem funcPrec_ge (n : Str) : 4 ≤ funcPrec n := by
  unfold funcPrec; split
  · rename_i e' he
    have hm := List.mem_of_find?_eq_some he
    revert hm; simp [funcPrecTable]; rintro (h|h|h|h|h|h) <;> subst h <;> simp
  · omega

theorem prec_same_bool {l : Expr} {op : BoolOp} (r : Expr) (hb : isBoolOp l = some op) :
    sqlPrec l = sqlPrec (.boolop op l r) := by
  cases l <;> simp [isBoolOp] at hb
  subst hb; rename_i lo _ _; cases lo <;> simp [sqlPrec]

theorem prec_ge3_of_not_bool {e : Expr} (h : isBoolOp e = none) : 3 ≤ sqlPrec e := by
  cases e with
  | boolop op l r => simp [isBoolOp] at h
  | unary op e => cases op <;> simp [sqlPrec]
  | binop op l r => cases op <;> simp [sqlPrec]
  | call f args =>
    simp only [sqlPrec]; split
    · have := funcPrec_ge (pyLower f.name); omega
    · omega
  | _ => simp [sqlPrec]

/- `Spec.mirrorCall` is part of a structurally recursive mutual block for which Lean cannot generate
   unfolding equations; `mirrorCall'` is a verbatim, non-recursive copy of its body (the recursive calls
   replaced by `Spec.mirror`), definitionally equal to it on every shape of argument list. -/

def mirrorCall' (isDigit : Char → Bool) (d : Dialect) (alias : Option Str) (name : String) (args : Exprs) : Option SqlTree :=
  let like2 (pre suf : Str) : Option SqlTree :=
    match args with
    | .cons a0 (.cons a1 .nil) =>
        if strOverload [inferType a0, inferType a1] then do
          let t0 ← mirror isDigit d alias a0
          let t1 ← mirror isDigit d alias a1
          let (pat, esc) := patternOf a1 t1 pre suf
          pure (.like t0 pat esc)
        else none
    | _ => none
  let unary (k : SqlTree → Option SqlTree) : Option SqlTree :=
    match args with
    | .cons a .nil => (mirror isDigit d alias a).bind k
    | _ => none
  let part (p : String) (fmt : String) : Option SqlTree :=
    unary (fun t =>
      if d = .sqlite then some (.cast (.call (S "STRFTIME") (two (.str (S fmt)) t)) (S "INTEGER"))
      else some (.extract (S p) t))
  match name with
  | "concat" =>
      match args with
      | .cons a0 (.cons a1 .nil) => do
          let t0 ← mirror isDigit d alias a0
          let t1 ← mirror isDigit d alias a1
          pure (.bin (S "||") t0 t1)
      | _ => none
  | "contains" => like2 ['%'] ['%']
  | "startswith" => like2 [] ['%']
  | "endswith" => like2 ['%'] []
  | "indexof" =>
      match args with
      | .cons a0 (.cons a1 .nil) =>
          if strOverload [inferType a0, inferType a1] then do
            let t0 ← mirror isDigit d alias a0
            let t1 ← mirror isDigit d alias a1
            if d = .sqlite then pure (.bin (S "-") (.call (S "INSTR") (two t0 t1)) (.num ['1']))
            else pure (.bin (S "-") (.position t1 t0) (.num ['1']))
          else none
      | _ => none
  | "length" =>
      match args with
      | .cons a .nil => do
          let t ← mirror isDigit d alias a
          let ty := inferType a
          if d = .sqlite then pure (.call (S "LENGTH") (one t))
          else if isStrTy ty || ty == none then pure (.call (S (if d = .athena then "LENGTH" else "CHAR_LENGTH")) (one t))
          else if isListTy ty then pure (.call (S "CARDINALITY") (one t))
          else none
      | _ => none
  | "substring" =>
      match args with
      | .cons a0 (.cons a1 rest) =>
          let ty := inferType a0
          if isStrTy ty || ty == none then do
            let t0 ← mirror isDigit d alias a0
            let t1 ← mirror isDigit d alias a1
            let start := SqlTree.bin (S "+") t1 (.num ['1'])
            match rest with
            | .nil => if d = .std then pure (.substring t0 start .none) else pure (.call (S "SUBSTR") (two t0 start))
            | .cons a2 .nil => do
                let t2 ← mirror isDigit d alias a2
                if d = .std then pure (.substring t0 start (.some t2)) else pure (.call (S "SUBSTR") (three t0 start t2))
            | _ => none
          else if isListTy ty && d = .athena then do
            let t0 ← mirror isDigit d alias a0
            let t1 ← mirror isDigit d alias a1
            match rest with
            | .nil => pure (.call (S "SLICE") (two t0 t1))
            | .cons a2 .nil => do
                let t2 ← mirror isDigit d alias a2
                pure (.call (S "SLICE") (three t0 t1 t2))
            | _ => none
          else none
      | _ => none
  | "tolower" => unary (fun t => some (.call (S "LOWER") (one t)))
  | "toupper" => unary (fun t => some (.call (S "UPPER") (one t)))
  | "trim" => unary (fun t => some (.call (S "TRIM") (one t)))
  | "year" => part "YEAR" "%Y"
  | "month" => part "MONTH" "%m"
  | "day" => part "DAY" "%d"
  | "hour" => part "HOUR" "%H"
  | "minute" => part "MINUTE" "%M"
  | "date" => unary (fun t => if d = .sqlite then some (.call (S "DATE") (one t)) else some (.cast t (S "DATE")))
  | "now" =>
      match args with
      | .nil => if d = .sqlite then some (.call (S "DATETIME") (one (.str (S "now")))) else some (.kw (S "CURRENT_TIMESTAMP"))
      | _ => none
  | "round" =>
      unary (fun t =>
        match d with
        | .std => some (.cast (.bin (S "+") t (.num (S "0.5"))) (S "INTEGER"))
        | .sqlite => some (.call (S "TRUNC") (one (.bin (S "+") t (.num (S "0.5")))))
        | .athena => some (.call (S "ROUND") (one t)))
  | "floor" => unary (fun t => some (.call (S "FLOOR") (one t)))
  | "ceiling" => unary (fun t => some (.call (S "CEILING") (one t)))
  | "hassubset" =>
      if d = .athena then
        match args with
        | .cons a0 (.cons a1 .nil) => do
            let t0 ← mirror isDigit d alias a0
            let t1 ← mirror isDigit d alias a1
            pure (.bin (S "=") (.call (S "CARDINALITY") (one (.call (S "ARRAY_INTERSECT") (two t0 t1))))
                               (.call (S "CARDINALITY") (one t1)))
        | _ => none
      else none
  | _ => none

theorem mirrorCall_eq (isD : Char → Bool) (d : Dialect) (al : Option Str) (name : String) :
    ∀ args : Exprs, mirrorCall isD d al name args = mirrorCall' isD d al name args
  | .nil => rfl
  | .cons _ .nil => rfl
  | .cons _ (.cons _ .nil) => rfl
  | .cons _ (.cons _ (.cons _ .nil)) => rfl
  | .cons _ (.cons _ (.cons _ (.cons _ _))) => rfl

def handlerNames : List String :=
  ["concat", "contains", "startswith", "endswith", "indexof", "length", "substring", "tolower", "toupper", "trim",
   "year", "month", "day", "hour", "minute", "date", "now", "round", "floor", "ceiling", "hassubset"]

theorem mirrorCall'_name (isD : Char → Bool) (d : Dialect) (al : Option Str) (name : String) (args : Exprs) (t : SqlTree)
    (h : mirrorCall' isD d al name args = some t) : name ∈ handlerNames := by
  by_cases hn : name ∈ handlerNames
  · exact hn
  · exfalso
    simp only [handlerNames, List.mem_cons, List.not_mem_nil, or_false, not_or] at hn
    obtain ⟨h1, h2, h3, h4, h5, h6, h7, h8, h9, h10, h11, h12, h13, h14, h15, h16, h17, h18, h19, h20, h21⟩ := hn
    simp [mirrorCall'] at h

theorem handler_key : ∀ nm ∈ handlerNames,
    String.ofList (pyLower (funcKey ⟨nm.toList, []⟩)) = nm ∧ sqlHandlers.contains nm = true := by decide +kernel

theorem coreRL_nil {items : List (List Piece)} (h : CoreRL .nil .nil items) : items = [] := by
  cases items with
  | nil => rfl
  | cons _ _ => simp [CoreRL] at h

theorem coreRL_cons {a : Expr} {as : Exprs} {t : SqlTree} {ts : SqlTrees} {items : List (List Piece)}
    (h : CoreRL (.cons a as) (.cons t ts) items) : ∃ p ps, items = p :: ps ∧ CoreR a t p ∧ CoreRL as ts ps := by
  cases items with
  | nil => simp [CoreRL] at h
  | cons p ps => exact ⟨p, ps, rfl, h⟩

section
variable (isD : Char → Bool) (d : Dialect) (al : Option Str)

/-- the induction hypothesis for an argument list -/
def IHL (args : Exprs) : Prop :=
  ∀ ts items, mirrorList isD d al args = some ts → sqlVisitList isD d al args = .ok items → CoreRL args ts items

def CallGoal (nm : String) : Prop :=
  ∀ args t ps, IHL isD d al args → sqlSafe d (.call ⟨nm.toList, []⟩ args) = true →
    mirrorCall' isD d al nm args = some t → sqlVisit isD d al (.call ⟨nm.toList, []⟩ args) = .ok ps →
    CoreR (.call ⟨nm.toList, []⟩ args) t ps

/-- `visit_Call` on a handled name: the arguments are rendered, a template is chosen from their number and
    inferred types and filled in; by the induction hypothesis the rendered arguments read as their mirrors -/
theorem call_frame {nm : String} (hn : nm ∈ handlerNames) {args : Exprs} {ts : SqlTrees} {ps : List Piece}
    (ih : IHL isD d al args) (hm : mirrorList isD d al args = some ts)
    (hv : sqlVisit isD d al (.call ⟨nm.toList, []⟩ args) = .ok ps) :
    ∃ items tpl, CoreRL args ts items ∧ selectTpl d nm (args.toList.map inferType) = .ok tpl ∧
      ps = instantiate tpl args.toList items := by
  obtain ⟨hk, hh⟩ := handler_key nm hn
  rw [sqlVisit] at hv
  simp only [hk, hh, Bool.not_true, Bool.false_eq_true, if_false] at hv
  cases hp : preCheck d nm args.length with
  | some err =>
    simp only [hp] at hv
    exact absurd (hv ▸ hp) (SqlModel.preCheck_not_ok _ _ _ _)
  | none =>
    simp only [hp] at hv
    obtain ⟨items, h1, hv⟩ := Outcome.bind_eq_ok hv
    obtain ⟨tpl, h2, hv⟩ := Outcome.bind_eq_ok hv
    exact ⟨items, tpl, ih ts items hm h1, h2, by simpa using hv.symm⟩

/-- a built-in of one argument: `k` is what the specification makes of the argument's mirror -/
theorem call_unary {nm : String} (k : Expr → SqlTree → Option SqlTree)
    (hk : ∀ args, mirrorCall' isD d al nm args =
      match args with
      | .cons a .nil => (mirror isD d al a).bind (k a)
      | _ => none)
    (H : ∀ a t0 p0 t tpl, CoreR a t0 p0 → sqlSafe d (.call ⟨nm.toList, []⟩ (.cons a .nil)) = true → k a t0 = some t →
      selectTpl d nm [inferType a] = .ok tpl →
      CoreR (.call ⟨nm.toList, []⟩ (.cons a .nil)) t (instantiate tpl [a] [p0])) :
    CallGoal isD d al nm := by
  intro args t ps ih hs hm hv
  have hn := mirrorCall'_name isD d al _ _ _ hm
  rw [hk] at hm
  cases args with
  | nil => cases hm
  | cons a r =>
    cases r with
    | cons _ _ => cases hm
    | nil =>
      obtain ⟨t0, h0, hk0⟩ := Option.bind_eq_some_iff.mp hm
      obtain ⟨items, tpl, hc, htpl, rfl⟩ :=
        call_frame isD d al hn ih (ts := one t0) (by simp [mirrorList, h0, one]) hv
      obtain ⟨p0, _, rfl, c0, hnil⟩ := coreRL_cons hc
      cases coreRL_nil hnil
      exact H a t0 p0 t tpl c0 hs hk0 htpl

/-- a built-in of two arguments: `c` is the overload test, `k` what is made of the two mirrors -/
theorem call_binary {nm : String} (c : Expr → Expr → Bool)
    (k : Expr → Expr → SqlTree → SqlTree → Option SqlTree)
    (hk : ∀ args, mirrorCall' isD d al nm args =
      match args with
      | .cons a0 (.cons a1 .nil) =>
          if c a0 a1 then (mirror isD d al a0).bind fun t0 => (mirror isD d al a1).bind fun t1 => k a0 a1 t0 t1 else none
      | _ => none)
    (H : ∀ a0 a1 t0 t1 p0 p1 t tpl, CoreR a0 t0 p0 → CoreR a1 t1 p1 →
      sqlSafe d (.call ⟨nm.toList, []⟩ (.cons a0 (.cons a1 .nil))) = true → c a0 a1 = true → k a0 a1 t0 t1 = some t →
      selectTpl d nm [inferType a0, inferType a1] = .ok tpl →
      CoreR (.call ⟨nm.toList, []⟩ (.cons a0 (.cons a1 .nil))) t (instantiate tpl [a0, a1] [p0, p1])) :
    CallGoal isD d al nm := by
  intro args t ps ih hs hm hv
  have hn := mirrorCall'_name isD d al _ _ _ hm
  rw [hk] at hm
  cases args with
  | nil => cases hm
  | cons a0 r =>
    cases r with
    | nil => cases hm
    | cons a1 r =>
      cases r with
      | cons _ _ => cases hm
      | nil =>
        dsimp only at hm
        split at hm
        · rename_i hc
          obtain ⟨t0, h0, hm⟩ := Option.bind_eq_some_iff.mp hm
          obtain ⟨t1, h1, hk1⟩ := Option.bind_eq_some_iff.mp hm
          obtain ⟨items, tpl, hcl, htpl, rfl⟩ :=
            call_frame isD d al hn ih (ts := two t0 t1) (by simp [mirrorList, h0, h1, two]) hv
          obtain ⟨p0, _, rfl, c0, hcl⟩ := coreRL_cons hcl
          obtain ⟨p1, _, rfl, c1, hnil⟩ := coreRL_cons hcl
          cases coreRL_nil hnil
          exact H a0 a1 t0 t1 p0 p1 t tpl c0 c1 hs hc hk1 htpl
        · cases hm
end

section
attribute [local simp] instantiate instItem tcall tcall.join tw to_ tsp tlp trp tnum tstr joinT S one two three

theorem callPrec8 (nm : String) (args : Exprs) (h : funcPrec (pyLower nm.toList) = 8) :
    sqlPrec (.call ⟨nm.toList, []⟩ args) = 8 := by
  simp [sqlPrec, h]

theorem callPrec (nm : String) (args : Exprs) (k : Nat) (h : funcPrec (pyLower nm.toList) = k) :
    sqlPrec (.call ⟨nm.toList, []⟩ args) = k := by
  simp [sqlPrec, h]

theorem tpl_call1 (e : Expr) (hp : sqlPrec e = 8) (nm : String) (hw : plainWord nm.toList = true)
    {a t p} (h : CoreR a t p) :
    CoreR e (.call (S nm) (one t)) (instantiate (tcall nm [[.arg 0]]) [a] [p]) := by
  apply core_of_atom hp
  have hr := readsL_one (core_reads0 h)
  simpa using atom_call nm.toList hw hr

/-- `x + 1`, `x + 0.5`: an argument spliced in front of `+ literal` -/
theorem plus_lit {a t p} (n : Str) (h : CoreR a t p) (hp : 5 ≤ sqlPrec a) (hc : isConcatE a = false) :
    Opd 5 (pieceToks p ++ [.op ['+'], .num n]) (.bin ['+'] t (.num n)) false := by
  obtain ⟨f, hf, ho⟩ := h
  refine opd_add ['+'] (by decide) (by decide) ho hp (atom_opd (atom_num n)) (by omega) ?_ (by simp [mixOk])
  simp only [mixOk, show isCatOp ['+'] = false by decide, Bool.false_eq_true, if_false]
  cases f with
  | true => rfl
  | false =>
    cases hct : isCatTree t with
    | false => rfl
    | true => have := (hf rfl).1 hct; simp [this] at hc

theorem plus_one_reads {a t p} (m : Nat) (hm : m ≤ 5) (h : CoreR a t p) (hp : 5 ≤ sqlPrec a) (hc : isConcatE a = false) :
    ReadsAt m (pieceToks p ++ [.op ['+'], .num ['1']]) (.bin ['+'] t (.num ['1'])) :=
  opd_reads (plus_lit ['1'] h hp hc) hm

theorem atom_reads0 {T t} (h : Atom T t) : ReadsAt 0 T t := opd_reads (atom_opd h) (Nat.zero_le _)

theorem core_reads5 {e t ps} (h : CoreR e t ps) (h5 : 5 ≤ sqlPrec e) : ReadsAt 5 (pieceToks ps) t := by
  obtain ⟨a, -, ha⟩ := h
  exact opd_reads ha h5

theorem mul_of_arith6 {e : Expr} (h : isArithE e = true) (h6 : sqlPrec e = 6) : isMulE e = true := by
  cases e with
  | binop op l r => cases op <;> simp [sqlPrec] at h6 <;> rfl
  | call f args =>
    simp [isArithE, isBinopE, isBuiltin] at h
    have := ofList_eq h.2
    simp only [sqlPrec, List.isEmpty_iff.mpr h.1, if_true, this] at h6
    exact absurd h6 (by decide)
  | _ => simp [isArithE, isBinopE, isBuiltin] at h

/-- operand of `||`: atomic, or not an arithmetic tree -/
theorem arith_flag {e : Expr} {t : SqlTree} {a : Bool} {parent : Nat} {oe : Bool}
    (h : a = false → wrapped e parent oe = false ∧ FlagOk false t e)
    (hp : wrapped e parent oe = false → isArithE e = false) : (a || !isArithTree t) = true := by
  cases a with
  | true => rfl
  | false =>
    obtain ⟨hw, hf⟩ := h rfl
    cases hc : isArithTree t with
    | false => rfl
    | true => have := (hf rfl).2 hc; simp [hp hw] at this

/-- the right operand of `||` as `_visit_operand` renders it: unwrapped it has level ≥ 6, and `sqlSafe` rules out
    a multiplication, so it is no arithmetic expression -/
theorem cat_right_ok {a1 : Expr} {t1 : SqlTree} {ar : Bool}
    (hfr : ar = false → wrapped a1 5 true = false ∧ FlagOk false t1 a1) (hm1 : isMulE a1 = false) :
    mixOk ['|', '|'] ar t1 = true := by
  simp only [mixOk, show isCatOp ['|', '|'] = true by decide, if_true]
  refine arith_flag hfr (fun hw => ?_)
  cases hA : isArithE a1 with
  | false => rfl
  | true =>
    have h56 := prec_of_arith hA
    have := wrapped_false_le hw
    have := mul_of_arith6 hA (by omega)
    simp [this] at hm1

theorem likeEscape_eq : ∀ s : Str, likeEscape s = likeLit s
  | [] => rfl
  | c :: t => by simp only [likeEscape, likeLit, likeEscape_eq t]

theorem sqlPattern_nonlit {a1 : Expr} (h : isStrLitE a1 = false) (p1 : List Piece) (pre suf : Str) :
    sqlPattern a1 p1 pre suf =
      (let res := wrapOperand a1 5 true p1
       let res := if pre.isEmpty then res else .tok (.str pre) :: sp :: o "||" :: sp :: res
       if suf.isEmpty then res else res ++ [sp, o "||", sp, .tok (.str suf)]) := by
  unfold sqlPattern
  split
  · simp [isStrLitE] at h
  · rfl

theorem patternOf_nonlit {a1 : Expr} (h : isStrLitE a1 = false) (t1 : SqlTree) (pre suf : Str) :
    patternOf a1 t1 pre suf =
      (let t := if pre.isEmpty then t1 else .bin (S "||") (.str pre) t1
       (if suf.isEmpty then t else .bin (S "||") t (.str suf), none)) := by
  unfold patternOf
  split
  · simp [isStrLitE] at h
  · rfl

theorem flag_minus (l r : SqlTree) (e : Expr) (he : isArithE e = true) : FlagOk false (.bin ['-'] l r) e :=
  fun _ => ⟨fun h => by simp [isCatTree, isCatOp] at h, fun _ => he⟩

theorem minus_one {T t} (h : Atom T t) : Opd 5 (T ++ [.op ['-'], .num ['1']]) (.bin ['-'] t (.num ['1'])) false :=
  opd_add ['-'] (by decide) (by decide) (atom_opd h) (by omega) (atom_opd (atom_num ['1'])) (by omega) rfl rfl

theorem overload_str {tys : List (Option Ty)} (h : strOverload tys = true) : overloadOf tys = .str := by
  unfold overloadOf
  exact if_pos h

theorem not_list_of_str {ty : Option Ty} (h : (isStrTy ty || ty == none) = true) : isListTy ty = false := by
  cases ty with
  | none => rfl
  | some x => cases x <;> simp [isStrTy, isListTy] at *

variable (isD : Char → Bool) (d : Dialect) (al : Option Str)

/-- `nm(a)` is spelt `FN(a)` -/
theorem call_fn1 {nm : String} (FN : String) (hp : funcPrec (pyLower nm.toList) = 8)
    (hw : plainWord FN.toList = true)
    (hk : ∀ args, mirrorCall' isD d al nm args =
      match args with
      | .cons a .nil => (mirror isD d al a).bind fun t => some (.call (S FN) (one t))
      | _ => none)
    (ht : ∀ a, sqlSafe d (.call ⟨nm.toList, []⟩ (.cons a .nil)) = true →
      selectTpl d nm [inferType a] = .ok (tcall FN [[.arg 0]])) :
    CallGoal isD d al nm :=
  call_unary isD d al _ hk fun a t0 p0 t tpl c0 hs hk htpl => by
    cases hk
    cases (ht a hs).symm.trans htpl
    exact tpl_call1 _ (callPrec nm _ 8 hp) FN hw c0

theorem call_tolower : CallGoal isD d al "tolower" :=
  call_fn1 isD d al "LOWER" (by decide +kernel) (by decide +kernel) (fun _ => rfl) (fun _ _ => rfl)
theorem call_toupper : CallGoal isD d al "toupper" :=
  call_fn1 isD d al "UPPER" (by decide +kernel) (by decide +kernel) (fun _ => rfl) (fun _ _ => rfl)
theorem call_trim : CallGoal isD d al "trim" :=
  call_fn1 isD d al "TRIM" (by decide +kernel) (by decide +kernel) (fun _ => rfl) (fun _ _ => rfl)

/-- `sqlSafe` leaves out the standard dialect's `CASE` templates for `floor` and `ceiling` -/
theorem call_floor : CallGoal isD d al "floor" :=
  call_fn1 isD d al "FLOOR" (by decide +kernel) (by decide +kernel) (fun _ => rfl) fun a hs => by
    have hs' : (sqlSafeList d (.cons a .nil) && (d != .std)) = true := hs
    simp only [selectTpl, if_neg (bne_iff_ne.mp (Bool.and_eq_true_iff.mp hs').2)]
theorem call_ceiling : CallGoal isD d al "ceiling" :=
  call_fn1 isD d al "CEILING" (by decide +kernel) (by decide +kernel) (fun _ => rfl) fun a hs => by
    have hs' : (sqlSafeList d (.cons a .nil) && (d != .std)) = true := hs
    simp only [selectTpl, if_neg (bne_iff_ne.mp (Bool.and_eq_true_iff.mp hs').2)]

/-- the date-part extractors: `EXTRACT(PART FROM a)`, on SQLite `CAST(STRFTIME('fmt', a) AS INTEGER)` -/
theorem call_part {nm : String} (part fmt : String) (hp : funcPrec (pyLower nm.toList) = 8)
    (hk : ∀ args, mirrorCall' isD d al nm args =
      match args with
      | .cons a .nil => (mirror isD d al a).bind fun t =>
          if d = .sqlite then some (.cast (.call (S "STRFTIME") (two (.str (S fmt)) t)) (S "INTEGER"))
          else some (.extract (S part) t)
      | _ => none)
    (ht : ∀ tys, selectTpl d nm tys = .ok (extractTpl d part fmt)) :
    CallGoal isD d al nm :=
  call_unary isD d al _ hk fun a t0 p0 t tpl c0 _ hk htpl => by
    cases (ht _).symm.trans htpl
    apply core_of_atom (callPrec nm _ 8 hp)
    by_cases hd : d = .sqlite
    · rw [if_pos hd] at hk; cases hk
      have hr := readsL_two (reads_str 0 (by omega) fmt.toList) (core_reads0 c0)
      have h1 := atom_call "STRFTIME".toList (by decide +kernel) hr
      simpa [hd, extractTpl] using atom_cast "INTEGER".toList (atom_reads0 h1)
    · rw [if_neg hd] at hk; cases hk
      simpa [hd, extractTpl] using atom_extract part.toList (core_reads0 c0)

theorem call_year : CallGoal isD d al "year" :=
  call_part isD d al "YEAR" "%Y" (by decide +kernel) (fun _ => rfl) (fun _ => rfl)
theorem call_month : CallGoal isD d al "month" :=
  call_part isD d al "MONTH" "%m" (by decide +kernel) (fun _ => rfl) (fun _ => rfl)
theorem call_day : CallGoal isD d al "day" :=
  call_part isD d al "DAY" "%d" (by decide +kernel) (fun _ => rfl) (fun _ => rfl)
theorem call_hour : CallGoal isD d al "hour" :=
  call_part isD d al "HOUR" "%H" (by decide +kernel) (fun _ => rfl) (fun _ => rfl)
theorem call_minute : CallGoal isD d al "minute" :=
  call_part isD d al "MINUTE" "%M" (by decide +kernel) (fun _ => rfl) (fun _ => rfl)

/-- `DATE(a)` on SQLite, else `CAST ( a AS DATE )` -/
theorem call_date : CallGoal isD d al "date" :=
  call_unary isD d al _ (fun _ => rfl) fun a t0 p0 t tpl c0 _ hk htpl => by
    have hp8 := callPrec "date" (.cons a .nil) 8 (by decide +kernel)
    simp only [selectTpl] at htpl
    by_cases hd : d = .sqlite
    · rw [if_pos hd] at hk htpl; cases hk; cases htpl
      exact tpl_call1 _ hp8 "DATE" (by decide +kernel) c0
    · rw [if_neg hd] at hk htpl; cases hk; cases htpl
      apply core_of_atom hp8
      simpa using atom_cast "DATE".toList (core_reads0 c0)

/-- `CAST ( a + 0.5 AS INTEGER )`, `TRUNC(a + 0.5)` on SQLite, `ROUND(a)` on Athena -/
theorem call_round : CallGoal isD d al "round" :=
  call_unary isD d al _ (fun _ => rfl) fun a t0 p0 t tpl c0 hs hk htpl => by
    have hp8 := callPrec "round" (.cons a .nil) 8 (by decide +kernel)
    have hs' : (sqlSafeList d (.cons a .nil) && (d == .athena || (decide (5 ≤ sqlPrec a) && !isConcatE a))) = true := hs
    simp only [Bool.and_eq_true, Bool.or_eq_true, beq_iff_eq, decide_eq_true_eq, Bool.not_eq_true'] at hs'
    replace hs' := hs'.2
    simp only [selectTpl] at htpl
    cases d with
    | std =>
      cases hk; cases htpl
      obtain ⟨h5, hc⟩ := hs'.resolve_left (by decide)
      apply core_of_atom hp8
      simpa using atom_cast "INTEGER".toList (opd_reads (plus_lit "0.5".toList c0 h5 hc) (Nat.zero_le 5))
    | sqlite =>
      cases hk; cases htpl
      obtain ⟨h5, hc⟩ := hs'.resolve_left (by decide)
      apply core_of_atom hp8
      have hr := readsL_one (opd_reads (plus_lit "0.5".toList c0 h5 hc) (Nat.zero_le 5))
      simpa using atom_call "TRUNC".toList (by decide +kernel) hr
    | athena =>
      cases hk; cases htpl
      exact tpl_call1 _ hp8 "ROUND" (by decide +kernel) c0

theorem call_length : CallGoal isD d al "length" :=
  call_unary isD d al _ (fun _ => rfl) fun a t0 p0 t tpl c0 _ hk htpl => by
    have hp8 := callPrec "length" (.cons a .nil) 8 (by decide +kernel)
    simp only [selectTpl, List.getD_cons_zero, show tyIsStr = isStrTy from rfl, show tyIsList = isListTy from rfl] at htpl
    by_cases hd : d = .sqlite
    · rw [if_pos hd] at hk htpl; cases hk; cases htpl
      exact tpl_call1 _ hp8 "LENGTH" (by decide +kernel) c0
    rw [if_neg hd] at hk htpl
    by_cases hty : (isStrTy (inferType a) || inferType a == none) = true
    · rw [if_pos hty] at hk htpl; cases hk; cases htpl
      exact tpl_call1 _ hp8 _ (by split <;> decide +kernel) c0
    rw [if_neg hty] at hk htpl
    by_cases hl : isListTy (inferType a) = true
    · rw [if_pos hl] at hk htpl; cases hk; cases htpl
      exact tpl_call1 _ hp8 "CARDINALITY" (by decide +kernel) c0
    · rw [if_neg hl] at hk; cases hk

/-- `a || b` -/
theorem call_concat : CallGoal isD d al "concat" :=
  call_binary isD d al (fun _ _ => true) _ (fun _ => rfl)
    fun a0 a1 t0 t1 p0 p1 t tpl c0 c1 hs _ hk htpl => by
    cases hk; cases htpl
    replace hs : (sqlSafeList d (.cons a0 (.cons a1 .nil)) && (!isArithE a0 && !isMulE a1)) = true := hs
    simp only [Bool.and_eq_true, Bool.not_eq_true'] at hs
    obtain ⟨aL, hal, hfl⟩ := wrap_opd c0 5 false 5 (by omega) wrapped_false_lt
    obtain ⟨ar, har, hfr⟩ := wrap_opd c1 5 true 6 (by omega) (fun h => wrapped_false_le h)
    refine ⟨false, fun _ => ⟨fun _ => rfl, fun h => by simp [isArithTree, isAddOp, isMulOp] at h⟩, ?_⟩
    rw [callPrec "concat" _ 5 (by decide +kernel)]
    simpa using
      opd_add ['|', '|'] (by decide) (by decide) hal (Nat.le_refl 5) har (Nat.le_refl 6)
        (by simpa [mixOk, isCatOp] using arith_flag hfl (fun _ => hs.2.1)) (cat_right_ok hfr hs.2.2)

/-- `contains`, `startswith`, `endswith`: `a LIKE` the second argument between the wildcards `pre`, `suf` -/
theorem call_like {nm : String} (pre suf : Str) (hp : funcPrec (pyLower nm.toList) = 4)
    (hk : ∀ args, mirrorCall' isD d al nm args =
      match args with
      | .cons a0 (.cons a1 .nil) =>
          if strOverload [inferType a0, inferType a1] then
            (mirror isD d al a0).bind fun t0 => (mirror isD d al a1).bind fun t1 =>
              some (.like t0 (patternOf a1 t1 pre suf).1 (patternOf a1 t1 pre suf).2)
          else none
      | _ => none)
    (ht : ∀ tys, selectTpl d nm tys = likeTpl nm pre suf tys)
    (hsafe : ∀ a0 a1, sqlSafe d (.call ⟨nm.toList, []⟩ (.cons a0 (.cons a1 .nil))) =
      (sqlSafeList d (.cons a0 (.cons a1 .nil)) && (decide (5 ≤ sqlPrec a0) && (isStrLitE a1 || !isMulE a1)))) :
    CallGoal isD d al nm :=
  call_binary isD d al _ _ hk fun a0 a1 t0 t1 p0 p1 t tpl c0 c1 hs hso hk htpl => by
    cases hk
    rw [ht, likeTpl, overload_str hso] at htpl; cases htpl
    rw [hsafe] at hs; simp only [Bool.and_eq_true, decide_eq_true_eq] at hs
    obtain ⟨-, h5, hs1⟩ := hs
    obtain ⟨aL, -, hal⟩ := c0
    refine ⟨false, flag_plain rfl rfl, ?_⟩
    rw [callPrec nm _ 4 hp]
    cases hlit : isStrLitE a1 with
    | true =>
      -- a literal pattern, with `ESCAPE '\'` if a wildcard character had to be escaped
      cases a1 <;> simp [isStrLitE] at hlit
      rename_i k raw
      cases k <;> simp at hlit
      simp only [patternOf, sqlPattern, instantiate, instItem, List.flatMap_cons, List.flatMap_nil, likeEscape_eq]
      by_cases hesc : (likeLit raw != raw) = true
      · simpa [hesc] using opd_like_esc (pre ++ likeLit raw ++ suf) ['\\'] hal h5
      · simpa [hesc] using opd_like hal h5 (atom_opd (atom_str (pre ++ likeLit raw ++ suf))) (by omega)
    | false =>
      obtain ⟨ar, har, hfr⟩ := wrap_opd c1 5 true 6 (by omega) (fun h => wrapped_false_le h)
      have hmix := cat_right_ok hfr (by simpa [hlit] using hs1)
      have hstr : ∀ s : Str, mixOk ['|', '|'] true (.str s) = true := fun s => by simp [mixOk]
      -- the pattern `'pre' || b || 'suf'` is an operand of level 5
      have hpat : ∃ ap, Opd 5 (pieceToks (sqlPattern a1 p1 pre suf)) (patternOf a1 t1 pre suf).1 ap ∧
          (patternOf a1 t1 pre suf).2 = none := by
        rw [sqlPattern_nonlit hlit, patternOf_nonlit hlit]
        by_cases hpre : pre.isEmpty = true <;> by_cases hsuf : suf.isEmpty = true
        · exact ⟨ar, by simpa [hpre, hsuf] using opd_mono har (show 5 ≤ 6 by omega), rfl⟩
        · have := opd_add ['|', '|'] (by decide) (by decide) har (show 5 ≤ 6 by omega) (atom_opd (atom_str suf)) (by omega)
            hmix (hstr _)
          exact ⟨false, by simpa [hpre, hsuf] using this, rfl⟩
        · have := opd_add ['|', '|'] (by decide) (by decide) (atom_opd (atom_str pre)) (by omega) har (Nat.le_refl 6)
            (hstr _) hmix
          exact ⟨false, by simpa [hpre, hsuf] using this, rfl⟩
        · have h1 := opd_add ['|', '|'] (by decide) (by decide) (atom_opd (atom_str pre)) (by omega) har (Nat.le_refl 6)
            (hstr _) hmix
          have := opd_add ['|', '|'] (by decide) (by decide) h1 (Nat.le_refl 5) (atom_opd (atom_str suf)) (by omega)
            rfl (hstr _)
          exact ⟨false, by simpa [hpre, hsuf] using this, rfl⟩
      obtain ⟨ap, hap, hnone⟩ := hpat
      rw [hnone]
      simpa using opd_like hal h5 hap (Nat.le_refl 5)

theorem call_contains : CallGoal isD d al "contains" :=
  call_like isD d al ['%'] ['%'] (by decide +kernel) (fun _ => rfl) (fun _ => rfl) (fun _ _ => rfl)
theorem call_startswith : CallGoal isD d al "startswith" :=
  call_like isD d al [] ['%'] (by decide +kernel) (fun _ => rfl) (fun _ => rfl) (fun _ _ => rfl)
theorem call_endswith : CallGoal isD d al "endswith" :=
  call_like isD d al ['%'] [] (by decide +kernel) (fun _ => rfl) (fun _ => rfl) (fun _ _ => rfl)

/-- `INSTR(a, b) - 1` on SQLite, else `POSITION(b IN a) - 1` -/
theorem call_indexof : CallGoal isD d al "indexof" :=
  call_binary isD d al _ _ (fun _ => rfl) fun a0 a1 t0 t1 p0 p1 t tpl c0 c1 hs hso hk htpl => by
    have hp5 := callPrec "indexof" (.cons a0 (.cons a1 .nil)) 5 (by decide +kernel)
    simp only [selectTpl, overload_str hso] at htpl
    by_cases hd : d = .sqlite
    · rw [if_pos hd] at hk htpl; cases hk; cases htpl
      refine ⟨false, flag_minus _ _ _ rfl, ?_⟩
      rw [hp5]
      have hr := readsL_two (core_reads0 c0) (core_reads0 c1)
      simpa using minus_one (atom_call "INSTR".toList (by decide +kernel) hr)
    · rw [if_neg hd] at hk htpl; cases hk; cases htpl
      replace hs : (sqlSafeList d (.cons a0 (.cons a1 .nil)) &&
        (d == .sqlite || (decide (5 ≤ sqlPrec a0) && decide (5 ≤ sqlPrec a1)))) = true := hs
      simp only [Bool.and_eq_true, Bool.or_eq_true, beq_iff_eq, decide_eq_true_eq, hd, false_or] at hs
      refine ⟨false, flag_minus _ _ _ rfl, ?_⟩
      rw [hp5]
      simpa using minus_one (atom_position (core_reads5 c1 hs.2.2) (core_reads5 c0 hs.2.1))

/-- `CARDINALITY(ARRAY_INTERSECT(a, b)) = CARDINALITY(b)`, Athena only -/
theorem call_hassubset : CallGoal isD d al "hassubset" := by
  intro args t ps ih hs hm hv
  have hd : d = .athena := by
    simp only [mirrorCall'] at hm
    split at hm
    · assumption
    · cases hm
  subst hd
  exact call_binary isD .athena al (fun _ _ => true) _ (fun _ => rfl)
    (fun a0 a1 t0 t1 p0 p1 t tpl c0 c1 _ _ hk htpl => by
      cases hk; cases htpl
      refine ⟨false, flag_bin _ _ _ _ (by decide) (by decide) (by decide), ?_⟩
      rw [callPrec "hassubset" _ 4 (by decide +kernel)]
      have hri := readsL_two (core_reads0 c0) (core_reads0 c1)
      have hrl := readsL_one (atom_reads0 (atom_call "ARRAY_INTERSECT".toList (by decide +kernel) hri))
      have hl := atom_call "CARDINALITY".toList (by decide +kernel) hrl
      have hrr := readsL_one (core_reads0 c1)
      have hr := atom_call "CARDINALITY".toList (by decide +kernel) hrr
      simpa using opd_cmp ['='] (by decide) (atom_opd hl) (by omega) (atom_opd hr) (by omega)) args t ps ih hs hm hv

/-- `DATETIME('now')` on SQLite, else `CURRENT_TIMESTAMP` -/
theorem call_now : CallGoal isD d al "now" := by
  intro args t ps ih _ hm hv
  have hn := mirrorCall'_name isD d al _ _ _ hm
  simp only [mirrorCall'] at hm
  cases args with
  | cons _ _ => cases hm
  | nil =>
    obtain ⟨items, tpl, hc, htpl, rfl⟩ := call_frame isD d al hn ih (ts := .nil) rfl hv
    cases coreRL_nil hc
    simp only [selectTpl] at htpl
    apply core_of_atom (callPrec "now" .nil 8 (by decide +kernel))
    by_cases hd : d = .sqlite
    · rw [if_pos hd] at hm htpl; cases hm; cases htpl
      exact atom_call_str "DATETIME" (by decide +kernel) "now".toList
    · rw [if_neg hd] at hm htpl; cases hm; cases htpl
      exact atom_kw "CURRENT_TIMESTAMP".toList (by decide +kernel) (by decide +kernel)

/-- strings: `SUBSTRING(a FROM b + 1 [FOR c])`, outside the standard dialect `SUBSTR(a, b + 1[, c])`;
    Athena lists: `SLICE(a, b[, c])` -/
theorem call_substring : CallGoal isD d al "substring" := by
  intro args t ps ih hs hm hv
  have hn := mirrorCall'_name isD d al _ _ _ hm
  have e1 : tyIsStr = isStrTy := rfl
  have e2 : tyIsList = isListTy := rfl
  simp only [mirrorCall'] at hm
  rcases args with _ | ⟨a0, _ | ⟨a1, _ | ⟨a2, _ | _⟩⟩⟩
  · cases hm
  · cases hm
  · have hp8 := callPrec "substring" (.cons a0 (.cons a1 .nil)) 8 (by decide +kernel)
    dsimp only at hm
    have key : ∀ t0 t1, mirror isD d al a0 = some t0 → mirror isD d al a1 = some t1 →
        ∃ p0 p1 tpl, CoreR a0 t0 p0 ∧ CoreR a1 t1 p1 ∧
          selectTpl d "substring" [inferType a0, inferType a1] = .ok tpl ∧ ps = instantiate tpl [a0, a1] [p0, p1] := by
      intro t0 t1 h0 h1
      obtain ⟨items, tpl, hcl, htpl, rfl⟩ := call_frame isD d al hn ih (ts := two t0 t1) (by simp [mirrorList, h0, h1]) hv
      obtain ⟨p0, _, rfl, c0, hcl⟩ := coreRL_cons hcl
      obtain ⟨p1, _, rfl, c1, hnil⟩ := coreRL_cons hcl
      cases coreRL_nil hnil
      exact ⟨p0, p1, tpl, c0, c1, htpl, rfl⟩
    split at hm
    · rename_i hty
      obtain ⟨t0, h0, hm⟩ := Option.bind_eq_some_iff.mp hm
      obtain ⟨t1, h1, hm⟩ := Option.bind_eq_some_iff.mp hm
      obtain ⟨p0, p1, tpl, c0, c1, htpl, rfl⟩ := key t0 t1 h0 h1
      simp [sqlSafe, not_list_of_str hty] at hs
      simp only [selectTpl, e1, e2, List.getD_cons_zero, hty, List.length_cons, List.length_nil, Bool.true_and] at htpl
      apply core_of_atom hp8
      by_cases hd : d = .std
      · simp only [hd, if_true] at hm htpl; simp at htpl; cases hm; cases htpl
        simp [hd] at hs
        simpa using atom_substring2 (core_reads5 c0 hs.2.2) (plus_one_reads 5 (Nat.le_refl 5) c1 hs.2.1.1 hs.2.1.2)
      · simp only [hd, if_false] at hm htpl; simp at htpl; cases hm; cases htpl
        have hr := readsL_two (core_reads0 c0) (plus_one_reads 0 (by omega) c1 hs.2.1.1 hs.2.1.2)
        simpa using atom_call "SUBSTR".toList (by decide +kernel) hr
    · split at hm
      · rename_i hty hl
        obtain ⟨t0, h0, hm⟩ := Option.bind_eq_some_iff.mp hm
        obtain ⟨t1, h1, hm⟩ := Option.bind_eq_some_iff.mp hm
        obtain ⟨p0, p1, tpl, c0, c1, htpl, rfl⟩ := key t0 t1 h0 h1
        simp only [Bool.and_eq_true, decide_eq_true_eq] at hl
        simp only [selectTpl, e1, e2, List.getD_cons_zero, hty, hl.1, hl.2] at htpl; simp at htpl
        cases hm; cases htpl
        apply core_of_atom hp8
        have hr := readsL_two (core_reads0 c0) (core_reads0 c1)
        simpa using atom_call "SLICE".toList (by decide +kernel) hr
      · cases hm
  · have hp8 := callPrec "substring" (.cons a0 (.cons a1 (.cons a2 .nil))) 8 (by decide +kernel)
    dsimp only at hm
    have key : ∀ t0 t1 t2, mirror isD d al a0 = some t0 → mirror isD d al a1 = some t1 → mirror isD d al a2 = some t2 →
        ∃ p0 p1 p2 tpl, CoreR a0 t0 p0 ∧ CoreR a1 t1 p1 ∧ CoreR a2 t2 p2 ∧
          selectTpl d "substring" [inferType a0, inferType a1, inferType a2] = .ok tpl ∧
          ps = instantiate tpl [a0, a1, a2] [p0, p1, p2] := by
      intro t0 t1 t2 h0 h1 h2
      obtain ⟨items, tpl, hcl, htpl, rfl⟩ :=
        call_frame isD d al hn ih (ts := three t0 t1 t2) (by simp [mirrorList, h0, h1, h2]) hv
      obtain ⟨p0, _, rfl, c0, hcl⟩ := coreRL_cons hcl
      obtain ⟨p1, _, rfl, c1, hcl⟩ := coreRL_cons hcl
      obtain ⟨p2, _, rfl, c2, hnil⟩ := coreRL_cons hcl
      cases coreRL_nil hnil
      exact ⟨p0, p1, p2, tpl, c0, c1, c2, htpl, rfl⟩
    split at hm
    · rename_i hty
      obtain ⟨t0, h0, hm⟩ := Option.bind_eq_some_iff.mp hm
      obtain ⟨t1, h1, hm⟩ := Option.bind_eq_some_iff.mp hm
      obtain ⟨t2, h2, hm⟩ := Option.bind_eq_some_iff.mp hm
      obtain ⟨p0, p1, p2, tpl, c0, c1, c2, htpl, rfl⟩ := key t0 t1 t2 h0 h1 h2
      simp [sqlSafe, not_list_of_str hty] at hs
      simp only [selectTpl, e1, e2, List.getD_cons_zero, hty, List.length_cons, List.length_nil, Bool.true_and] at htpl
      apply core_of_atom hp8
      by_cases hd : d = .std
      · simp only [hd, if_true] at hm htpl; simp at htpl; cases hm; cases htpl
        simp [hd] at hs
        simpa using atom_substring3 (core_reads5 c0 hs.2.2.1) (plus_one_reads 5 (Nat.le_refl 5) c1 hs.2.1.1 hs.2.1.2)
          (core_reads5 c2 hs.2.2.2)
      · simp only [hd, if_false] at hm htpl; simp at htpl; cases hm; cases htpl
        have hr := readsL_three (core_reads0 c0) (plus_one_reads 0 (by omega) c1 hs.2.1.1 hs.2.1.2) (core_reads0 c2)
        simpa using atom_call "SUBSTR".toList (by decide +kernel) hr
    · split at hm
      · rename_i hty hl
        obtain ⟨t0, h0, hm⟩ := Option.bind_eq_some_iff.mp hm
        obtain ⟨t1, h1, hm⟩ := Option.bind_eq_some_iff.mp hm
        obtain ⟨t2, h2, hm⟩ := Option.bind_eq_some_iff.mp hm
        obtain ⟨p0, p1, p2, tpl, c0, c1, c2, htpl, rfl⟩ := key t0 t1 t2 h0 h1 h2
        simp only [Bool.and_eq_true, decide_eq_true_eq] at hl
        simp only [selectTpl, e1, e2, List.getD_cons_zero, hty, hl.1, hl.2] at htpl; simp at htpl
        cases hm; cases htpl
        apply core_of_atom hp8
        have hr := readsL_three (core_reads0 c0) (core_reads0 c1) (core_reads0 c2)
        simpa using atom_call "SLICE".toList (by decide +kernel) hr
      · cases hm
  · simp at hm

theorem call_all : ∀ nm ∈ handlerNames, CallGoal isD d al nm := by
  simp only [handlerNames, List.forall_mem_cons, List.not_mem_nil, false_imp_iff, implies_true, and_true]
  exact ⟨call_concat isD d al, call_contains isD d al, call_startswith isD d al, call_endswith isD d al,
    call_indexof isD d al, call_length isD d al, call_substring isD d al, call_tolower isD d al, call_toupper isD d al,
    call_trim isD d al, call_year isD d al, call_month isD d al, call_day isD d al, call_hour isD d al,
    call_minute isD d al, call_date isD d al, call_now isD d al, call_round isD d al, call_floor isD d al,
    call_ceiling isD d al, call_hassubset isD d al⟩
end

section
variable (isD : Char → Bool) (d : Dialect) (al : Option Str)

def Goal (e : Expr) : Prop :=
  ∀ t ps, litOk isD d e = true → sqlSafe d e = true → mirror isD d al e = some t →
    sqlVisit isD d al e = .ok ps → CoreR e t ps

def GoalL (xs : Exprs) : Prop := litOkList isD d xs = true → sqlSafeList d xs = true → IHL isD d al xs

theorem goal_ident (i : Ident) : Goal isD d al (.ident i) := by
  intro t ps _ _ hm hv
  rw [mirror] at hm; rw [sqlVisit] at hv
  cases hm; cases hv
  apply core_of_atom rfl
  unfold colOf identPieces
  rw [athenaClean_eq]
  cases al with
  | none => simpa using atom_col _
  | some a =>
    by_cases ha : a.isEmpty = true
    · simpa [ha] using atom_col _
    · simpa [ha] using atom_qcol _ _

theorem goal_lit (k : LitKind) (v : Str) : Goal isD d al (.lit k v) := by
  intro t ps hl _ hm hv
  rw [mirror] at hm; rw [sqlVisit] at hv; rw [litOk] at hl
  cases k with
  | null => cases hm; cases hv; exact core_of_atom rfl atom_kw_null
  | int => cases hm; cases hv; exact num_core _ v
  | float => cases hm; cases hv; exact num_core _ v
  | bool =>
    simp only [litTextOk, boolText, Bool.or_eq_true, beq_iff_eq] at hl
    have hcond : (pyLower v == "true".toList) = (lowerAscii v == S "true") ∧
        pyUpper v = (if (lowerAscii v == S "true") = true then S "TRUE" else S "FALSE") := by
      rcases hl with hl | hl
      · have := bool_true v hl
        simp [this.1, this.2, hl, S]
      · have := bool_false v hl
        have h1 : (pyLower v == "true".toList) = false := by simpa using this.2
        have h2 : (lowerAscii v == S "true") = false := by simpa [S] using this.1
        rw [h1, h2]; simp [hl, S]
    simp only [litMirror, litPieces] at hm hv
    by_cases hd : d = .sqlite
    · simp only [hd, if_true, Option.some.injEq, Outcome.ok.injEq] at hm hv; subst hm hv
      apply core_of_atom rfl
      rw [hcond.1]
      exact atom_num _
    · simp only [hd, if_false, Option.some.injEq, Outcome.ok.injEq] at hm hv; subst hm hv
      apply core_of_atom rfl
      rw [hcond.2]
      split
      · exact atom_kw _ (by decide +kernel) (by decide +kernel)
      · exact atom_kw _ (by decide +kernel) (by decide +kernel)
  | str => cases hm; cases hv; exact core_of_atom rfl (atom_str v)
  | geo => cases hm
  | date =>
    cases d <;> cases hm <;> cases hv
    · exact core_of_atom rfl (atom_typed _ v (by decide +kernel) (by decide +kernel))
    · exact core_of_atom rfl (atom_call_str "DATE" (by decide +kernel) v)
    · exact core_of_atom rfl (atom_typed _ v (by decide +kernel) (by decide +kernel))
  | time =>
    cases d <;> cases hm <;> cases hv
    · exact core_of_atom rfl (atom_typed _ v (by decide +kernel) (by decide +kernel))
    · exact core_of_atom rfl (atom_call_str "TIME" (by decide +kernel) v)
    · exact core_of_atom rfl (atom_typed _ v (by decide +kernel) (by decide +kernel))
  | datetime =>
    cases d <;> cases hm <;> cases hv
    · exact core_of_atom rfl (atom_typed _ _ (by decide +kernel) (by decide +kernel))
    · exact core_of_atom rfl (atom_call_str "DATETIME" (by decide +kernel) v)
    · exact core_of_atom rfl (atom_call_str "FROM_ISO8601_TIMESTAMP" (by decide +kernel) v)
  | duration => exact duration_core isD d v t ps hm hv
  | guid => cases hm; cases hv; exact core_of_atom rfl (atom_str v)

theorem goal_attr (o : Expr) (n : Str) : Goal isD d al (.attr o n) := by
  intro t ps _ _ hm _; rw [mirror] at hm; cases hm
theorem goal_named (n : Ident) (e : Expr) : Goal isD d al (.named n e) := by
  intro t ps _ _ hm _; rw [mirror] at hm; cases hm
theorem goal_coll (o : Expr) (op : CollOp) (l : OptLam) : Goal isD d al (.coll o op l) := by
  intro t ps _ _ hm _; rw [mirror] at hm; cases hm

theorem goal_unary (op : UnOp) (e : Expr) (ih : Goal isD d al e) : Goal isD d al (.unary op e) := by
  intro t ps hl hs hm hv
  rw [mirror] at hm; rw [sqlVisit] at hv; rw [litOk] at hl; rw [sqlSafe] at hs
  obtain ⟨te, he, hm⟩ := Option.bind_eq_some_iff.mp hm
  cases hm
  obtain ⟨es, hes, hv⟩ := Outcome.bind_eq_ok hv
  cases hv
  have he := ih te es hl hs he hes
  cases op with
  | not_ =>
    obtain ⟨a, ha, -⟩ := wrap_opd he 3 false 3 (by omega) wrapped_false_lt
    exact ⟨false, flag_plain rfl rfl, by simpa [sqlPrec, S] using opd_not ha (Nat.le_refl 3)⟩
  | neg =>
    obtain ⟨a, ha, -⟩ := wrap_opd he 7 false 7 (by omega) wrapped_false_lt
    refine ⟨false, flag_plain rfl rfl, ?_⟩
    simpa [sqlPrec, S] using opd_mono (opd_neg ['-'] (by decide) ha (Nat.le_refl 7)) (show 7 ≤ 8 by omega)

theorem goal_binop (op : ArithOp) (l r : Expr) (ihl : Goal isD d al l) (ihr : Goal isD d al r) :
    Goal isD d al (.binop op l r) := by
  intro t ps hl hs hm hv
  rw [mirror] at hm; rw [sqlVisit] at hv; rw [litOk] at hl; rw [sqlSafe] at hs
  simp only [Bool.and_eq_true] at hl hs
  obtain ⟨tl, h1, hm⟩ := Option.bind_eq_some_iff.mp hm
  obtain ⟨tr, h2, hm⟩ := Option.bind_eq_some_iff.mp hm
  cases hm
  obtain ⟨ls, hls, hv⟩ := Outcome.bind_eq_ok hv
  obtain ⟨rs, hrs, hv⟩ := Outcome.bind_eq_ok hv
  cases hv
  have hr := ihr tr rs hl.2 hs.1.2 h2 hrs
  have hl := ihl tl ls hl.1 hs.1.1 h1 hls
  replace hs := hs.2
  have hflag : FlagOk false (.bin (arithName op) tl tr) (.binop op l r) :=
    fun _ => ⟨by cases op <;> simp [isCatTree, arithName, S, isCatOp], fun _ => by simp [isArithE, isBinopE]⟩
  refine ⟨false, hflag, ?_⟩
  have hadd : ∀ s : Str, (isAddOp s = true) → sqlPrec (.binop op l r) = 5 → (op == .add || op == .sub) = true →
      Opd 5 (pieceToks (wrapOperand l 5 false ls) ++ .op s :: pieceToks (wrapOperand r 5 true rs)) (.bin s tl tr) false := by
    intro s hs' _ hop
    obtain ⟨aL, hal, hfl⟩ := wrap_opd hl 5 false 5 (by omega) wrapped_false_lt
    obtain ⟨ar, har, hfr⟩ := wrap_opd hr 5 true 6 (by omega) (fun h => wrapped_false_le h)
    have hcs : isCatOp s = false := by
      simp [isAddOp] at hs'; rcases hs' with h | h <;> subst h <;> decide
    have hcm : isCmpOp s = false := by
      simp [isAddOp] at hs'; rcases hs' with h | h <;> subst h <;> decide
    refine opd_add s hcm (by simp [hs']) hal (Nat.le_refl 5) har (Nat.le_refl 6) ?_ ?_
    · simp only [mixOk, hcs, Bool.false_eq_true, if_false]
      cases aL with
      | true => rfl
      | false =>
        obtain ⟨_, hf⟩ := hfl rfl
        cases hc : isCatTree tl with
        | false => rfl
        | true =>
          have := (hf rfl).1 hc
          simp [this, hop] at hs
    · simp only [mixOk, hcs, Bool.false_eq_true, if_false]
      exact cat_flag hfr (fun h => by have := wrapped_false_le h; omega)
  have hmul : ∀ s : Str, (isMulOp s = true) → sqlPrec (.binop op l r) = 6 →
      Opd 6 (pieceToks (wrapOperand l 6 false ls) ++ .op s :: pieceToks (wrapOperand r 6 true rs)) (.bin s tl tr) false := by
    intro s hs' _
    obtain ⟨aL, hal, hfl⟩ := wrap_opd hl 6 false 6 (by omega) wrapped_false_lt
    obtain ⟨ar, har, hfr⟩ := wrap_opd hr 6 true 7 (by omega) (fun h => wrapped_false_le h)
    have hcs : (isAddOp s || isCatOp s) = false := by
      simp [isMulOp] at hs'; rcases hs' with (h | h) | h <;> subst h <;> decide
    have hcm : isCmpOp s = false := by
      simp [isMulOp] at hs'; rcases hs' with (h | h) | h <;> subst h <;> decide
    exact opd_mul s hcm hcs hs' hal (Nat.le_refl 6) har (Nat.le_refl 7)
      (cat_flag hfl (fun h => by have := wrapped_false_lt h; omega))
      (cat_flag hfr (fun h => by have := wrapped_false_le h; omega))
  cases op with
  | add => simpa [sqlPrec, arithSym, arithName, S] using hadd ['+'] (by decide) rfl rfl
  | sub => simpa [sqlPrec, arithSym, arithName, S] using hadd ['-'] (by decide) rfl rfl
  | mul => simpa [sqlPrec, arithSym, arithName, S] using hmul ['*'] (by decide) rfl
  | div => simpa [sqlPrec, arithSym, arithName, S] using hmul ['/'] (by decide) rfl
  | mod => simpa [sqlPrec, arithSym, arithName, S] using hmul ['%'] (by decide) rfl

theorem goal_boolop (op : BoolOp) (l r : Expr) (ihl : Goal isD d al l) (ihr : Goal isD d al r) :
    Goal isD d al (.boolop op l r) := by
  intro t ps hl hs hm hv
  rw [mirror] at hm; rw [sqlVisit] at hv; rw [litOk] at hl; rw [sqlSafe] at hs
  simp only [Bool.and_eq_true] at hl hs
  obtain ⟨tl, h1, hm⟩ := Option.bind_eq_some_iff.mp hm
  obtain ⟨tr, h2, hm⟩ := Option.bind_eq_some_iff.mp hm
  cases hm
  obtain ⟨ls, hls, hv⟩ := Outcome.bind_eq_ok hv
  obtain ⟨rs, hrs, hv⟩ := Outcome.bind_eq_ok hv
  cases hv
  have hr := ihr tr rs hl.2 hs.2 h2 hrs
  have hl := ihl tl ls hl.1 hs.1 h1 hls
  obtain ⟨aL, -, hal⟩ := hl
  obtain ⟨ar, -, har⟩ := hr
  -- right operand: readable at level 3
  have hR : ∃ a, Opd 3 (pieceToks (boolWrapR r rs)) tr a := by
    unfold boolWrapR
    cases hb : isBoolOp r with
    | none => exact ⟨ar, by simpa using opd_mono har (prec_ge3_of_not_bool hb)⟩
    | some ro => exact ⟨true, by simpa using opd_mono (atom_opd (atom_paren har)) (by omega)⟩
  -- left operand: readable at the level of the operator
  have hL : ∃ a, Opd (sqlPrec (.boolop op l r)) (pieceToks (boolWrapL op l ls)) tl a := by
    unfold boolWrapL
    cases hb : isBoolOp l with
    | none =>
      refine ⟨aL, ?_⟩
      have h3 := prec_ge3_of_not_bool hb
      have : sqlPrec (.boolop op l r) ≤ 3 := by cases op <;> simp [sqlPrec]
      simpa using opd_mono hal (by omega)
    | some lo =>
      by_cases hlo : lo = op
      · refine ⟨aL, ?_⟩
        have := prec_same_bool r (hlo ▸ hb)
        simpa [hlo, this] using hal
      · refine ⟨true, ?_⟩
        have h8 := sqlPrec_le (.boolop op l r)
        simpa [hlo] using opd_mono (atom_opd (atom_paren hal)) h8
  obtain ⟨a1, h1⟩ := hL
  obtain ⟨a2, h2⟩ := hR
  cases op with
  | and_ =>
    refine ⟨false, flag_bin _ _ _ _ (by decide) (by decide) (by decide), ?_⟩
    simpa [sqlPrec, S] using opd_and h1 (by simp [sqlPrec]) h2 (Nat.le_refl 3)
  | or_ =>
    refine ⟨false, flag_bin _ _ _ _ (by decide) (by decide) (by decide), ?_⟩
    simpa [sqlPrec, S] using opd_or h1 (by simp [sqlPrec]) (opd_mono h2 (show 2 ≤ 3 by omega)) (Nat.le_refl 2)

end

section
variable (isD : Char → Bool) (d : Dialect) (al : Option Str)

theorem isNullLit_inv {r : Expr} (h : isNullLit r = true) : ∃ v, r = .lit .null v := by
  cases r <;> simp [isNullLit] at h
  rename_i k v
  cases k <;> simp at h
  exact ⟨v, rfl⟩

theorem null_lit {v : Str} {t : SqlTree} {ps : List Piece} (hm : mirror isD d al (.lit .null v) = some t)
    (hv : sqlVisit isD d al (.lit .null v) = .ok ps) : t = .kw (S "NULL") ∧ ps = [w "NULL"] := by
  rw [mirror] at hm; rw [sqlVisit] at hv
  cases hm; cases hv
  exact ⟨rfl, rfl⟩

theorem goal_compare (op : CmpOp) (hop : op ≠ .in_) (l r : Expr) (ihl : Goal isD d al l) (ihr : Goal isD d al r) :
    Goal isD d al (.compare op l r) := by
  intro t ps hl hs hm hv
  rw [mirror] at hm
  rotate_left
  · intro xs h; exact absurd h hop
  · intro h; exact absurd h hop
  rw [sqlVisit] at hv; rw [litOk] at hl; rw [sqlSafe] at hs
  simp only [Bool.and_eq_true] at hl hs
  obtain ⟨tl, h1, hm⟩ := Option.bind_eq_some_iff.mp hm
  obtain ⟨tr, h2, hm⟩ := Option.bind_eq_some_iff.mp hm
  obtain ⟨ls, hls, hv⟩ := Outcome.bind_eq_ok hv
  obtain ⟨rs, hrs, hv⟩ := Outcome.bind_eq_ok hv
  by_cases hc : (isNullLit l && (op == CmpOp.eq || op == CmpOp.ne)) = true
  · -- `null eq x` / `null ne x`: operands swapped
    rw [if_pos hc] at hv
    cases hv
    simp only [Bool.and_eq_true, Bool.or_eq_true, beq_iff_eq] at hc
    obtain ⟨v, rfl⟩ := isNullLit_inv hc.1
    have cr := ihr tr rs hl.2 hs.2 h2 hrs
    obtain ⟨rfl, rfl⟩ := null_lit isD d al h1 hls
    rcases hc.2 with rfl | rfl
    · cases hm
      exact core_is_null _ rfl cr
    · cases hm
      exact core_isnot_null _ rfl cr
  rw [if_neg hc] at hv
  cases hv
  have cl := ihl tl ls hl.1 hs.1 h1 hls
  split at hm
  · exact absurd (by simp [isNullLit]) hc
  · exact absurd (by simp [isNullLit]) hc
  · -- `= null`
    cases hm
    obtain ⟨rfl, rfl⟩ := null_lit isD d al h2 hrs
    exact core_is_null _ rfl cl
  · cases hm
    obtain ⟨rfl, rfl⟩ := null_lit isD d al h2 hrs
    exact core_isnot_null _ rfl cl
  · rename_i x1 x2 x3 x4
    cases hm
    have cr := ihr tr rs hl.2 hs.2 h2 hrs
    have hn : isNullLit r = false ∨ (op ≠ .eq ∧ op ≠ .ne) := by
      cases hn : isNullLit r with
      | false => exact Or.inl rfl
      | true =>
        obtain ⟨v, rfl⟩ := isNullLit_inv hn
        exact Or.inr ⟨fun h => x3 v rfl h, fun h => x4 v rfl h⟩
    obtain ⟨aL, hal⟩ := cmp_left cl
    obtain ⟨ar, har⟩ := cmp_left cr
    have hcp : cmpPieces op r = cmpSym op := by
      unfold cmpPieces
      rcases hn with hn | hn
      · simp [hn]
      · have h1 : (op == .eq) = false := by simpa using hn.1
        have h2 : (op == .ne) = false := by simpa using hn.2
        simp [h1, h2]
    rw [hcp]
    have key : ∀ s : Str, isCmpOp s = true → isCatOp s = false → isAddOp s = false → isMulOp s = false →
        CoreR (.compare op l r) (.bin s tl tr) (wrapOperand l 4 true ls ++ sp :: [Piece.tok (.op s)] ++ sp :: wrapOperand r 4 true rs) := by
      intro s h0 h1 h2 h3
      refine ⟨false, flag_bin s _ _ _ h1 h2 h3, ?_⟩
      simpa [sqlPrec] using opd_cmp s h0 hal (Nat.le_refl 5) har (Nat.le_refl 5)
    cases op with
    | in_ => exact absurd rfl hop
    | eq => exact key ['='] (by decide) (by decide) (by decide) (by decide)
    | ne => exact key ['!', '='] (by decide) (by decide) (by decide) (by decide)
    | lt => exact key ['<'] (by decide) (by decide) (by decide) (by decide)
    | le => exact key ['<', '='] (by decide) (by decide) (by decide) (by decide)
    | gt => exact key ['>'] (by decide) (by decide) (by decide) (by decide)
    | ge => exact key ['>', '='] (by decide) (by decide) (by decide) (by decide)

theorem goal_in_none (l r : Expr) (hr : ∀ xs, r ≠ .list xs) : Goal isD d al (.compare .in_ l r) := by
  intro t ps _ _ hm _
  rw [mirror] at hm
  · cases hm
  · intro xs h; exact hr xs h

theorem goal_in (l : Expr) (xs : Exprs) (ihl : Goal isD d al l) (ihxs : GoalL isD d al xs) :
    Goal isD d al (.compare .in_ l (.list xs)) := by
  intro t ps hl hs hm hv
  rw [mirror] at hm
  rw [sqlVisit] at hv; rw [litOk, litOk] at hl; rw [sqlSafe, sqlSafe] at hs
  simp only [Bool.and_eq_true] at hl hs
  obtain ⟨tl, h1, hm⟩ := Option.bind_eq_some_iff.mp hm
  obtain ⟨ts, h2, hm⟩ := Option.bind_eq_some_iff.mp hm
  cases hm
  obtain ⟨ls, hls, hv⟩ := Outcome.bind_eq_ok hv
  obtain ⟨rs, hrs, hv⟩ := Outcome.bind_eq_ok hv
  rw [if_neg (by simp)] at hv
  cases hv
  rw [sqlVisit] at hrs
  obtain ⟨items, hitems, hrs⟩ := Outcome.bind_eq_ok hrs
  cases hrs
  have hxs := ihxs hl.2 hs.2 ts items h2 hitems
  have hl := ihl tl ls hl.1 hs.1 h1 hls
  obtain ⟨aL, hal⟩ := cmp_left hl
  refine ⟨false, flag_plain rfl rfl, ?_⟩
  simpa [sqlPrec, cmpPieces, isNullLit, wrapOperand, cmpSym, pieceToks_joinComma] using opd_in (joinT (items.map pieceToks)) ts hal (Nat.le_refl 5) (args_reads _ _ (readsL_of_core xs ts items hxs))

theorem goal_list (xs : Exprs) (ihxs : GoalL isD d al xs) : Goal isD d al (.list xs) := by
  intro t ps hl hs hm hv
  rw [sqlVisit] at hv; rw [litOk] at hl; rw [sqlSafe] at hs
  obtain ⟨items, hitems, hv⟩ := Outcome.bind_eq_ok hv
  cases hv
  apply core_of_atom rfl
  by_cases h1 : ∃ a, xs = .cons a .nil
  · -- one item: the item in parentheses, not a row
    obtain ⟨a, rfl⟩ := h1
    rw [mirror] at hm
    obtain ⟨p, _, rfl, ⟨f, -, hf⟩, hnil⟩ :=
      coreRL_cons (ihxs hl hs (.cons t .nil) items (by simp [mirrorList, hm]) hitems)
    cases coreRL_nil hnil
    simpa [joinComma] using atom_paren hf
  · rw [mirror] at hm
    rotate_left
    · exact fun a h => h1 ⟨a, h⟩
    obtain ⟨ts, h2, rfl⟩ := Option.map_eq_some_iff.mp hm
    have hc := ihxs hl hs ts items h2 hitems
    refine (by simpa [pieceToks_joinComma] using atom_row (readsL_of_core xs ts items hc) · : (∀ e, ts ≠ .cons e .nil) → _) ?_
    intro e he
    subst he
    match xs, items, hc, h1 with
    | .cons a .nil, _, _, h1 => exact h1 ⟨a, rfl⟩
    | .nil, _, hc, _ => simp [CoreRL] at hc
    | .cons _ (.cons _ _), [], hc, _ => simp [CoreRL] at hc
    | .cons _ (.cons _ _), [_], hc, _ => simp [CoreRL] at hc
    | .cons _ (.cons _ _), _ :: _ :: _, hc, _ => simp [CoreRL] at hc

theorem goalL_nil : GoalL isD d al .nil := by
  intro _ _ ts items hm hv
  rw [mirrorList] at hm; rw [sqlVisitList] at hv
  cases hm; cases hv
  trivial

theorem goalL_cons (a : Expr) (t : Exprs) (iha : Goal isD d al a) (iht : GoalL isD d al t) :
    GoalL isD d al (.cons a t) := by
  intro hl hs ts items hm hv
  rw [mirrorList] at hm; rw [sqlVisitList] at hv; rw [litOkList] at hl; rw [sqlSafeList] at hs
  simp only [Bool.and_eq_true] at hl hs
  obtain ⟨ta, h1, hm⟩ := Option.bind_eq_some_iff.mp hm
  obtain ⟨tt, h2, hm⟩ := Option.bind_eq_some_iff.mp hm
  cases hm
  obtain ⟨as, has, hv⟩ := Outcome.bind_eq_ok hv
  obtain ⟨rest, hrest, hv⟩ := Outcome.bind_eq_ok hv
  cases hv
  exact ⟨iha ta as hl.1 hs.1 h1 has, iht hl.2 hs.2 tt rest h2 hrest⟩

theorem goal_call (f : Ident) (args : Exprs) (ihargs : GoalL isD d al args) : Goal isD d al (.call f args) := by
  intro t ps hl hs hm hv
  rw [mirror] at hm
  rw [litOk] at hl
  have hsl : sqlSafeList d args = true := by
    have hs' := hs
    simp only [sqlSafe, Bool.and_eq_true] at hs'; exact hs'.1
  obtain ⟨nm, ns⟩ := f
  cases ns with
  | cons _ _ => cases hm
  | nil =>
    simp only [List.isEmpty_nil, Bool.not_true, Bool.false_eq_true, if_false] at hm
    rw [mirrorCall_eq] at hm
    generalize hn : String.ofList nm = n at hm
    obtain rfl : nm = n.toList := by simp [← hn]
    exact call_all isD d al n (mirrorCall'_name isD d al n args t hm) args t ps (ihargs hl hsl) hs hm hv

end

section
variable (isD : Char → Bool) (d : Dialect) (al : Option Str)

/-- by `Expr.induct`; for a list the induction also carries the goal of its items, which `in` needs of its right side -/
theorem core_all : (∀ e, Goal isD d al e ∧ ∀ xs, e = .list xs → GoalL isD d al xs) ∧
    (∀ xs, GoalL isD d al xs) ∧ ∀ _ : OptLam, True :=
  Expr.induct (fun i => ⟨goal_ident isD d al i, nofun⟩) (fun o n _ => ⟨goal_attr isD d al o n, nofun⟩)
    (fun k v => ⟨goal_lit isD d al k v, nofun⟩)
    (fun xs h => ⟨goal_list isD d al xs h, fun _ e => by cases e; exact h⟩)
    (fun op l r hl hr => ⟨goal_binop isD d al op l r hl.1 hr.1, nofun⟩)
    (fun op l r hl hr => ⟨by
      by_cases hop : op = .in_
      · subst hop
        by_cases hx : ∃ xs, r = .list xs
        · obtain ⟨xs, rfl⟩ := hx
          exact goal_in isD d al l xs hl.1 (hr.2 xs rfl)
        · exact goal_in_none isD d al l r fun xs h => hx ⟨xs, h⟩
      · exact goal_compare isD d al op hop l r hl.1 hr.1, nofun⟩)
    (fun op l r hl hr => ⟨goal_boolop isD d al op l r hl.1 hr.1, nofun⟩)
    (fun op e h => ⟨goal_unary isD d al op e h.1, nofun⟩) (fun n e _ => ⟨goal_named isD d al n e, nofun⟩)
    (fun f args h => ⟨goal_call isD d al f args h, nofun⟩) (fun o op l _ _ => ⟨goal_coll isD d al o op l, nofun⟩)
    (goalL_nil isD d al) (fun a t ha ht => goalL_cons isD d al a t ha.1 ht) trivial (fun _ _ _ => trivial)

theorem core : (e : Expr) → Goal isD d al e := fun e => ((core_all isD d al).1 e).1
theorem coreL : (xs : Exprs) → GoalL isD d al xs := (core_all isD d al).2.1

theorem parse_of_core (e : Expr) (t : SqlTree) (ps : List Piece) (h : CoreR e t ps) :
    sqlParse (pieceToks ps) = some t := by
  obtain ⟨a, -, ho⟩ := h
  have := ho 0 [] (t, a, []) 1 (Nat.le_refl 1) (Nat.zero_le _) rfl (evl_stop t a rfl) (sqlFuel (pieceToks ps))
    (by unfold sqlFuel; omega)
  unfold sqlParse
  rw [List.append_nil] at this
  rw [this]

end

end OQ.SqlPratt
