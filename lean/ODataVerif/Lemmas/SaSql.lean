/- For Props/C03.lean: equations of the environment model `saSql` on the nodes the visitor builds, their evaluation, and SQLite's
   LIKE with the escape character `/` (SQLAlchemy's autoescape). -/
import ODataVerif.Lemmas.SaVisit
namespace OQ.SaSound
open Spec SqliteSound SqliteLike OrmSound

theorem lift2_some {α β γ} {f : α → β → Option γ} {oa : Option α} {ob : Option β} {s : γ}
    (h : lift2 f oa ob = some s) : ∃ x y, oa = some x ∧ ob = some y ∧ f x y = some s := by
  cases oa <;> cases ob <;> simp [lift2] at h
  exact ⟨_, _, rfl, rfl, h⟩
theorem lift3_some {α β γ δ} {f : α → β → γ → Option δ} {oa : Option α} {ob : Option β} {oc : Option γ} {s : δ}
    (h : lift3 f oa ob oc = some s) : ∃ x y z, oa = some x ∧ ob = some y ∧ oc = some z ∧ f x y z = some s := by
  cases oa <;> cases ob <;> cases oc <;> simp [lift3] at h
  exact ⟨_, _, _, rfl, rfl, rfl, h⟩
theorem map_some {α β} {f : α → β} {o : Option α} {s : β} (h : o.map f = some s) : ∃ x, o = some x ∧ f x = s := by
  cases o <;> simp at h
  exact ⟨_, rfl, h⟩

/-- A binary node whose name has no clause of its own in `saSql`: a LIKE when `likePre` knows the name, else an infix operator. -/
theorem saSql_on2 (op : String) (a b : OTree) (h : op ∉ ["list", "in", "substr", "exact", "ne"]) :
    saSql (on2 op a b) =
      match likePre op with
      | some (pre, suf) =>
          (match saSql a, saSql b with
           | some x, some p =>
               (match isAutoescape op, b with
                | true, .param .str v => some (.like x (catPat pre suf (.str (saEscape v))) (some ['/']))
                | true, _ => none
                | false, _ => some (.like x (catPat pre suf p) none))
           | _, _ => none)
      | none =>
          (match saSql a, saSql b with
           | some x, some y => (binName op).map (fun o => .bin o x y)
           | _, _ => none) := by
  simp only [List.mem_cons, List.not_mem_nil, or_false, not_or] at h
  rw [on2, saSql]
  · rfl
  · exact h.1
  · exact fun _ h' _ => h.2.1 h'
  · exact h.2.2.1
  · exact h.2.2.2.1
  · exact h.2.2.2.2

theorem saSql_bin (op : String) (a b : OTree) (r : Option Str) (h : op ∉ ["list", "in", "substr", "exact", "ne"])
    (hl : likePre op = none) (hn : binName op = r) :
    saSql (on2 op a b) = lift2 (fun x y => r.map (fun o => .bin o x y)) (saSql a) (saSql b) := by
  rw [saSql_on2 op a b h, hl, hn]
  cases saSql a <;> cases saSql b <;> rfl

theorem saSql_arith (op : ArithOp) (a b : OTree) : saSql (on2 (OQ.arithName op) a b) =
    lift2 (fun x y => if op = .div then none else some (.bin (Spec.arithName op) x y)) (saSql a) (saSql b) := by
  rw [saSql_bin (OQ.arithName op) a b (if op = .div then none else some (Spec.arithName op))
    (by cases op <;> decide +kernel) (by cases op <;> decide +kernel) (by cases op <;> decide +kernel)]
  cases op <;> rfl

theorem saSql_exact (a b : OTree) : saSql (on2 "exact" a b) =
    lift2 (fun x y => if isNullConst b then some (.bin "IS".toList x y) else if isNullConst a then some (.bin "IS".toList y x)
      else some (.bin "=".toList x y)) (saSql a) (saSql b) := by
  rw [on2, saSql]
  cases saSql a <;> cases saSql b <;> rfl
theorem saSql_ne (a b : OTree) : saSql (on2 "ne" a b) =
    lift2 (fun x y => if isNullConst b then some (.bin "ISNOT".toList x y) else if isNullConst a then some (.bin "ISNOT".toList y x)
      else some (.bin "!=".toList x y)) (saSql a) (saSql b) := by
  rw [on2, saSql]
  cases saSql a <;> cases saSql b <;> rfl
theorem saSql_cmp (k : CmpK) (a b : OTree) (ha : isNullConst a = false) (hb : isNullConst b = false) :
    saSql (on2 (cmpLookup k.toOp) a b) = lift2 (fun x y => some (.bin (cmpName k.toOp) x y)) (saSql a) (saSql b) := by
  cases k
  · show saSql (on2 "exact" a b) = _
    rw [saSql_exact, ha, hb]; rfl
  · show saSql (on2 "ne" a b) = _
    rw [saSql_ne, ha, hb]; rfl
  all_goals exact saSql_bin _ a b (some (cmpName _)) (by decide +kernel) (by decide +kernel) (by decide +kernel)
theorem saSql_substr2 (a b : OTree) : saSql (on2 "substr" a b) = lift2 (fun x y => some (call2 "SUBSTR" x y)) (saSql a) (saSql b) := by
  rw [on2, saSql]
  cases saSql a <;> cases saSql b <;> rfl
theorem saSql_substr3 (a b c : OTree) : saSql (on3 "substr" a b c) = lift3 (fun x y z => some (call3 "SUBSTR" x y z)) (saSql a) (saSql b) (saSql c) := by
  rw [on3, saSql]
  cases saSql a <;> cases saSql b <;> cases saSql c <;> rfl
theorem saSql_in (a : OTree) (items : OTrees) : saSql (on2 "in" a (.node "list" items)) = lift2 (fun x xs => some (.inl x xs)) (saSql a) (saSqlList items) := by
  rw [on2, saSql]
  cases saSql a <;> cases saSqlList items <;> rfl
theorem saSql_strpos (a b : OTree) : saSql (on2 "strpos" a b) = none := by
  rw [saSql_bin "strpos" a b none (by decide +kernel) (by decide +kernel) (by decide +kernel)]
  cases saSql a <;> cases saSql b <;> rfl
theorem saSql_concat (a b : OTree) : saSql (.node "concat" (.cons a (.cons b .nil))) = none := by
  rw [← on2, saSql_bin "concat" a b none (by decide +kernel) (by decide +kernel) (by decide +kernel)]
  cases saSql a <;> cases saSql b <;> rfl
theorem saSql_bool (op : BoolOp) (a b : OTree) : saSql (on2 (if op == .and_ then "and" else "or") a b) =
    lift2 (fun x y => some (.bin (if op == .and_ then "AND".toList else "OR".toList) x y)) (saSql a) (saSql b) := by
  cases op <;>
    exact saSql_bin _ a b (some _) (by decide +kernel) (by decide +kernel) (by decide +kernel)
theorem saSql_like (k : LikeK) (a b : OTree) : saSql (on2 k.name a b) = lift2 (fun x p => some (.like x (catPat (preOf k) (sufOf k) p) none)) (saSql a) (saSql b) := by
  rw [saSql_on2 _ a b (by cases k <;> decide +kernel), show likePre k.name = some (preOf k, sufOf k) by cases k <;> decide +kernel,
    show isAutoescape k.name = false by cases k <;> decide +kernel]
  cases saSql a <;> cases saSql b <;> rfl
theorem saSql_like_esc (k : LikeK) (a : OTree) (v : Str) : saSql (on2 (k.name ++ "_autoescape") a (.param .str v)) = 
   (saSql a).map (fun x => .like x (catPat (preOf k) (sufOf k) (.str (saEscape v))) (some ['/'])) := by
  rw [saSql_on2 _ a _ (by cases k <;> decide +kernel),
    show likePre (k.name ++ "_autoescape") = some (preOf k, sufOf k) by cases k <;> decide +kernel,
    show isAutoescape (k.name ++ "_autoescape") = true by cases k <;> decide +kernel]
  cases saSql a <;> rfl
theorem saSql_un (a : OTree) : saSql (on1 "not" a) = (saSql a).map (fun x => .un "NOT".toList x) := by rw [on1, saSql]
theorem saSql_length (a : OTree) : saSql (on1 "char_length" a) = (saSql a).map (call1 "LENGTH") := by rw [on1, saSql]
theorem saSql_lower (a : OTree) : saSql (on1 "lower" a) = (saSql a).map (call1 "LOWER") := by rw [on1, saSql]
theorem saSql_upper (a : OTree) : saSql (on1 "upper" a) = (saSql a).map (call1 "UPPER") := by rw [on1, saSql]
theorem saSql_trim (a : OTree) : saSql (on1 "ltrim" (on1 "rtrim" a)) = (saSql a).map (call1 "TRIM") := by rw [on1, on1, saSql]
theorem saSql_plus1 (a : OTree) : saSql (on2 "+" a (.pint 1)) = (saSql a).map (fun x => .bin "+".toList x (.num ['1'])) := by
  refine (saSql_arith .add a (.pint 1)).trans ?_
  cases saSql a <;> rfl
theorem saSql_indexof (a b : OTree) : saSql (on2 "-" (on2 "strpos" a b) (.pint 1)) = none := by
  refine (saSql_arith .sub (on2 "strpos" a b) (.pint 1)).trans ?_
  rw [saSql_strpos]; rfl
theorem saSql_param (k : LitKind) (v : Str) : saSql (.param k v) = paramTree k v := rfl
theorem saSql_col (c : Str) : saSql (.col [c]) = some (.col none c) := rfl
theorem saSqlList_nil : saSqlList .nil = some .nil := rfl
theorem saSqlList_cons (h : OTree) (t : OTrees) : saSqlList (.cons h t) =
    lift2 (fun x xs => some (.cons x xs)) (saSql h) (saSqlList t) := by
  rw [saSqlList]
  cases saSql h <;> cases saSqlList t <;> rfl
theorem saSql_isNull (c : Str) : saSql (on2 "exact" (.col [c]) (.const "NULL")) =
    some (.bin (S "IS") (.col none c) (.kw (S "NULL"))) := by rw [saSql_exact]; rfl
theorem saSql_isNotNull (c : Str) : saSql (on2 "ne" (.col [c]) (.const "NULL")) =
    some (.bin (S "ISNOT") (.col none c) (.kw (S "NULL"))) := by rw [saSql_ne]; rfl

theorem isNullConst_of_not_const {t : OTree} (h : isConstT t = false) : isNullConst t = false := by
  cases t <;> simp_all [isConstT, isNullConst]

theorem patItems_saEscape_append (n suf : Str) :
    patItems (some '/') (saEscape n ++ suf) = n.map PatItem.ch ++ patItems (some '/') suf := by
  induction n with
  | nil => simp [saEscape]
  | cons c t ih =>
    by_cases hc : (c == '%' || c == '_' || c == '/') = true
    · simp only [saEscape, hc, if_true, List.cons_append, patItems_esc, ih, List.map_cons]
    · have hc' := hc
      simp at hc'
      have he : (some '/' : Option Char) ≠ some c := by
        intro h; injection h with h; exact hc'.2 h.symm
      simp only [saEscape, hc, List.cons_append, List.map_cons]
      rw [if_neg (by simp), List.cons_append, patItems_cons_ch _ _ _ he hc'.1.1 hc'.1.2, ih]

theorem sqliteLike_sa_esc (k : LikeK) (h n : Str) :
    sqliteLike (preOf k ++ saEscape n ++ sufOf k) h (some '/') = likeCI k h n :=
  sqliteLike_of_items k h n _ _ (by decide) (patItems_saEscape_append n)

theorem noMeta_of_not_needsEscape (n : Str) (h : litNeedsEscape (.lit .str n) = false) : hasLikeMeta n = false := by
  simp only [litNeedsEscape, List.any_eq_false] at h
  simp only [hasLikeMeta, Bool.or_eq_false_iff, List.contains_eq_mem, decide_eq_false_iff_not]
  constructor
  · intro hm; have := h _ hm; simp at this
  · intro hm; have := h _ hm; simp at this

section
variable (ρ : Row)

theorem eval_like_sa_esc (k : LikeK) (t0 : SqlTree) (x : Option Str) (n : Str) (h0 : sqlEval ρ t0 = some (valS x)) :
    sqlEval ρ (.like t0 (catPat (preOf k) (sufOf k) (.str (saEscape n))) (some ['/'])) =
      some (v3ToVal (cmp2 (likeCI k) x (some n))) :=
  eval_like ρ (some '/') (fun n => preOf k ++ saEscape n ++ sufOf k) _ h0
    (eval_catPat ρ k (.str (saEscape n)) (some (saEscape n)) (eval_str ρ _))
    fun h n' _ hn => by cases hn; exact sqliteLike_sa_esc k h n

theorem eval_like_sa (k : LikeK) (t0 t1 : SqlTree) (x y : Option Str)
    (h0 : sqlEval ρ t0 = some (valS x)) (h1 : sqlEval ρ t1 = some (valS y))
    (hm : ∀ h n, x = some h → y = some n → hasLikeMeta n = false) :
    sqlEval ρ (.like t0 (catPat (preOf k) (sufOf k) t1) none) = some (v3ToVal (cmp2 (likeCI k) x y)) :=
  eval_like ρ none _ _ h0 (eval_catPat ρ k t1 y h1) fun h n hx hy => sqliteLike_computed k h n (hm h n hx hy)
end

end OQ.SaSound
