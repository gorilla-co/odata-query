/-
  Lemmas/SqliteLike.lean — SQLite's LIKE on the patterns the dialect emits for contains / startswith / endswith
  is the case-insensitive reading `likeCI` of the three functions.
-/
import ODataVerif.Spec.ODataElab
import ODataVerif.Spec.SqlMirror
namespace OQ.SqliteLike
open Spec

theorem patItems_cons_ch (e : Option Char) (c : Char) (t : Str) (he : e ≠ some c) (h1 : c ≠ '%')
    (h2 : c ≠ '_') : patItems e (c :: t) = PatItem.ch c :: patItems e t := by
  rw [patItems.eq_def]
  simp [he, h1, h2]

theorem patItems_pct (e : Option Char) (he : e ≠ some '%') (t : Str) :
    patItems e ('%' :: t) = PatItem.any :: patItems e t := by
  rw [patItems.eq_def]
  simp [he]

theorem patItems_nil (e : Option Char) : patItems e [] = [] := by rw [patItems]

theorem patItems_esc (e x : Char) (t : Str) :
    patItems (some e) (e :: x :: t) = PatItem.ch x :: patItems (some e) t := by
  rw [patItems.eq_def]
  simp

theorem patItems_likeLit_append (n suf : Str) :
    patItems (some '\\') (likeLit n ++ suf) = n.map PatItem.ch ++ patItems (some '\\') suf := by
  induction n with
  | nil => simp [likeLit]
  | cons c t ih =>
    by_cases hc : (c == '\\' || c == '%' || c == '_') = true
    · simp only [likeLit, hc, if_true, List.cons_append, patItems_esc, ih, List.map_cons]
    · have hc' := hc
      simp at hc'
      have he : (some '\\' : Option Char) ≠ some c := by
        intro h; injection h with h; exact hc'.1.1 h.symm
      simp only [likeLit, hc, List.cons_append, List.map_cons]
      rw [if_neg (by simp), List.cons_append, patItems_cons_ch _ _ _ he hc'.1.2 hc'.2, ih]

theorem patItems_none_plain (y suf : Str) (h : ∀ c ∈ y, c ≠ '%' ∧ c ≠ '_') :
    patItems none (y ++ suf) = y.map PatItem.ch ++ patItems none suf := by
  induction y with
  | nil => simp
  | cons c t ih =>
    have hc := h c (by simp)
    have ht : ∀ d ∈ t, d ≠ '%' ∧ d ≠ '_' := fun d hd => h d (by simp [hd])
    rw [List.cons_append, patItems_cons_ch _ _ _ (by simp) hc.1 hc.2, ih ht]; rfl

theorem length_le_likeLit (n : Str) : n.length ≤ (likeLit n).length := by
  induction n with
  | nil => simp [likeLit]
  | cons c t ih =>
    simp only [likeLit]
    split <;> simp <;> omega

theorem plain_of_likeLit_eq (n : Str) (h : likeLit n = n) :
    ∀ c ∈ n, c ≠ '\\' ∧ c ≠ '%' ∧ c ≠ '_' := by
  induction n with
  | nil => simp
  | cons c t ih =>
    simp only [likeLit] at h
    split at h
    · exfalso
      have := congrArg List.length h
      have := length_le_likeLit t
      simp at *
      omega
    · rename_i hc
      simp at hc
      have ht : likeLit t = t := by simpa using h
      intro d hd
      simp at hd
      rcases hd with rfl | hd
      · exact ⟨hc.1.1, hc.1.2, hc.2⟩
      · exact ih ht d hd

theorem patItems_none_of_likeLit_eq (n suf : Str) (h : likeLit n = n) :
    patItems none (n ++ suf) = n.map PatItem.ch ++ patItems none suf :=
  patItems_none_plain n suf (fun c hc => (plain_of_likeLit_eq n h c hc).2)

theorem plain_of_noMeta (y : Str) (h : hasLikeMeta y = false) : ∀ c ∈ y, c ≠ '%' ∧ c ≠ '_' := by
  intro c hc
  simp [hasLikeMeta] at h
  constructor
  · rintro rfl; exact h.1 hc
  · rintro rfl; exact h.2 hc

theorem patItems_none_noMeta (y suf : Str) (h : hasLikeMeta y = false) :
    patItems none (y ++ suf) = y.map PatItem.ch ++ patItems none suf :=
  patItems_none_plain y suf (plain_of_noMeta y h)

theorem likeItems_any_nil (ci : Bool) (s : Str) : likeItems ci [PatItem.any] s = true := by
  induction s with
  | nil => simp [likeItems]
  | cons c t ih => rw [likeItems]; simp [ih]

theorem likeItems_any_iff (p : List PatItem) (h : Str) :
    likeItems true (PatItem.any :: p) h = true ↔
      ∃ k, k ≤ h.length ∧ likeItems true p (h.drop k) = true := by
  induction h with
  | nil =>
    rw [likeItems]
    constructor
    · intro h; exact ⟨0, by simp, by simpa using h⟩
    · rintro ⟨k, _, hk⟩; simpa using hk
  | cons c t ih =>
    rw [likeItems, Bool.or_eq_true, ih]
    constructor
    · rintro (h | ⟨k, hk, h⟩)
      · exact ⟨0, by simp, by simpa using h⟩
      · exact ⟨k + 1, by simp; omega, by simpa using h⟩
    · rintro ⟨k, hk, h⟩
      cases k with
      | zero => left; simpa using h
      | succ k => right; exact ⟨k, by simp at hk; omega, by simpa using h⟩

theorem likeItems_ch_append (n : Str) (p : List PatItem) (h : Str) :
    likeItems true (n.map PatItem.ch ++ p) h = true ↔
      isPrefix (n.map foldA) (h.map foldA) = true ∧ likeItems true p (h.drop n.length) = true := by
  induction n generalizing h with
  | nil => simp [isPrefix]
  | cons a n ih =>
    cases h with
    | nil => simp [likeItems, isPrefix]
    | cons c t =>
      simp only [List.map_cons, List.cons_append, isPrefix, List.length_cons, List.drop_succ_cons]
      rw [likeItems]
      simp only [if_true, Bool.and_eq_true, ih, and_assoc]

theorem isPrefix_iff (a b : Str) : isPrefix a b = true ↔ ∃ t, b = a ++ t := by
  induction a generalizing b with
  | nil => simp [isPrefix]
  | cons x a ih =>
    cases b with
    | nil => simp [isPrefix]
    | cons y b =>
      simp only [isPrefix, Bool.and_eq_true, beq_iff_eq, ih, List.cons_append, List.cons.injEq]
      constructor
      · rintro ⟨rfl, t, rfl⟩; exact ⟨t, rfl, rfl⟩
      · rintro ⟨t, rfl, rfl⟩; exact ⟨rfl, t, rfl⟩

theorem likeItems_ch_exact (n h : Str) :
    likeItems true (n.map PatItem.ch) h = true ↔ h.map foldA = n.map foldA := by
  have := likeItems_ch_append n [] h
  rw [List.append_nil] at this
  rw [this, isPrefix_iff]
  rw [likeItems]
  simp only [List.isEmpty_iff]
  constructor
  · rintro ⟨⟨t, ht⟩, hd⟩
    have hl := congrArg List.length ht
    have hd' := congrArg List.length hd
    simp at hl hd'
    have : t = [] := by
      apply List.eq_nil_of_length_eq_zero; omega
    subst this; simpa using ht
  · intro he
    refine ⟨⟨[], by simpa using he⟩, ?_⟩
    have hl := congrArg List.length he
    simp at hl
    apply List.eq_nil_of_length_eq_zero
    simp; omega

theorem likeItems_startswith (h n : Str) :
    likeItems true (n.map PatItem.ch ++ [PatItem.any]) h = likeCI .startswith h n := by
  rw [Bool.eq_iff_iff, likeItems_ch_append]
  simp [likeItems_any_nil, likeCI, likeSem]

theorem indexOfAux_nonneg_iff (N H : Str) (i : Nat) :
    indexOfAux N H i ≥ 0 ↔ ∃ k, k ≤ H.length ∧ isPrefix N (H.drop k) = true := by
  induction H generalizing i with
  | nil =>
    cases N with
    | nil => simp [indexOfAux, isPrefix]
    | cons a N => simp [indexOfAux, isPrefix]
  | cons c t ih =>
    rw [indexOfAux]
    by_cases hp : isPrefix N (c :: t) = true
    · simp only [hp, if_true]
      constructor
      · intro _; exact ⟨0, by simp, by simpa using hp⟩
      · intro _; omega
    · rw [if_neg hp, ih]
      constructor
      · rintro ⟨k, hk, h⟩; exact ⟨k + 1, by simp; omega, by simpa using h⟩
      · rintro ⟨k, hk, h⟩
        cases k with
        | zero => exact absurd (by simpa using h) hp
        | succ k => exact ⟨k, by simp at hk; omega, by simpa using h⟩

theorem containsStr_iff (H N : Str) :
    containsStr H N = true ↔ ∃ k, k ≤ H.length ∧ isPrefix N (H.drop k) = true := by
  unfold containsStr indexOf
  rw [decide_eq_true_iff]
  exact indexOfAux_nonneg_iff N H 0

theorem likeItems_contains (h n : Str) :
    likeItems true (PatItem.any :: (n.map PatItem.ch ++ [PatItem.any])) h = likeCI .contains h n := by
  rw [Bool.eq_iff_iff, likeItems_any_iff]
  simp only [likeCI, likeSem, containsStr_iff, likeItems_ch_append, likeItems_any_nil, and_true,
    List.length_map, List.map_drop]

theorem endsWith_iff (H N : Str) :
    endsWith H N = true ↔ ∃ k, k ≤ H.length ∧ H.drop k = N := by
  unfold endsWith
  rw [isPrefix_iff]
  constructor
  · rintro ⟨t, ht⟩
    have : H = t.reverse ++ N := by
      have := congrArg List.reverse ht
      simpa using this
    subst this
    exact ⟨t.reverse.length, by simp, by simp⟩
  · rintro ⟨k, hk, rfl⟩
    refine ⟨(H.take k).reverse, ?_⟩
    rw [← List.reverse_append, List.take_append_drop]

theorem likeItems_endswith (h n : Str) :
    likeItems true (PatItem.any :: n.map PatItem.ch) h = likeCI .endswith h n := by
  rw [Bool.eq_iff_iff, likeItems_any_iff]
  simp only [likeCI, likeSem, endsWith_iff, likeItems_ch_exact, List.length_map, List.map_drop]

def preOf : LikeK → Str | .contains => ['%'] | .startswith => [] | .endswith => ['%']
def sufOf : LikeK → Str | .contains => ['%'] | .startswith => ['%'] | .endswith => []

theorem sqliteLike_of_items (k : LikeK) (h n pat : Str) (esc : Option Char) (hne : esc ≠ some '%')
    (hp : ∀ suf, patItems esc (pat ++ suf) = n.map PatItem.ch ++ patItems esc suf) :
    sqliteLike (preOf k ++ pat ++ sufOf k) h esc = likeCI k h n := by
  cases k <;>
    simp only [sqliteLike, preOf, sufOf, List.cons_append, List.nil_append, patItems_pct _ hne, hp, patItems_nil]
  · exact likeItems_contains h n
  · exact likeItems_startswith h n
  · simpa using likeItems_endswith h n

theorem sqliteLike_lit_esc (k : LikeK) (h n : Str) :
    sqliteLike (preOf k ++ likeLit n ++ sufOf k) h (some '\\') = likeCI k h n :=
  sqliteLike_of_items k h n _ _ (by decide) (patItems_likeLit_append n)

theorem sqliteLike_plain (k : LikeK) (h y : Str) (hy : ∀ c ∈ y, c ≠ '%' ∧ c ≠ '_') :
    sqliteLike (preOf k ++ y ++ sufOf k) h none = likeCI k h y :=
  sqliteLike_of_items k h y _ _ (by decide) fun suf => patItems_none_plain y suf hy

theorem sqliteLike_lit_noesc (k : LikeK) (h n : Str) (hn : likeLit n = n) :
    sqliteLike (preOf k ++ n ++ sufOf k) h none = likeCI k h n :=
  sqliteLike_plain k h n (fun c hc => (plain_of_likeLit_eq n hn c hc).2)

theorem sqliteLike_computed (k : LikeK) (h y : Str) (hy : hasLikeMeta y = false) :
    sqliteLike (preOf k ++ y ++ sufOf k) h none = likeCI k h y :=
  sqliteLike_plain k h y (plain_of_noMeta y hy)

end OQ.SqliteLike
