/-
  Lemmas/ParseImage.lean — the parser preserves token payload guarantees: if every literal / identifier
  token has a payload of the guaranteed shape, the accepted tree satisfies `litOk` and `durOk` (`shapes`, an
  instance of `ParseInv`).
-/
import ODataVerif.Model.Lexer
import ODataVerif.Model.Parser
import ODataVerif.Model.SqlPieces
import ODataVerif.Lemmas.SqlTotal
import ODataVerif.Lemmas.ParseInduct
namespace OQ.ParseImage
open SqlTotal

theorem athenaClean_noquote (n : Str) : (athenaClean n).contains '"' = false := by
  apply Bool.eq_false_iff.mpr
  intro hc
  rw [List.contains_iff_mem] at hc
  unfold athenaClean at hc
  rw [List.mem_flatMap] at hc
  obtain ⟨c, _, hc⟩ := hc
  split at hc
  · revert hc; decide
  · dsimp only at hc
    split at hc
    · rename_i hw
      simp only [List.mem_singleton] at hc
      rw [← hc] at hw
      revert hw; decide
    · revert hc; decide

theorem nameOk_of (d : Dialect) (n : Str) (h : n.contains '"' = false) : nameOk d n = true := by
  unfold nameOk
  split
  · rw [athenaClean_noquote]; rfl
  · rw [h]; rfl

section
variable (isD : Char → Bool) (d : Dialect)

def Inv (e : Expr) : Prop := litOk isD d e = true ∧ durOk isD e = true
def InvL (xs : Exprs) : Prop := litOkList isD d xs = true ∧ durOkList isD xs = true
def InvLam (l : OptLam) : Prop := durOkLam isD l = true

theorem invL_snoc : ∀ (acc : Exprs) (e : Expr), InvL isD d acc → Inv isD d e → InvL isD d (acc.snoc e)
  | .nil, e, ha, he => by
    simp only [Exprs.snoc, InvL, litOkList, durOkList, Bool.and_true]
    exact he
  | .cons h t, e, ha, he => by
    simp only [Exprs.snoc, InvL, litOkList, durOkList, Bool.and_eq_true] at ha ⊢
    have := invL_snoc t e ⟨ha.1.2, ha.2.2⟩ he
    exact ⟨⟨ha.1.1, this.1⟩, ha.2.1, this.2⟩

theorem litOk_foldl (names : List Str) : ∀ base : Expr,
    litOk isD d (names.foldl (fun o n => .attr o n) base) = litOk isD d base := by
  induction names with
  | nil => intro base; rfl
  | cons n ns ih => intro base; simp only [List.foldl_cons]; rw [ih]; simp only [litOk]

theorem durOk_foldl (names : List Str) : ∀ base : Expr,
    durOk isD (names.foldl (fun o n => .attr o n) base) = durOk isD base := by
  induction names with
  | nil => intro base; rfl
  | cons n ns ih => intro base; simp only [List.foldl_cons]; rw [ih]; simp only [durOk]

theorem pathCons_inv (i : Ident) (tail e : Expr) (hi : i.name.contains '"' = false)
    (ht : Inv isD d tail) (h : pathCons i tail = .ok e) : Inv isD d e := by
  have hn := nameOk_of d i.name hi
  unfold pathCons at h
  split at h
  · split at h
    · simp only [rebuildPath] at h
      cases h
      simp only [Inv, litOk_foldl, durOk_foldl, litOk, durOk, hn, and_self]
    · cases h
  · rename_i owner op lam
    have hl : durOkLam isD lam = true := by
      have := ht.2; simp only [durOk, Bool.and_eq_true] at this; exact this.2
    split at h
    · split at h
      · simp only [rebuildPath] at h
        cases h
        simp only [Inv, litOk_foldl, durOk_foldl, litOk, durOk, hn, hl, Bool.and_self, and_self]
      · cases h
    · cases h
      simp only [Inv, litOk, durOk, hn, hl, Bool.and_self, and_self]
    · cases h
  · cases h
    simp only [Inv, litOk, durOk, hn, and_self]
  · cases h

theorem inv_single (e : Expr) (he : Inv isD d e) : InvL isD d (.cons e .nil) := by
  simp only [InvL, litOkList, durOkList, Bool.and_true]; exact he

theorem inv_list (xs : Exprs) (h : InvL isD d xs) : Inv isD d (.list xs) := by
  simp only [Inv, litOk, durOk]; exact h

theorem inv_bin (l r : Expr) (hl : Inv isD d l) (hr : Inv isD d r) :
    (∀ o, Inv isD d (.boolop o l r)) ∧ (∀ o, Inv isD d (.compare o l r)) ∧ (∀ o, Inv isD d (.binop o l r)) := by
  simp only [Inv, litOk, durOk, Bool.and_eq_true]
  exact ⟨fun _ => ⟨⟨hl.1, hr.1⟩, hl.2, hr.2⟩, fun _ => ⟨⟨hl.1, hr.1⟩, hl.2, hr.2⟩, fun _ => ⟨⟨hl.1, hr.1⟩, hl.2, hr.2⟩⟩

theorem call_inv (f args) (rest : List Tok) (ha : InvL isD d args) :
    Res (fun e _ => Inv isD d e) (fun _ => True) (liftOutcome (functionCall f args) rest) := by
  unfold functionCall functionCallWith
  split
  · split
    · trivial
    · split
      · trivial
      · simp only [liftOutcome, Res_ok, Inv, litOk, durOk]; exact ha
  · simp only [liftOutcome, Res_ok, Inv, litOk, durOk]; exact ha

variable (ok : Tok → Bool)
variable (hlit : ∀ k v, ok (.lit k v) = true → litTextOk isD k v = true ∧ durLitOk isD k v = true)
variable (hid : ∀ i : Ident, ok (.ident i) = true → i.name.contains '"' = false)

/-- every token read satisfies `ok`; every tree, item list and lambda returned satisfies `litOk` and `durOk` -/
def shapes : ParseInv where
  K t := ok t = true
  Q _ := True
  E := Inv isD d
  L := Inv isD d
  Items := InvL isD d
  Named := InvL isD d
  Path := Inv isD d
  Lam := InvLam isD
  err _ _ := trivial
  lit k v h := by simp only [Inv, litOk, durOk]; exact hlit k v h
  unary _ _ h := by simp only [Inv, litOk, durOk]; exact h
  boolop o l r hl hr := (inv_bin isD d l r hl hr).1 o
  binop o l r hl hr := (inv_bin isD d l r hl hr).2.2 o
  compare o l r _ hl hr := (inv_bin isD d l r hl hr).2.1 o
  isIn l r hl hr := (inv_bin isD d l r hl hr).2.1 _
  list := inv_list isD d
  ofList _ h := h
  one := inv_single isD d
  snoc := invL_snoc isD d
  named n e _ he := by simp only [InvL, litOkList, durOkList, litOk, durOk, Bool.and_true]; exact he
  namedSnoc acc n e _ ha he := invL_snoc isD d _ _ ha (by simp only [Inv, litOk, durOk]; exact he)
  call f args _ ha rest := call_inv isD d f args rest (by
    rcases ha with rfl | h | h
    · exact ⟨rfl, rfl⟩
    · exact h
    · exact h)
  pathIdent i hi := by simp only [Inv, litOk, durOk, nameOk_of d i.name (hid i hi), and_self]
  pathCons i tl hi ht rest := by
    cases hp : pathCons i tl with
    | ok e => exact pathCons_inv isD d i tl e (hid i hi) ht hp
    | _ => trivial
  pathAny i hi := by simp only [Inv, litOk, durOk, durOkLam, nameOk_of d i.name (hid i hi), Bool.and_self, and_self]
  pathColl i op lam hi h := by
    simp only [Inv, litOk, durOk, nameOk_of d i.name (hid i hi), Bool.true_and, true_and]; exact h
  ofPath _ h := h
  lam _ _ _ h := by simp only [InvLam, durOkLam]; exact h.2

end

theorem parseToks_litOk (isD : Char → Bool) (ok : Tok → Bool)
    (hlit : ∀ k v, ok (.lit k v) = true → litTextOk isD k v = true ∧ SqlTotal.durLitOk isD k v = true)
    (hid : ∀ i : Ident, ok (.ident i) = true → i.name.contains '"' = false)
    (d : Dialect) (lexErr : Option Nat) (ts : List Tok) (e : Expr)
    (hts : ts.all ok = true) (h : parseToks lexErr ts = .ok e) :
    litOk isD d e = true ∧ SqlTotal.durOk isD e = true :=
  (shapes isD d ok hlit hid).parseToks (List.all_eq_true.mp hts) h

end OQ.ParseImage
