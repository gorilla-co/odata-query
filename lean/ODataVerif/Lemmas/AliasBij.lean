import ODataVerif.Props.C14
namespace OQ.AliasBij
open OQ OQ.Spec OQ.C14

def isNode : Tree → Bool
  | .node _ _ => true
  | _ => false

theorem subst_nonnode (m : List (Tree × Tree)) (b : List Tree) (t : Tree) (h : isNode t = false) :
    subst m b t = t := by
  cases t <;> first | rfl | cases h

theorem isNode_shape {t : Tree} (h : isNode t = true) : ∃ k fs, t = .node k fs := by
  cases t <;> first | exact ⟨_, _, rfl⟩ | cases h

def IdentTable (m : List (Tree × Tree)) : Prop := ∀ kv ∈ m, ∃ s s', kv = (mkIdent s, mkIdent s')

theorem lookup_some_mem (m : List (Tree × Tree)) (n r : Tree) (h : lookupRepl m n = some r) : (n, r) ∈ m := by
  induction m with
  | nil => cases h
  | cons kv rest ih =>
      rw [lookupRepl] at h
      split at h
      · cases h; exact List.mem_cons_of_mem _ (ih ‹_›)
      · split at h
        · cases h; subst ‹kv.1 = n›; exact List.mem_cons_self ..
        · cases h

theorem lookup_ident {m : List (Tree × Tree)} (hm : IdentTable m) {n r : Tree} (h : lookupRepl m n = some r) :
    ∃ s s', n = mkIdent s ∧ r = mkIdent s' := by
  obtain ⟨s, s', e⟩ := hm _ (lookup_some_mem m n r h)
  cases e
  exact ⟨s, s', rfl, rfl⟩

theorem lookup_attr_none {m : List (Tree × Tree)} (hm : IdentTable m) (fs : TreeList) :
    lookupRepl m (.node "Attribute" fs) = none := by
  cases hl : lookupRepl m (.node "Attribute" fs) with
  | none => rfl
  | some r =>
      obtain ⟨s, s', e, _⟩ := lookup_ident hm hl
      exact absurd (Tree.node.inj e).1 (by decide)

theorem subst_isNode {m : List (Tree × Tree)} (hm : IdentTable m) (b : List Tree) (k : String) (fs : TreeList) :
    isNode (subst m b (.node k fs)) = true := by
  cases nodeKind k fs with
  | ident fs =>
      rw [subst_ident]
      split
      · rfl
      · cases hl : lookupRepl m (.node "Identifier" fs) with
        | none => rfl
        | some r =>
            obtain ⟨_, s', _, rfl⟩ := lookup_ident hm hl
            rfl
  | attr o a => rw [subst_attr, lookup_attr_none hm]; split <;> rfl
  | call f args => rw [subst_call]; rfl
  | named n p => rw [subst_named]; rfl
  | lambda i body => rw [subst_lambda]; rfl
  | generic hg => rw [subst_generic _ _ hg]; rfl

/-- substituting identifiers for identifiers keeps the shape of a field list, hence which method applies -/
theorem shape_substFields {m : List (Tree × Tree)} (hm : IdentTable m) (b : List Tree) :
    (fs : TreeList) → shape (substFields m b fs) = shape fs
  | .nil => rfl
  | .cons x .nil => by rw [substFields_cons]; rfl
  | .cons x (.cons y (.cons z r)) => by
      rw [substFields_cons, substFields_cons, substFields_cons, shape_long, shape_long]
  | .cons x (.cons y .nil) => by
      rw [substFields_cons, substFields_cons]
      cases y with
      | node k fs =>
          obtain ⟨k', fs', e⟩ := isNode_shape (subst_isNode hm b k fs)
          rw [substElem_node, e]; rfl
      | _ => rfl

theorem special_substFields {m : List (Tree × Tree)} (hm : IdentTable m) (b : List Tree) (k : String)
    (fs : TreeList) : Special k (substFields m b fs) ↔ Special k fs := by
  unfold Special
  rw [shape_substFields hm]

theorem path_subst {m : List (Tree × Tree)} (hm : IdentTable m) (b : List Tree)
    (hv : ∀ n r, lookupRepl m n = some r → r ∉ b) (t : Tree) (hs : scopeOk t = true)
    (hp : (isIdentNode t || isAttr t) = true) (hr : rootOf t ∉ b) :
    (isIdentNode (subst m b t) || isAttr (subst m b t)) = true ∧ rootOf (subst m b t) ∉ b := by
  induction t using rootOf.induct with
  | case1 o a ih =>
      rw [rootOf_attr] at hr
      rw [scopeOk_attr, Bool.and_eq_true] at hs
      rw [subst_attr, if_neg hr, lookup_attr_none hm, Option.getD_none, mkAttr, rootOf_attr]
      exact ⟨rfl, (ih hs.2 hs.1 hr).2⟩
  | case2 t hna =>
      rcases path_cases hp with ⟨fs, rfl⟩ | ⟨o, a, rfl⟩
      · rw [rootOf_ident] at hr
        rw [subst_ident, if_neg hr]
        cases hl : lookupRepl m (.node "Identifier" fs) with
        | none => exact ⟨hp, by rwa [Option.getD_none, rootOf_ident]⟩
        | some r =>
            obtain ⟨_, s', _, rfl⟩ := lookup_ident hm hl
            exact ⟨rfl, by rw [Option.getD_some, mkIdent, rootOf_ident]; exact hv _ _ hl⟩
      · exact (hna o a rfl).elim

structure Inverse (m m' : List (Tree × Tree)) : Prop where
  hm : IdentTable m
  hm' : IdentTable m'
  back : ∀ n r, lookupRepl m n = some r → lookupRepl m' r = some n

theorem Inverse.val_fresh {m m' : List (Tree × Tree)} (H : Inverse m m') {b : List Tree}
    (hfb : ∀ kv ∈ m', kv.1 ∉ b) : ∀ n r, lookupRepl m n = some r → r ∉ b := fun n r h =>
  hfb _ (lookup_some_mem _ _ _ (H.back n r h))

theorem subst_not_list {m : List (Tree × Tree)} (hm : IdentTable m) (b : List Tree) {x : Tree}
    (h : ∀ items, x ≠ .list items) : ∀ items, subst m b x ≠ .list items := by
  cases x with
  | node k fs =>
      obtain ⟨k', fs', e⟩ := isNode_shape (subst_isNode hm b k fs)
      rw [e]
      exact fun _ => nofun
  | list items => exact absurd rfl (h items)
  | _ => exact fun _ => nofun

theorem rt_all {m m' : List (Tree × Tree)} (H : Inverse m m') :
    (∀ t b, scopeOk t = true → (∀ kv ∈ m', occurs kv.1 t = false) → (∀ kv ∈ m', kv.1 ∉ b) →
      scopeOk (subst m b t) = true ∧ subst m' b (subst m b t) = t) ∧
    (∀ fs b, scopeOkList fs = true → (∀ kv ∈ m', occursList kv.1 fs = false) → (∀ kv ∈ m', kv.1 ∉ b) →
      scopeOkList (substFields m b fs) = true ∧ substFields m' b (substFields m b fs) = fs) ∧
    (∀ xs b, scopeOkList xs = true → (∀ kv ∈ m', occursList kv.1 xs = false) → (∀ kv ∈ m', kv.1 ∉ b) →
      scopeOkList (substItems m b xs) = true ∧ substItems m' b (substItems m b xs) = xs) := by
  apply rewrite_induct
  case ident =>
    intro fs b hs hocc hfb
    have hself := (absent_node hocc).1
    rw [subst_ident m b]
    split
    · rw [subst_ident, if_pos ‹_›]; exact ⟨hs, rfl⟩
    · cases hl : lookupRepl m (.node "Identifier" fs) with
      | none =>
          rw [Option.getD_none, subst_ident, if_neg ‹_›, lookup_none_of_absent m' _ hself]
          exact ⟨hs, rfl⟩
      | some r =>
          obtain ⟨_, s', _, rfl⟩ := lookup_ident H.hm hl
          have hback := H.back _ _ hl
          have hrb := H.val_fresh hfb _ _ hl
          unfold mkIdent at hback hrb
          rw [Option.getD_some, mkIdent, subst_ident, if_neg hrb, hback]
          exact ⟨rfl, rfl⟩
  case attr =>
    intro o a ih b hs hocc hfb
    have hfs := (absent_node hocc).2
    rw [subst_attr m b]
    split
    · rw [subst_attr, if_pos ‹_›]; exact ⟨hs, rfl⟩
    · rw [scopeOk_attr, Bool.and_eq_true] at hs
      have ⟨ih1, ih2⟩ := ih b hs.2 (absent_cons hfs).1 hfb
      have ⟨hp, hr⟩ := path_subst H.hm b (H.val_fresh hfb) o hs.2 hs.1 ‹_›
      rw [lookup_attr_none H.hm, Option.getD_none, mkAttr, scopeOk_attr, subst_attr, if_neg hr,
        lookup_attr_none H.hm', Option.getD_none, ih2, hp, ih1]
      exact ⟨rfl, rfl⟩
  case call =>
    intro f args ih b hs hocc hfb
    have hfs := (absent_node hocc).2
    have hsf := scopeOkList_cons.mp (scopeOk_fields hs)
    have ⟨ih1, ih2⟩ := ih b (scopeOkList_cons.mp hsf.2).1
      (absent_list (absent_cons (absent_cons hfs).2).1) hfb
    rw [subst_call, subst_call, ih2, scopeOk_node (by simp) (by simp)]
    exact ⟨scopeOkList_cons.mpr ⟨hsf.1, scopeOkList_cons.mpr ⟨ih1, rfl⟩⟩, rfl⟩
  case named =>
    intro n p ih b hs hocc hfb
    have hfs := (absent_node hocc).2
    have hsf := scopeOkList_cons.mp (scopeOk_fields hs)
    have ⟨ih1, ih2⟩ := ih b (scopeOkList_cons.mp hsf.2).1 (absent_cons (absent_cons hfs).2).1 hfb
    rw [subst_named, subst_named, ih2, scopeOk_node (by simp) (by simp)]
    exact ⟨scopeOkList_cons.mpr ⟨hsf.1, scopeOkList_cons.mpr ⟨ih1, rfl⟩⟩, rfl⟩
  case lambda =>
    intro i body ih b hs hocc hfb
    have hfs := (absent_node hocc).2
    rw [scopeOk_lambda] at hs
    simp only [Bool.and_eq_true] at hs
    -- the bound variable occurs in the tree, so it is none of the fresh names
    have hi : ∀ kv ∈ m', ¬ kv.1 = i := by
      obtain ⟨ifs, rfl⟩ := isIdentNode_kind hs.1
      exact (absent_node (absent_cons hfs).1).1
    have hfb' : ∀ kv ∈ m', kv.1 ∉ i :: b := fun kv hkv hmem =>
      (List.mem_cons.mp hmem).elim (hi kv hkv) (hfb kv hkv)
    have ⟨ih1, ih2⟩ := ih (i :: b) hs.2.2 (absent_cons (absent_cons hfs).2).1 hfb'
    rw [subst_lambda, subst_lambda, ih2, scopeOk_lambda, hs.1, hs.2.1, ih1]
    exact ⟨rfl, rfl⟩
  case generic =>
    intro k fs hg ih b hs hocc hfb
    have hfs := (absent_node hocc).2
    have ⟨ih1, ih2⟩ := ih b (scopeOk_fields hs) hfs hfb
    have hg' := mt (special_substFields H.hm b k fs).mp hg
    rw [subst_generic _ _ hg, subst_generic _ _ hg', ih2, scopeOk_generic hg']
    exact ⟨ih1, rfl⟩
  case flist =>
    intro items rest ihi ihr b hs hocc hfb
    have ⟨hx, hr⟩ := scopeOkList_cons.mp hs
    have ⟨ox, orest⟩ := absent_cons hocc
    have ⟨i1, i2⟩ := ihi b hx (absent_list ox) hfb
    have ⟨j1, j2⟩ := ihr b hr orest hfb
    rw [substFields_cons, substFields_cons, substElem, substElem, i2, j2]
    exact ⟨scopeOkList_cons.mpr ⟨i1, j1⟩, rfl⟩
  case fcons =>
    intro x rest hx ihx ihr b hs hocc hfb
    have ⟨hsx, hr⟩ := scopeOkList_cons.mp hs
    have ⟨ox, orest⟩ := absent_cons hocc
    have ⟨i1, i2⟩ := ihx b hsx ox hfb
    have ⟨j1, j2⟩ := ihr b hr orest hfb
    rw [substFields_cons, substFields_cons, substElem_eq m b hx, substElem_eq m' b (subst_not_list H.hm b hx), i2, j2]
    exact ⟨scopeOkList_cons.mpr ⟨i1, j1⟩, rfl⟩
  case icons =>
    intro x rest ihx ihr b hs hocc hfb
    have ⟨hx, hr⟩ := scopeOkList_cons.mp hs
    have ⟨ox, orest⟩ := absent_cons hocc
    have ⟨i1, i2⟩ := ihx b hx ox hfb
    have ⟨j1, j2⟩ := ihr b hr orest hfb
    rw [substItems_cons, substItems_cons, i2, j2]
    exact ⟨scopeOkList_cons.mpr ⟨i1, j1⟩, rfl⟩
  all_goals
    intros
    exact ⟨by assumption, rfl⟩

theorem rtItems {m m' : List (Tree × Tree)} (H : Inverse m m') :
    (xs : TreeList) → (b : List Tree) → scopeOkList xs = true → (∀ kv ∈ m', occursList kv.1 xs = false) →
      (∀ kv ∈ m', kv.1 ∉ b) →
      scopeOkList (substItems m b xs) = true ∧ substItems m' b (substItems m b xs) = xs := (rt_all H).2.2

/-- the round trip on the rewriter: `alias m'` undoes `alias m` on every tree of the parser's shape in which no key
    of `m'` occurs -/
theorem alias_roundtrip {m m' : List (Tree × Tree)} (H : Inverse m m') (t : Tree) (hs : scopeOk t = true)
    (hocc : ∀ kv ∈ m', occurs kv.1 t = false) : alias m' (alias m t) = t := by
  have h := (rt_all H).1 t [] hs hocc (by simp)
  rw [rewrite_eq_subst m t hs, rewrite_eq_subst m' _ h.1, h.2]

theorem mkIdent_inj {s s' : Str} (h : mkIdent s = mkIdent s') : s = s' := by
  simpa [mkIdent] using h

theorem lookup_inv_table (ps : List (Str × Str)) (hnd : (ps.map Prod.snd).Nodup) (p : Str × Str) (hp : p ∈ ps) :
    lookupRepl (ps.map (fun p => (mkIdent p.2, mkIdent p.1))) (mkIdent p.2) = some (mkIdent p.1) := by
  induction ps with
  | nil => cases hp
  | cons q rest ih =>
      simp only [List.map_cons, List.nodup_cons] at hnd
      simp only [List.map_cons, lookupRepl]
      rcases List.mem_cons.mp hp with e | hmem
      · subst e
        have hn : lookupRepl (rest.map (fun p => (mkIdent p.2, mkIdent p.1))) (mkIdent p.2) = none := by
          apply lookup_none_of_absent
          intro kv hkv e
          obtain ⟨r, hr, rfl⟩ := List.mem_map.mp hkv
          exact hnd.1 (List.mem_map.mpr ⟨r, hr, mkIdent_inj e⟩)
        rw [hn]; simp
      · rw [ih hnd.2 hmem]

theorem inverse_tables (ps : List (Str × Str)) (hnd : (ps.map Prod.snd).Nodup) :
    Inverse (ps.map (fun p => (mkIdent p.1, mkIdent p.2))) (ps.map (fun p => (mkIdent p.2, mkIdent p.1))) where
  hm := fun kv hkv => by
    obtain ⟨p, _, rfl⟩ := List.mem_map.mp hkv
    exact ⟨_, _, rfl⟩
  hm' := fun kv hkv => by
    obtain ⟨p, _, rfl⟩ := List.mem_map.mp hkv
    exact ⟨_, _, rfl⟩
  back := fun n r h => by
    obtain ⟨p, hp, e⟩ := List.mem_map.mp (lookup_some_mem _ _ _ h)
    simp only [Prod.mk.injEq] at e
    rw [← e.1, ← e.2]
    exact lookup_inv_table ps hnd p hp

end OQ.AliasBij
