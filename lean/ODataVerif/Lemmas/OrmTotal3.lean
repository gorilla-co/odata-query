/-
  The ORM visitor models do not leak on printable, well-typed trees whose duration / GUID / integer
  literals have a Python value: Props/C12Orm.lean's theorems for any literal predicate `P` / `Ps` that unfolds like `pyLitOk`
  (`LitInv`) but asks a value only of the kinds whose missing value `litParam` lets escape (`litOkW`).
-/
import ODataVerif.Props.C12Orm
namespace OQ.OrmTotal3
open OQ.Spec OQ.OrmTotal OQ.C12Orm

def litOkW (k : LitKind) (v : Str) : Bool :=
  if k == .duration || k == .guid || k == .int then (match pyVal k v with | .foreign _ => false | _ => true) else true

theorem litParam_nlW (k : LitKind) (v : Str) (h : litOkW k v = true) : nl (litParam k v) = true := by
  refine litParam_nl k v fun hk c hc => ?_
  rw [litOkW, hc] at h
  rcases hk with rfl | rfl | rfl <;> cases h

structure LitInv (P : Expr → Bool) (Ps : Exprs → Bool) : Prop where
  lit : ∀ k v, P (.lit k v) = litOkW k v
  list : ∀ xs, P (.list xs) = Ps xs
  binop : ∀ o l r, P (.binop o l r) = (P l && P r)
  compare : ∀ o l r, P (.compare o l r) = (P l && P r)
  boolop : ∀ o l r, P (.boolop o l r) = (P l && P r)
  unary : ∀ o e, P (.unary o e) = P e
  call : ∀ f args, P (.call f args) = Ps args
  cons : ∀ h t, Ps (.cons h t) = (P h && Ps t)

section
variable {P : Expr → Bool} {Ps : Exprs → Bool} (I : LitInv P Ps)
include I

theorem LitInv.litsOk : LitsOk P Ps where
  lit := fun h => litParam_nlW _ _ (I.lit _ _ ▸ h)
  list := fun h => I.list _ ▸ h
  binop := fun h => by rwa [I.binop, Bool.and_eq_true] at h
  compare := fun h => by rwa [I.compare, Bool.and_eq_true] at h
  boolop := fun h => by rwa [I.boolop, Bool.and_eq_true] at h
  unary := fun h => I.unary _ _ ▸ h
  call := fun h => I.call _ _ ▸ h
  cons := fun h => by rwa [I.cons, Bool.and_eq_true] at h

theorem djVisitList_okW (Γ : Expr → Option OTy) : (xs : Exprs) → (tys : List OTy) → printableArgs xs = true →
    sTypes Γ xs = some tys → Ps xs = true → DjArgsOk xs :=
  djArgs_ok I.litsOk Γ

theorem saVisitList_okW (fields : List Str) (core : Bool) (Γ : Expr → Option OTy) : (xs : Exprs) → (tys : List OTy) →
    printableArgs xs = true → sTypes Γ xs = some tys → Ps xs = true → SaArgsOk fields core xs :=
  saArgs_ok I.litsOk fields core Γ

theorem dj_never_leaks_W (Γ : Expr → Option OTy) (e : Expr) (hp : printable e = true) (h : wellTypedFilter Γ e = true)
    (hl : P e = true) : leaks (djBuild e) = false :=
  dj_never_leaks I.litsOk Γ e hp h hl

theorem sa_never_leaks_W (fields : List Str) (core : Bool) (Γ : Expr → Option OTy) (e : Expr)
    (hp : printable e = true) (h : wellTypedFilter Γ e = true) (hl : P e = true) :
    leaks (saBuild fields core e) = false :=
  sa_never_leaks I.litsOk fields core Γ e hp h hl

end

end OQ.OrmTotal3
