/- For Props/C03.lean: equations of the SQLAlchemy visitor model `saVisit` on the shapes the typed grammar produces, on which the
   ORM and the Core visitor agree. -/
import ODataVerif.Lemmas.OrmSound
namespace OQ.SaSound
open Spec SqliteSound SqliteLike OrmSound

section
variable (fields : List Str) (core : Bool)

theorem visit_intLit (v : Str) : saVisit fields core (.lit .int v) = .ok (.param .int v, .value) := by
  rw [saVisit.eq_7 _ _ _ _ (by simp) (by simp) (by simp), litParam_int]; rfl
theorem visit_strLit (v : Str) : saVisit fields core (.lit .str v) = .ok (.param .str v, .value) := by
  rw [saVisit.eq_7 _ _ _ _ (by simp) (by simp) (by simp)]; rfl
theorem visit_boolLit (v : Str) : saVisit fields core (.lit .bool v) =
    .ok (.const (if pyLower v == "true".toList then "TRUE" else "FALSE"), .value) := saVisit.eq_5 fields core v
theorem visit_nullLit (v : Str) : saVisit fields core (.lit .null v) = .ok (.const "NULL", .value) := saVisit.eq_4 fields core v
theorem visit_id (c : Str) : saVisit fields core (idE c) =
    if fields.contains c then .ok (.col [c], .field) else .lib (.invalidField c) := saVisit.eq_1 fields core ⟨c, []⟩

def isConstT : OTree → Bool
  | .const _ => true
  | _ => false

theorem visit_binop (op : ArithOp) (l r : Expr) : saVisit fields core (.binop op l r) =
    (saVisit fields core l >>= fun p => saVisit fields core r >>= fun q =>
      if p.2 == .list || q.2 == .list then .foreign "unmodelled" else .ok (on2 (OQ.arithName op) p.1 q.1, .expr)) := by
  rw [saVisit.eq_9]; rfl

/-- a comparison of the typed grammar: the operands are not swapped (the left one is not the null literal) and the
    comparator is not `in` -/
theorem visit_cmp (k : CmpK) (l r : Expr) (hl : isNullLit l = false) : saVisit fields core (.compare k.toOp l r) =
    (saVisit fields core l >>= fun p => saVisit fields core r >>= fun q =>
      if p.2 == .list || q.2 == .list then .foreign "unmodelled"
      else if (k.toOp == .lt || k.toOp == .le || k.toOp == .gt || k.toOp == .ge) && (isConstT p.1 || isConstT q.1) then
        .lib (.type_ (cmpClass k.toOp).toList)
      else .ok (on2 (cmpLookup k.toOp) p.1 q.1, .cond)) := by
  have hin : (k.toOp == CmpOp.in_) = false := by cases k <;> rfl
  rw [saVisit.eq_10]; simp only [hl, hin, Bool.false_and, Bool.false_eq_true, if_false]; rfl

theorem visit_list (xs : Exprs) : saVisit fields core (.list xs) =
    (saVisitList fields core xs >>= fun items => .ok (.node "list" (OTrees.ofList items), .list)) := by
  rw [saVisit.eq_8]; rfl

theorem visit_in (l : Expr) (xs : Exprs) : saVisit fields core (.compare .in_ l (.list xs)) =
    (saVisit fields core l >>= fun p => saVisitList fields core xs >>= fun items =>
      if p.2 == .list then .foreign "AttributeError" else .ok (on2 "in" p.1 (.node "list" (OTrees.ofList items)), .cond)) := by
  rw [saVisit.eq_10, visit_list]
  simp only [show (CmpOp.in_ == CmpOp.eq) = false from rfl, show (CmpOp.in_ == CmpOp.ne) = false from rfl, Bool.or_false,
    Bool.and_false, Bool.false_eq_true, if_false]
  cases saVisit fields core l <;> cases saVisitList fields core xs <;> rfl

theorem visit_isNull (kind : ColK) (c : Str) (negated : Bool) :
    saVisit fields core (BoolE.isNull kind c negated).toExpr =
      if fields.contains c then .ok (on2 (if negated then "ne" else "exact") (.col [c]) (.const "NULL"), .cond)
      else .lib (.invalidField c) := by
  have h (k : CmpK) := visit_cmp fields core k (idE c) (.lit .null []) rfl
  rw [visit_id, visit_nullLit] at h
  rw [BoolE.toExpr]
  cases negated
  · refine (h .eq).trans ?_
    split <;> rfl
  · refine (h .ne).trans ?_
    split <;> rfl

theorem visit_boolop (op : BoolOp) (l r : Expr) : saVisit fields core (.boolop op l r) =
    (saVisit fields core l >>= fun p => saVisit fields core r >>= fun q =>
      .ok (on2 (if op == .and_ then "and" else "or") p.1 q.1, .cond)) := by
  rw [saVisit.eq_11]; rfl
theorem visit_unary (op : UnOp) (e : Expr) : saVisit fields core (.unary op e) =
    (saVisit fields core e >>= fun p =>
      if op == .not_ then .ok (on1 "not" p.1, .cond) else .lib (.type_ "USub".toList)) := by
  rw [saVisit.eq_12]; rfl
theorem visitList_nil : saVisitList fields core .nil = .ok [] := saVisitList.eq_1 fields core
theorem visitList_cons (h : Expr) (t : Exprs) : saVisitList fields core (.cons h t) =
    (saVisit fields core h >>= fun p => saVisitList fields core t >>= fun rest => .ok (p.1 :: rest)) := by
  rw [saVisitList.eq_2]; rfl

/-- at each use `hk` and `hh` are closed computations over the handler table -/
theorem visit_call {f : Ident} (args : Exprs) (key : String) (hk : String.ofList (pyLower (funcKey f)) = key)
    (hh : ormHandlers.contains key = true) : saVisit fields core (.call f args) = saFunc fields core key args := by
  rw [saVisit, hk, hh]; rfl

theorem visit_length (a : Expr) : saVisit fields core (.call ⟨"length".toList, []⟩ (.cons a .nil)) =
    (saVisit fields core a >>= fun p => .ok (on1 "char_length" p.1, .expr)) :=
  (visit_call fields core _ "length" (by decide +kernel) (by decide +kernel)).trans (by rw [saFunc]; rfl)
theorem visit_tolower (a : Expr) : saVisit fields core (.call ⟨"tolower".toList, []⟩ (.cons a .nil)) =
    (saVisit fields core a >>= fun p => .ok (on1 "lower" p.1, .expr)) :=
  (visit_call fields core _ "tolower" (by decide +kernel) (by decide +kernel)).trans (by rw [saFunc]; rfl)
theorem visit_toupper (a : Expr) : saVisit fields core (.call ⟨"toupper".toList, []⟩ (.cons a .nil)) =
    (saVisit fields core a >>= fun p => .ok (on1 "upper" p.1, .expr)) :=
  (visit_call fields core _ "toupper" (by decide +kernel) (by decide +kernel)).trans (by rw [saFunc]; rfl)
theorem visit_trim (a : Expr) : saVisit fields core (.call ⟨"trim".toList, []⟩ (.cons a .nil)) =
    (saVisit fields core a >>= fun p => .ok (on1 "ltrim" (on1 "rtrim" p.1), .expr)) :=
  (visit_call fields core _ "trim" (by decide +kernel) (by decide +kernel)).trans (by rw [saFunc]; rfl)
theorem visit_indexof (a b : Expr) : saVisit fields core (.call ⟨"indexof".toList, []⟩ (.cons a (.cons b .nil))) =
    (saVisit fields core a >>= fun p => saVisit fields core b >>= fun q =>
      .ok (on2 "-" (on2 "strpos" p.1 q.1) (.pint 1), .expr)) :=
  (visit_call fields core _ "indexof" (by decide +kernel) (by decide +kernel)).trans (by rw [saFunc]; rfl)
theorem visit_concat (a b : Expr) : saVisit fields core (.call ⟨"concat".toList, []⟩ (.cons a (.cons b .nil))) =
    (saVisit fields core a >>= fun p => saVisit fields core b >>= fun q =>
      .ok (.node "concat" (.cons p.1 (.cons q.1 .nil)), .expr)) := by
  rw [visit_call fields core _ "concat" (by decide +kernel) (by decide +kernel), saFunc]
  simp only [visitList_cons, visitList_nil]
  cases saVisit fields core a <;> cases saVisit fields core b <;> rfl
theorem visit_substring2 (a b : Expr) : saVisit fields core (.call ⟨"substring".toList, []⟩ (.cons a (.cons b .nil))) =
    (saVisit fields core a >>= fun p => saVisit fields core b >>= fun q =>
      .ok (on2 "substr" p.1 (on2 "+" q.1 (.pint 1)), .expr)) :=
  (visit_call fields core _ "substring" (by decide +kernel) (by decide +kernel)).trans (by rw [saFunc]; rfl)
theorem visit_substring3 (a b c : Expr) :
    saVisit fields core (.call ⟨"substring".toList, []⟩ (.cons a (.cons b (.cons c .nil)))) =
    (saVisit fields core a >>= fun p => saVisit fields core b >>= fun q => saVisit fields core c >>= fun r =>
      .ok (on3 "substr" p.1 (on2 "+" q.1 (.pint 1)) r.1, .expr)) :=
  (visit_call fields core _ "substring" (by decide +kernel) (by decide +kernel)).trans (by rw [saFunc]; rfl)
/-- the typed operands pass `substrTypecheck`; a literal substring with a LIKE wildcard is passed with `autoescape=True` -/
theorem visit_like (k : LikeK) (a b : StrE) : saVisit fields core (BoolE.like k a b).toExpr =
    (saVisit fields core a.toExpr >>= fun p => saVisit fields core b.toExpr >>= fun q =>
      .ok (on2 (if litNeedsEscape b.toExpr then k.name ++ "_autoescape" else k.name) p.1 q.1, .cond)) := by
  have ht := substrTypecheck_ok (strTy_toExpr a) (strTy_toExpr b)
  rw [BoolE.toExpr]
  cases k
  · rw [visit_call fields core _ "contains" (by decide +kernel) (by decide +kernel), saFunc]
    simp only [ht]; rfl
  · rw [visit_call fields core _ "startswith" (by decide +kernel) (by decide +kernel), saFunc]
    simp only [ht]; rfl
  · rw [visit_call fields core _ "endswith" (by decide +kernel) (by decide +kernel), saFunc]
    simp only [ht]; rfl
end

section
variable (fields : List Str)
mutual
theorem agreeI : (e : IntE) → saVisit fields false e.toExpr = saVisit fields true e.toExpr
  | .lit _ _ => by rw [IntE.toExpr, visit_intLit, visit_intLit]
  | .col c => by rw [IntE.toExpr, visit_id, visit_id]
  | .neg e => by rw [IntE.toExpr, visit_unary, visit_unary, agreeI e]
  | .arith k l r => by rw [IntE.toExpr, visit_binop, visit_binop, agreeI l, agreeI r]
  | .length s => by rw [IntE.toExpr, visit_length, visit_length, agreeS s]
  | .indexof a b => by rw [IntE.toExpr, visit_indexof, visit_indexof, agreeS a, agreeS b]
theorem agreeS : (e : StrE) → saVisit fields false e.toExpr = saVisit fields true e.toExpr
  | .lit _ => by rw [StrE.toExpr, visit_strLit, visit_strLit]
  | .col c => by rw [StrE.toExpr, visit_id, visit_id]
  | .concat a b => by rw [StrE.toExpr, visit_concat, visit_concat, agreeS a, agreeS b]
  | .substring s i => by rw [StrE.toExpr, visit_substring2, visit_substring2, agreeS s, agreeI i]
  | .substring3 s i n => by rw [StrE.toExpr, visit_substring3, visit_substring3, agreeS s, agreeI i, agreeI n]
  | .tolower s => by rw [StrE.toExpr, visit_tolower, visit_tolower, agreeS s]
  | .toupper s => by rw [StrE.toExpr, visit_toupper, visit_toupper, agreeS s]
  | .trim s => by rw [StrE.toExpr, visit_trim, visit_trim, agreeS s]
end

theorem agreeIs : (xs : List IntE) → saVisitList fields false (intsToExprs xs) = saVisitList fields true (intsToExprs xs)
  | [] => by rw [intsToExprs, visitList_nil, visitList_nil]
  | e :: t => by rw [intsToExprs, visitList_cons, visitList_cons, agreeI fields e, agreeIs t]
theorem agreeSs : (xs : List StrE) → saVisitList fields false (strsToExprs xs) = saVisitList fields true (strsToExprs xs)
  | [] => by rw [strsToExprs, visitList_nil, visitList_nil]
  | e :: t => by rw [strsToExprs, visitList_cons, visitList_cons, agreeS fields e, agreeSs t]

theorem agreeB : (b : BoolE) → saVisit fields false b.toExpr = saVisit fields true b.toExpr
  | .cmpI k l r => by rw [BoolE.toExpr, visit_cmp _ _ _ _ _ (C01.isNullLit_I l), visit_cmp _ _ _ _ _ (C01.isNullLit_I l), agreeI fields l, agreeI fields r]
  | .cmpS k l r => by rw [BoolE.toExpr, visit_cmp _ _ _ _ _ (C01.isNullLit_S l), visit_cmp _ _ _ _ _ (C01.isNullLit_S l), agreeS fields l, agreeS fields r]
  | .cmpB k l r => by rw [BoolE.toExpr, visit_cmp _ _ _ _ _ (C01.isNullLit_B l), visit_cmp _ _ _ _ _ (C01.isNullLit_B l), agreeB l, agreeB r]
  | .isNull _ c n => by rw [visit_isNull, visit_isNull]
  | .inI e xs => by rw [BoolE.toExpr, visit_in, visit_in, agreeI fields e, agreeIs fields xs]
  | .inS e xs => by rw [BoolE.toExpr, visit_in, visit_in, agreeS fields e, agreeSs fields xs]
  | .and l r => by rw [BoolE.toExpr, visit_boolop, visit_boolop, agreeB l, agreeB r]
  | .or l r => by rw [BoolE.toExpr, visit_boolop, visit_boolop, agreeB l, agreeB r]
  | .not e => by rw [BoolE.toExpr, visit_unary, visit_unary, agreeB e]
  | .like k a b => by rw [visit_like, visit_like, agreeS fields a, agreeS fields b]
  | .col c => by rw [BoolE.toExpr, visit_id, visit_id]
  | .lit b => by rw [BoolE.toExpr, visit_boolLit, visit_boolLit]
end

end OQ.SaSound
