/- The token lists of the reference printer satisfy the adjacency condition `LexRender.chainOk` under
   which a rendering lexes back token by token (`LexRender.lexAll_chain`): one lemma per tree constructor (`good_*`), given
   `TokOk` of the literal / identifier tokens and the condition for the subtrees; `GoodE` / `GoodTs` say what may follow a
   printed tree / block.  Also the lexer's first step on a text with at least one token (for `C13.tokOk_of_lexable`).
   Props/C13Text.lean does the recursion over the tree. -/
import ODataVerif.Model.Lexer
import ODataVerif.Spec.RefPrinter
import ODataVerif.Lemmas.LexRender
import ODataVerif.Lemmas.LexChain
import ODataVerif.Lemmas.Pratt
namespace OQ.C13
open Spec LexRender


theorem lexAll_cons {cs : List Char} {t : Tok} {ts : List Tok} {err : Option Nat} (h : lexAll E cs = ⟨t :: ts, err⟩) :
    ∃ r, lexOne E cs = some (t, r) ∧ lexFuel E cs.length (cs.length - r.length) r = ⟨ts, err⟩ := by
  cases hl : lexOne E cs with
  | none => cases cs <;> simp [lexAll, lexFuel, hl] at h
  | some p =>
    rw [lexAll, lexFuel_step hl, Nat.zero_add] at h
    obtain ⟨h1, h2⟩ := LexResult.mk.inj h
    obtain ⟨rfl, h3⟩ := List.cons.inj h1
    exact ⟨p.2, rfl, by rw [← h3, ← h2]⟩

theorem lexAll_head {cs : List Char} {t : Tok} {ts : List Tok} (h : (lexAll E cs).toks = t :: ts) :
    ∃ r, lexOne E cs = some (t, r) := by
  obtain ⟨r, hr, -⟩ := lexAll_cons (cs := cs) (t := t) (ts := ts) (err := (lexAll E cs).err) (by rw [← h])
  exact ⟨r, hr⟩

theorem lexAll_single {cs : List Char} {t : Tok} (h : lexAll E cs = ⟨[t], none⟩) : lexOne E cs = some (t, []) := by
  obtain ⟨r, hr, hrest⟩ := lexAll_cons h
  cases r with
  | nil => exact hr
  | cons c r' =>
    -- a second step either stops with an error or yields a second token
    have hlen := lexOne_len E _ _ _ hr
    obtain ⟨n, hn⟩ : ∃ n, cs.length = n + 1 := ⟨cs.length - 1, by simp at hlen; omega⟩
    rw [hn] at hrest
    cases hl2 : lexOne E (c :: r') with
    | none => simp [lexFuel, hl2] at hrest
    | some q => rw [lexFuel_step hl2] at hrest; cases hrest

def closeHead (rest : List Tok) : Bool := match rest.head? with | none => true | some u => closeT u
def identHead (rest : List Tok) : Bool := match rest.head? with | none => true | some u => identFollowT u
def isPathE : Expr → Bool
  | .ident _ => true
  | .attr _ _ => true
  | _ => false

theorem identHead_of_close {rest : List Tok} (h : closeHead rest = true) : identHead rest = true := by
  unfold closeHead at h; unfold identHead
  cases hh : rest.head? with
  | none => rfl
  | some u => rw [hh] at h; exact closeT_identFollow h

theorem startTok_eq (t : Tok) : Pratt.startTok t = startT t := by cases t <;> rfl

theorem head_of_headStart {ts : List Tok} (h : Pratt.headStart ts = true) (rest : List Tok) :
    ∃ u r, ts ++ rest = u :: r ∧ startT u = true := by
  cases ts with
  | nil => cases h
  | cons t r => exact ⟨t, r ++ rest, rfl, startTok_eq t ▸ h⟩

theorem chain_nl {b : Bool} {t : Tok} {r : List Tok} (ht : isLI t = false) (ha : adj b t r.head? = true)
    (hr : chainOk b r) : chainOk b (t :: r) := ⟨fun h => by simp [ht] at h, ha, hr⟩

theorem chain_li {b : Bool} {t : Tok} {r : List Tok} (hok : TokOk t) (ha : adj b t r.head? = true)
    (hr : chainOk b r) : chainOk b (t :: r) := ⟨fun _ => hok, ha, hr⟩

theorem chain_ws {b : Bool} (c : Bool) {r : List Tok} (hr : chainOk b r) (h : adj b .ws r.head? = true) :
    chainOk b (ws? c ++ r) := by
  cases c
  · simpa [ws?] using hr
  · simpa [ws?] using chain_nl (t := .ws) rfl h hr

/-- a token that may stand in front of every operand start may stand in front of a block with such a head -/
theorem adj_start {b : Bool} {t : Tok} {X : List Tok} (ha : ∀ u, startT u = true → adj b t (some u) = true)
    (h : Pratt.headStart X = true) (rest : List Tok) : adj b t (X ++ rest).head? = true := by
  obtain ⟨u, r, hu, hs⟩ := head_of_headStart h rest
  rw [hu]; exact ha u hs

theorem adj_ws_start {b : Bool} {X rest : List Tok} (h : Pratt.headStart X = true) :
    adj b .ws (X ++ rest).head? = true :=
  adj_start (fun u hu => by simp [adj, hu]) h rest


section printer
variable (sty : Style) (mode : Mode)

def GoodTs (X : List Tok) : Prop :=
  ∀ rest, chainOk sty.afterMinus rest → closeHead rest = true → chainOk sty.afterMinus (X ++ rest)

def GoodE (e : Expr) : Prop :=
  ∀ rest, chainOk sty.afterMinus rest → (closeHead rest = true ∨ (isPathE e = true ∧ identHead rest = true)) →
    chainOk sty.afterMinus (printToks sty mode e ++ rest)

variable {sty mode}

theorem GoodE.ts {e : Expr} (h : GoodE sty mode e) : GoodTs sty (printToks sty mode e) :=
  fun rest hr hc => h rest hr (Or.inl hc)

theorem goodE_of_ts {e : Expr} (hnp : isPathE e = false) (h : GoodTs sty (printToks sty mode e)) : GoodE sty mode e := by
  intro rest hr hcl
  rcases hcl with h1 | ⟨h2, _⟩
  · exact h rest hr h1
  · simp [hnp] at h2

theorem closeHead_ws_rp (c : Bool) (rest : List Tok) : closeHead (ws? c ++ .rp :: rest) = true := by
  cases c <;> rfl
theorem closeHead_ws_comma (c : Bool) (rest : List Tok) : closeHead (ws? c ++ .comma :: rest) = true := by
  cases c <;> rfl

theorem good_paren {X : List Tok} (hX : GoodTs sty X) (hs : Pratt.headStart X = true) (rest : List Tok)
    (hr : chainOk sty.afterMinus rest) : chainOk sty.afterMinus (paren sty X ++ rest) := by
  have e : paren sty X ++ rest = .lp :: (ws? sty.insideParens ++ (X ++ (ws? sty.insideParens ++ .rp :: rest))) := by
    simp [paren]
  rw [e]
  refine chain_nl rfl rfl (chain_ws _ ?_ (adj_ws_start hs))
  exact hX _ (chain_ws _ (chain_nl rfl rfl hr) rfl) (closeHead_ws_rp _ _)

theorem good_operand {e : Expr} (he : GoodE sty mode e) (pl : Nat) (strict : Bool) :
    GoodTs sty (operand sty mode pl strict e) := by
  intro rest hr hc
  rw [operand]; split
  · exact good_paren he.ts (Pratt.headStart_printToks sty mode e) rest hr
  · exact he rest hr (Or.inl hc)

theorem good_binary {l r : Expr} (t : Tok) (hc : closeT t = true) (hli : isLI t = false)
    (ha : ∀ u, adj sty.afterMinus t (some u) = startT u) (L : Nat) (hl : GoodE sty mode l) (hr : GoodE sty mode r) :
    GoodTs sty (operand sty mode L false l ++ t :: operand sty mode L true r) := by
  intro rest hrest hcl
  rw [List.append_assoc, List.cons_append]
  exact good_operand hl L false _ (chain_nl hli
    (adj_start (fun u hu => (ha u).trans hu) (Pratt.headStart_operand sty mode L true r) rest)
    (good_operand hr L true rest hrest hcl)) hc


theorem adj_ident_head {b : Bool} {i : Ident} {rest : List Tok} (h : identHead rest = true) :
    adj b (.ident i) rest.head? = true := by
  unfold identHead at h
  cases hh : rest.head? with
  | none => rfl
  | some u => rw [hh] at h; simpa [adj] using h

theorem adj_lit_head {b : Bool} {k : LitKind} {v : Str} {rest : List Tok} (h : closeHead rest = true) :
    adj b (.lit k v) rest.head? = true := by
  unfold closeHead at h
  cases hh : rest.head? with
  | none => rfl
  | some u => rw [hh] at h; simpa [adj] using h

theorem good_ident {i : Ident} (hok : TokOk (.ident i)) : GoodE sty mode (.ident i) := by
  intro rest hr hcl
  have hi : identHead rest = true := hcl.elim identHead_of_close And.right
  simp only [printToks, List.cons_append, List.nil_append]
  exact chain_li hok (adj_ident_head hi) hr

theorem good_lit {k : LitKind} {v : Str} (hok : TokOk (.lit k v)) : GoodE sty mode (.lit k v) := by
  apply goodE_of_ts rfl
  intro rest hr hc
  simp only [printToks, List.cons_append, List.nil_append]
  exact chain_li hok (adj_lit_head hc) hr

theorem good_attr {o : Expr} {n : Str} (ho : GoodE sty mode o) (hp : isPathE o = true) (hok : TokOk (.ident ⟨n, []⟩)) :
    GoodE sty mode (.attr o n) := by
  intro rest hr hcl
  have hi : identHead rest = true := hcl.elim identHead_of_close And.right
  rw [printToks]
  simp only [List.append_assoc, List.cons_append, List.nil_append]
  exact ho _ (chain_nl rfl rfl (chain_li hok (adj_ident_head hi) hr)) (Or.inr ⟨hp, rfl⟩)

theorem good_binop {o : ArithOp} {l r : Expr} (hl : GoodE sty mode l) (hr : GoodE sty mode r) :
    GoodE sty mode (.binop o l r) := by
  apply goodE_of_ts rfl
  rw [printToks, List.append_assoc]
  exact good_binary (.arith o) rfl rfl (fun _ => rfl) _ hl hr

theorem good_boolop {o : BoolOp} {l r : Expr} (hl : GoodE sty mode l) (hr : GoodE sty mode r) :
    GoodE sty mode (.boolop o l r) := by
  apply goodE_of_ts rfl
  rw [printToks, List.append_assoc]
  exact good_binary (.bool o) rfl rfl (fun _ => rfl) _ hl hr

theorem good_compare {o : CmpOp} (ho : o ≠ .in_) {l r : Expr} (hl : GoodE sty mode l) (hr : GoodE sty mode r) :
    GoodE sty mode (.compare o l r) := by
  apply goodE_of_ts rfl
  rw [Pratt.printToks_compare sty mode ho]
  exact good_binary (.cmp o) rfl rfl (fun _ => rfl) _ hl hr

theorem good_in {l r : Expr} (hl : GoodE sty mode l) (hr : GoodE sty mode r) :
    GoodE sty mode (.compare .in_ l r) := by
  apply goodE_of_ts rfl
  intro rest hrest hc
  rw [printToks]
  simp only [List.append_assoc, List.cons_append, List.nil_append]
  refine good_operand hl 8 false _ ?_ rfl
  exact chain_nl rfl (adj_start (t := .cmp .in_) (fun _ hu => hu) (Pratt.headStart_printToks sty mode r) rest)
    (hr rest hrest (Or.inl hc))

theorem good_not {e : Expr} (he : GoodE sty mode e) : GoodE sty mode (.unary .not_ e) := by
  apply goodE_of_ts rfl
  intro rest hrest hc
  rw [printToks]
  simp only [List.cons_append, List.nil_append]
  exact chain_nl rfl (adj_start (t := .not_) (fun _ hu => hu) (Pratt.headStart_operand sty mode 7 false e) rest)
    (good_operand he 7 false rest hrest hc)

theorem good_neg {e : Expr} (he : GoodE sty mode e) : GoodE sty mode (.unary .neg e) := by
  apply goodE_of_ts rfl
  intro rest hrest hc
  rw [printToks]
  simp only [List.append_assoc, List.cons_append, List.nil_append]
  have hop := good_operand he 7 false rest hrest hc
  have hs := Pratt.headStart_operand sty mode 7 false e
  cases hb : sty.afterMinus with
  | false =>
    rw [hb] at hop
    simp only [ws?, Bool.false_eq_true, if_false, List.nil_append]
    exact chain_nl rfl (adj_start (fun u hu => by simp [adj, hu]) hs rest) hop
  | true =>
    rw [hb] at hop
    simp only [ws?, if_true, List.cons_append, List.nil_append]
    exact chain_nl rfl (by simp [adj, isUnsignedNumber]) (chain_nl rfl (adj_ws_start hs) hop)

theorem good_unary (o : UnOp) {e : Expr} (he : GoodE sty mode e) : GoodE sty mode (.unary o e) := by
  cases o
  · exact good_not he
  · exact good_neg he

theorem good_named {n : Ident} {e : Expr} (hok : TokOk (.ident n)) (he : GoodE sty mode e) :
    GoodE sty mode (.named n e) := by
  apply goodE_of_ts rfl
  intro rest hrest hc
  rw [printToks]
  simp only [List.cons_append, List.nil_append]
  exact chain_li hok rfl (chain_nl rfl rfl (he rest hrest (Or.inl hc)))


theorem good_args {a : Expr} {t : Exprs} (ha : GoodE sty mode a) (ht : t ≠ .nil → GoodTs sty (printArgs sty mode t)) :
    GoodTs sty (printArgs sty mode (.cons a t)) := by
  cases t with
  | nil => simpa [printArgs] using ha.ts
  | cons b t =>
    intro rest hr hc
    rw [Pratt.printArgs_cons2]
    simp only [commaToks, List.append_assoc, List.cons_append, List.nil_append]
    refine ha.ts _ (chain_ws _ (chain_nl rfl rfl (chain_ws _ (ht nofun rest hr hc) ?_)) rfl) (closeHead_ws_comma _ _)
    exact adj_ws_start (Pratt.headStart_printArgs sty mode b t)

theorem good_list {xs : Exprs} (hne : xs ≠ .nil) (h : GoodTs sty (printArgs sty mode xs)) : GoodE sty mode (.list xs) := by
  apply goodE_of_ts rfl
  intro rest hr hc
  cases xs with
  | nil => exact absurd rfl hne
  | cons a t =>
    cases t with
    | nil =>
      have ha : GoodTs sty (printToks sty mode a) := by simpa [printArgs] using h
      rw [printToks, printList]
      simp only [List.append_assoc, List.cons_append, List.nil_append]
      refine chain_nl rfl rfl (chain_ws _ ?_ (adj_ws_start (Pratt.headStart_printToks sty mode a)))
      exact ha _ (chain_ws _ (chain_nl rfl rfl (chain_ws _ (chain_nl rfl rfl hr) rfl)) rfl) (closeHead_ws_comma _ _)
    | cons b t =>
      have e : printToks sty mode (.list (.cons a (.cons b t))) = paren sty (printArgs sty mode (.cons a (.cons b t))) := by
        simp [printToks, printList]
      rw [e]
      exact good_paren h (Pratt.headStart_printArgs sty mode a _) rest hr

theorem good_call {f : Ident} {args : Exprs} (hok : TokOk (.ident f))
    (h : args ≠ .nil → GoodTs sty (printArgs sty mode args)) : GoodE sty mode (.call f args) := by
  apply goodE_of_ts rfl
  intro rest hr hc
  cases args with
  | nil =>
    rw [printToks]
    exact chain_li hok rfl (chain_nl rfl rfl (chain_nl rfl rfl hr))
  | cons a t =>
    rw [Pratt.printToks_call]
    exact chain_li hok rfl (good_paren (h nofun) (Pratt.headStart_printArgs sty mode a t) rest hr)

theorem chain_collOp {b : Bool} (op : CollOp) {r : List Tok} (h : chainOk b (.lp :: r)) :
    chainOk b ((if op = .any then Tok.any else Tok.all) :: .lp :: r) := by
  split <;> exact chain_nl rfl rfl h

theorem good_coll_none {ow : Expr} {op : CollOp} (how : GoodE sty mode ow) (hp : isPathE ow = true) :
    GoodE sty mode (.coll ow op .none) := by
  apply goodE_of_ts rfl
  intro rest hr hc
  rw [printToks]
  simp only [List.append_assoc, List.cons_append, List.nil_append]
  refine how _ (chain_nl rfl rfl ?_) (Or.inr ⟨hp, rfl⟩)
  exact chain_collOp op (chain_nl rfl rfl (chain_ws _ (chain_nl rfl rfl hr) rfl))

theorem good_coll_some {ow : Expr} {op : CollOp} {v : Ident} {b : Expr} (how : GoodE sty mode ow)
    (hp : isPathE ow = true) (hv : TokOk (.ident v)) (hb : GoodE sty mode b) :
    GoodE sty mode (.coll ow op (.some v b)) := by
  apply goodE_of_ts rfl
  intro rest hr hc
  rw [printToks]
  simp only [paren, List.append_assoc, List.cons_append, List.nil_append]
  refine how _ (chain_nl rfl rfl ?_) (Or.inr ⟨hp, rfl⟩)
  have hbody := hb.ts _ (chain_ws sty.insideParens (chain_nl (t := .rp) rfl rfl hr) rfl) (closeHead_ws_rp _ _)
  have hcolon := chain_nl (t := .colon) rfl rfl
    (chain_ws sty.afterColon hbody (adj_ws_start (Pratt.headStart_printToks sty mode b)))
  have hvar := chain_li hv (by cases sty.beforeColon <;> rfl) (chain_ws sty.beforeColon hcolon rfl)
  exact chain_collOp op (chain_nl rfl rfl (chain_ws _ hvar rfl))


end printer

theorem pathOk_attr {o : Expr} {n : Str} (h : pathOk (.attr o n) = true) : printable o = true ∧ isPathE o = true := by
  cases o with
  | ident i => exact ⟨rfl, rfl⟩
  | attr o' n' => exact ⟨(Bool.and_eq_true_iff.1 h).2, rfl⟩
  | _ => cases h

theorem pathOk_path {e : Expr} (h : pathOk e = true) : printable e = true ∧ isPathE e = true := by
  cases e with
  | ident i => exact ⟨rfl, rfl⟩
  | attr o n => exact ⟨h, rfl⟩
  | _ => cases h

end OQ.C13

#print axioms OQ.C13.GoodE.ts
#print axioms OQ.C13.adj_ident_head
#print axioms OQ.C13.adj_lit_head
#print axioms OQ.C13.adj_ws_start
#print axioms OQ.C13.chain_li
#print axioms OQ.C13.chain_nl
#print axioms OQ.C13.chain_ws
#print axioms OQ.C13.closeHead_ws_comma
#print axioms OQ.C13.closeHead_ws_rp
#print axioms OQ.C13.goodE_of_ts
#print axioms OQ.C13.good_attr
#print axioms OQ.C13.good_binary
#print axioms OQ.C13.good_binop
#print axioms OQ.C13.good_boolop
#print axioms OQ.C13.good_call
#print axioms OQ.C13.good_coll_none
#print axioms OQ.C13.good_coll_some
#print axioms OQ.C13.good_compare
#print axioms OQ.C13.good_ident
#print axioms OQ.C13.good_in
#print axioms OQ.C13.good_lit
#print axioms OQ.C13.good_named
#print axioms OQ.C13.good_neg
#print axioms OQ.C13.good_not
#print axioms OQ.C13.good_operand
#print axioms OQ.C13.good_paren
#print axioms OQ.C13.head_of_headStart
#print axioms OQ.C13.identHead_of_close
#print axioms OQ.C13.lexAll_head
#print axioms OQ.C13.lexAll_single
#print axioms OQ.C13.printable_compare
