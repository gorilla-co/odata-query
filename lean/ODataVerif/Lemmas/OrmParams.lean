/- For the lemmas about the ORM visitors (Lemmas/OrmTree.lean, Lemmas/OrmTotal.lean): inverting `do` blocks, an induction principle
   for `Expr`, and the function handlers of both visitors as data (`FPlan`), so that a fact about every handler is one about `runPlan`. -/
import ODataVerif.Model.Orm
import ODataVerif.Lemmas.ExprInduct
import ODataVerif.Lemmas.Basics
namespace OQ.OrmParams

theorem bind_eq_ok {α β} (x : Outcome α) (f : α → Outcome β) (b : β) :
    (x >>= f) = .ok b ↔ ∃ a, x = .ok a ∧ f a = .ok b :=
  ⟨Outcome.bind_eq_ok, fun ⟨a, ha, h⟩ => by rw [ha]; exact h⟩

theorem ite_eq_ok {α} {c : Prop} [Decidable c] {x y : Outcome α} {r : α} (hx : ∀ a, x ≠ .ok a)
    (h : (if c then x else y) = .ok r) : y = .ok r := by
  split at h
  · exact absurd h (hx r)
  · exact h

/-- invert a successful run of a `do` block (hypothesis `h : (do …) = .ok r`) into the successful runs of its steps -/
macro "ok_inv" " at " h:ident : tactic =>
  `(tactic| simp only [bind_eq_ok, Prod.exists, Outcome.pure_eq, Outcome.ok.injEq, Prod.mk.injEq, reduceCtorEq] at $h:ident)

section
variable {P : Expr → Prop}
  (ident : ∀ i, P (.ident i))
  (attr : ∀ o n, P o → P (.attr o n))
  (lit : ∀ k v, P (.lit k v))
  (list : ∀ xs : Exprs, (∀ a ∈ xs.toList, P a) → P (.list xs))
  (binop : ∀ o l r, P l → P r → P (.binop o l r))
  (compare : ∀ o l r, P l → P r → P (.compare o l r))
  (boolop : ∀ o l r, P l → P r → P (.boolop o l r))
  (unary : ∀ o e, P e → P (.unary o e))
  (named : ∀ n e, P (.named n e))
  (call : ∀ f (args : Exprs), (∀ a ∈ args.toList, P a) → P (.call f args))
  (coll : ∀ o op l, P (.coll o op l))
set_option linter.unusedSectionVars false
include ident attr lit list binop compare boolop unary named call coll

/-- `Expr.induct` with the premise about an argument list said of its members; lambdas are not entered -/
theorem expr_exprs_ind : (∀ e, P e) ∧ ∀ xs : Exprs, ∀ a ∈ xs.toList, P a :=
  have := Expr.induct (P := P) (Q := fun xs => ∀ a ∈ xs.toList, P a) (R := fun _ => True)
    ident attr lit list binop compare boolop unary (fun n e _ => named n e) call (fun o op l _ _ => coll o op l)
    nofun (fun h t ph pt a ha => by
      rcases List.mem_cons.1 ha with rfl | ha
      · exact ph
      · exact pt a ha)
    trivial (fun _ _ _ => trivial)
  ⟨this.1, this.2.1⟩

theorem expr_ind : (e : Expr) → P e :=
  (expr_exprs_ind ident attr lit list binop compare boolop unary named call coll).1
theorem exprs_ind : (xs : Exprs) → ∀ a ∈ xs.toList, P a :=
  (expr_exprs_ind ident attr lit list binop compare boolop unary named call coll).2
end

@[simp] theorem params_on1 (op a) : (on1 op a).params = a.params := List.append_nil _
@[simp] theorem params_on2 (op a b) : (on2 op a b).params = a.params ++ b.params := by
  rw [on2, OTree.params, OTrees.params, OTrees.params, OTrees.params, List.append_nil]
@[simp] theorem params_on3 (op a b c) : (on3 op a b c).params = a.params ++ (b.params ++ c.params) := by
  rw [on3, OTree.params, OTrees.params, OTrees.params, OTrees.params, OTrees.params, List.append_nil]
@[simp] theorem params_pint (z) : (OTree.pint z).params = [] := rfl
@[simp] theorem params_const (z) : (OTree.const z).params = [] := rfl
@[simp] theorem params_col (z) : (OTree.col z).params = [] := rfl
@[simp] theorem params_param (k v) : (OTree.param k v).params = [(k, v)] := rfl
@[simp] theorem params_node (op a) : (OTree.node op a).params = a.params := rfl
@[simp] theorem params_nil : OTrees.nil.params = [] := rfl
@[simp] theorem params_cons (h t) : (OTrees.cons h t).params = h.params ++ t.params := rfl
@[simp] theorem params_ofList_nil : (OTrees.ofList []).params = [] := rfl
@[simp] theorem params_ofList_cons (h t) : (OTrees.ofList (h :: t)).params = h.params ++ (OTrees.ofList t).params := rfl

@[simp] theorem skel_on1 (op a) : (on1 op a).skeleton = on1 op a.skeleton := rfl
@[simp] theorem skel_on2 (op a b) : (on2 op a b).skeleton = on2 op a.skeleton b.skeleton := rfl
@[simp] theorem skel_on3 (op a b c) : (on3 op a b c).skeleton = on3 op a.skeleton b.skeleton c.skeleton := rfl
@[simp] theorem skel_pint (z) : (OTree.pint z).skeleton = .pint z := rfl
@[simp] theorem skel_const (z) : (OTree.const z).skeleton = .const z := rfl
@[simp] theorem skel_col (z) : (OTree.col z).skeleton = .col z := rfl
@[simp] theorem skel_param (k v) : (OTree.param k v).skeleton = .param k [] := rfl
@[simp] theorem skel_node (op a) : (OTree.node op a).skeleton = .node op a.skeleton := rfl
@[simp] theorem skel_nil : OTrees.nil.skeleton = .nil := rfl
@[simp] theorem skel_cons (h t) : (OTrees.cons h t).skeleton = .cons h.skeleton t.skeleton := rfl
@[simp] theorem skel_ofList_nil : (OTrees.ofList []).skeleton = .nil := rfl
@[simp] theorem skel_ofList_cons (h t) :
    (OTrees.ofList (h :: t)).skeleton = .cons h.skeleton (OTrees.ofList t).skeleton := rfl

theorem litParam_ok (k v p) (h : litParam k v = .ok p) : p = .param k v := by
  unfold litParam at h
  cases k <;> simp only [] at h <;> (try split at h) <;> first | (injection h with h; exact h.symm) | cases h

theorem isNullLit_iff (e : Expr) : isNullLit e = true ↔ ∃ v, e = .lit .null v := by
  unfold isNullLit
  split <;> simp_all

/-- the shapes of the `djangofunc_*` / `func_*` handlers: how many arguments are unpacked, what is checked, what is built -/
inductive FPlan
  | un (name : String) | un2 (n1 n2 : String) | like (name : String) | likeEsc (name : String) | bin (name : String)
  | concat2 (name : String) | concatN (name : String) | indexof (name : String)
  | substring (name : String) | now (name : String) | bad (key : String)

/-- the numbers of arguments a handler unpacks without a TypeError -/
def FPlan.arity : FPlan → Nat → Bool
  | .un _, n | .un2 _ _, n => n == 1
  | .like _, n | .likeEsc _, n | .bin _, n | .indexof _, n => n == 2
  | .substring _, n => n == 2 || n == 3
  | .now _, n => n == 0
  | .concat2 _, _ | .concatN _, _ | .bad _, _ => true

def visitAll (visit : Expr → Outcome (OTree × OKind)) : Exprs → Outcome (List OTree)
  | .nil => .ok []
  | .cons h t => do
      let (a, _) ← visit h
      let rest ← visitAll visit t
      pure (a :: rest)

theorem djVisitList_eq : (xs : Exprs) → djVisitList xs = visitAll djVisit xs
  | .nil => by rw [djVisitList, visitAll]
  | .cons h t => by rw [djVisitList, visitAll, djVisitList_eq t]

theorem saVisitList_eq (fields core) : (xs : Exprs) → saVisitList fields core xs = visitAll (saVisit fields core) xs
  | .nil => by rw [saVisitList, visitAll]
  | .cons h t => by rw [saVisitList, visitAll, saVisitList_eq fields core t]

section
variable (visit : Expr → Outcome (OTree × OKind)) (visitList : Exprs → Outcome (List OTree))
/-- Each plan matches on the arguments exactly as the handler it stands for does, so that a handler IS its plan by `rfl`. -/
def runPlan (plan : FPlan) (args : Exprs) : Outcome (OTree × OKind) :=
  match plan with
  | .un name =>
      match args with
      | .cons a .nil => do
          let (t, _) ← visit a
          pure (on1 name t, .expr)
      | _ => .foreign "TypeError"
  | .un2 n1 n2 =>
      match args with
      | .cons a .nil => do
          let (t, _) ← visit a
          pure (on1 n1 (on1 n2 t), .expr)
      | _ => .foreign "TypeError"
  | .like name =>
      match args with
      | .cons a (.cons b .nil) => do
          substrTypecheck a b
          let (x, _) ← visit a
          let (y, _) ← visit b
          pure (on2 name x y, .cond)
      | _ => .foreign "TypeError"
  | .likeEsc name =>
      match args with
      | .cons a (.cons b .nil) => do
          substrTypecheck a b
          let (x, _) ← visit a
          let (y, _) ← visit b
          pure (on2 (if litNeedsEscape b then name ++ "_autoescape" else name) x y, .cond)
      | _ => .foreign "TypeError"
  | .bin name =>
      match args with
      | .cons a (.cons b .nil) => do
          let (x, _) ← visit a
          let (y, _) ← visit b
          pure (on2 name x y, .cond)
      | _ => .foreign "TypeError"
  | .concat2 name => do
      let items ← visitList args
      match items with
      | [a, b] => pure (on2 name a b, .expr)
      | _ => .foreign "unmodelled"
  | .concatN name => do
      let items ← visitList args
      pure (.node name (OTrees.ofList items), .expr)
  | .indexof name =>
      match args with
      | .cons a (.cons b .nil) => do
          let (x, _) ← visit a
          let (y, _) ← visit b
          pure (on2 "-" (on2 name x y) (.pint 1), .expr)
      | _ => .foreign "TypeError"
  | .substring name =>
      match args with
      | .cons a (.cons b .nil) => do
          let (x, _) ← visit a
          let (i, _) ← visit b
          pure (on2 name x (on2 "+" i (.pint 1)), .expr)
      | .cons a (.cons b (.cons c .nil)) => do
          let (x, _) ← visit a
          let (i, _) ← visit b
          let (n, _) ← visit c
          pure (on3 name x (on2 "+" i (.pint 1)) n, .expr)
      | _ => .foreign "TypeError"
  | .now name =>
      match args with
      | .nil => .ok (.node name .nil, .expr)
      | _ => .foreign "TypeError"
  | .bad key => .lib (.unsupportedFunction key.toList)
end

/-- the handler of each key, Django's beside SQLAlchemy's -/
def plans (key : String) : FPlan × FPlan :=
  match key with
  | "contains" => (.like "contains", .likeEsc "contains")
  | "startswith" => (.like "startswith", .likeEsc "startswith")
  | "endswith" => (.like "endswith", .likeEsc "endswith")
  | "length" => (.un "Length", .un "char_length")
  | "concat" => (.concat2 "Concat", .concatN "concat")
  | "indexof" => (.indexof "StrIndex", .indexof "strpos")
  | "substring" => (.substring "Substr", .substring "substr")
  | "matchespattern" => (.bin "regex", .bin "regexp_match")
  | "tolower" => (.un "Lower", .un "lower")
  | "toupper" => (.un "Upper", .un "upper")
  | "trim" => (.un "Trim", .un2 "ltrim" "rtrim")
  | "date" => (.un "TruncDate", .un "cast_date")
  | "time" => (.un "TruncTime", .un "cast_time")
  | "day" => (.un "ExtractDay", .un "extract_day")
  | "hour" => (.un "ExtractHour", .un "extract_hour")
  | "minute" => (.un "ExtractMinute", .un "extract_minute")
  | "month" => (.un "ExtractMonth", .un "extract_month")
  | "second" => (.un "ExtractSecond", .un "extract_second")
  | "year" => (.un "ExtractYear", .un "extract_year")
  | "ceiling" => (.un "Ceil", .un "ceil")
  | "floor" => (.un "Floor", .un "floor")
  | "round" => (.un "Round", .un "round")
  | "now" => (.now "Now", .now "now")
  | _ => (.bad key, .bad key)

def djPlan (key : String) : FPlan := (plans key).1
def saPlan (key : String) : FPlan := (plans key).2

theorem saPlan_arity (key : String) : (saPlan key).arity = (djPlan key).arity := by
  unfold saPlan djPlan plans
  split <;> rfl

theorem djFunc_eq (key args) : djFunc key args = runPlan djVisit (visitAll djVisit) (djPlan key) args := by
  rw [← funext djVisitList_eq]
  unfold djFunc
  dsimp only
  split
  case h_24 =>
    -- no key matched: the plan table, matching on the same keys, falls through as well
    unfold djPlan plans
    simp only [*]
    rfl
  all_goals rfl

theorem saFunc_eq (fields core key args) :
    saFunc fields core key args = runPlan (saVisit fields core) (visitAll (saVisit fields core)) (saPlan key) args := by
  rw [← funext (saVisitList_eq fields core)]
  unfold saFunc
  dsimp only
  split
  case h_24 =>
    -- no key matched: the plan table, matching on the same keys, falls through as well
    unfold saPlan plans
    simp only [*]
    rfl
  all_goals rfl

end OQ.OrmParams
