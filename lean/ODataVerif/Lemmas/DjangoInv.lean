/- Lemmas/DjangoInv.lean — the fragment of the typed grammar the Django visitor translates (`C02.djFrag`), and the invariant of the
   three sorts behind Props/C02.lean: the visitor returns a tree on the fragment and a library exception elsewhere; the kind of
   the tree; its SQL evaluates to the term's value on every row inside `semOkDj`. -/
import ODataVerif.Lemmas.DjangoSound
namespace OQ.C02
open Spec

mutual
def noNegI : IntE → Bool
  | .lit _ _ | .col _ => true
  | .neg _ => false
  | .arith _ l r => noNegI l && noNegI r
  | .length s => noNegS s
  | .indexof a b => noNegS a && noNegS b
def noNegS : StrE → Bool
  | .lit _ | .col _ => true
  | .concat a b => noNegS a && noNegS b
  | .substring s i => noNegS s && noNegI i
  | .substring3 s i n => noNegS s && noNegI i && noNegI n
  | .tolower s | .toupper s | .trim s => noNegS s
end
def noNegIs : List IntE → Bool
  | [] => true
  | e :: t => noNegI e && noNegIs t
def noNegSs : List StrE → Bool
  | [] => true
  | e :: t => noNegS e && noNegSs t

/-- a bare Boolean field or literal is not a condition the Django backend accepts -/
def isCond : BoolE → Bool
  | .col _ | .lit _ => false
  | _ => true

/-- the filters the Django visitor translates: `cond = true` for positions where a condition is required
    (top level, operands of and / or / not), `false` for operands of eq / ne -/
def djFragAux : Bool → BoolE → Bool
  | _, .cmpI _ l r => noNegI l && noNegI r
  | _, .cmpS _ l r => noNegS l && noNegS r
  | _, .cmpB k l r => (k == .eq || k == .ne) && djFragAux false l && djFragAux false r
  | _, .isNull _ _ _ => true
  | _, .inI e xs => noNegI e && noNegIs xs
  | _, .inS e xs => noNegS e && noNegSs xs
  | _, .and l r => djFragAux true l && djFragAux true r
  | _, .or l r => djFragAux true l && djFragAux true r
  | _, .not e => djFragAux true e
  | _, .like _ a b => noNegS a && noNegS b
  | cond, .col _ => !cond
  | cond, .lit _ => !cond
def djFrag (b : BoolE) : Bool := djFragAux true b

end OQ.C02

namespace OQ.DjangoSound
open Spec SqliteSound SqliteLike OrmSound C02

theorem isCond_of_frag {b : BoolE} (h : djFragAux true b = true) : isCond b = true := by
  cases b <;> first | rfl | exact h

mutual
theorem specI : (e : IntE) → res (noNegI e = true) (fun p => noNegI e = true ∧ valKind p.2 ∧
    ∀ ρ, semOkDjI ρ e = true → djDen ρ p.1 (valI (evalI ρ e))) (djVisit e.toExpr)
  | .lit neg ds => by
      rw [IntE.toExpr, visit_litInt]
      refine res_pure ⟨rfl, .inr (.inl rfl), fun ρ hs => ?_⟩
      rw [semOkDjI] at hs
      exact ⟨_, paramTree_int neg ds hs, by rw [evalI]; exact eval_intLit ρ neg ds hs⟩
  | .col c => by
      rw [IntE.toExpr, visit_ident]
      refine res_pure ⟨rfl, .inl rfl, fun ρ hs => ?_⟩
      rw [semOkDjI] at hs
      exact ⟨_, sql_col c, by rw [eval_col, evalI, C01.ofVal_int ρ c hs]⟩
  | .neg e => by
      -- no `visit_USub`: whatever the operand, a library exception
      rw [IntE.toExpr, visit_unary]
      simp only [noNegI]
      refine res_bind (specI e) (fun h => nomatch h) fun a _ => ?_
      split <;> exact Bool.false_ne_true
  | .arith k l r => by
      rw [IntE.toExpr, visit_binop]
      simp only [noNegI, Bool.and_eq_true]
      refine res_bind (specI l) And.left fun a ha => res_bind (specI r) And.right fun b hb => binop_res _ ha.2.1 hb.2.1
        ⟨⟨ha.1, hb.1⟩, .inr (.inr rfl), fun ρ hs => ?_⟩
      rw [semOkDjI, Bool.and_eq_true] at hs
      obtain ⟨sa, hsa, hea⟩ := ha.2.2 ρ hs.1
      obtain ⟨sb, hsb, heb⟩ := hb.2.2 ρ hs.2
      exact ⟨_, by rw [sql_arith, hsa, hsb]; rfl, by rw [evalI_arith]; exact eval_arith ρ k sa sb _ _ hea heb⟩
  | .length s => by
      rw [IntE.toExpr, visit_length]
      simp only [noNegI]
      refine res_bind (specS s) id fun a ha => res_pure ⟨ha.1, .inr (.inr rfl), fun ρ hs => ?_⟩
      rw [semOkDjI] at hs
      obtain ⟨sa, hsa, hea⟩ := ha.2 ρ hs
      exact ⟨_, by rw [sql_length, hsa]; rfl, by rw [evalI]; exact eval_length ρ sa _ hea⟩
  | .indexof x y => by
      rw [IntE.toExpr, visit_indexof]
      simp only [noNegI, Bool.and_eq_true]
      refine res_bind (specS x) And.left fun a ha => res_bind (specS y) And.right fun b hb =>
        res_pure ⟨⟨ha.1, hb.1⟩, .inr (.inr rfl), fun ρ hs => ?_⟩
      rw [semOkDjI, Bool.and_eq_true] at hs
      obtain ⟨sa, hsa, hea⟩ := ha.2 ρ hs.1
      obtain ⟨sb, hsb, heb⟩ := hb.2 ρ hs.2
      exact ⟨_, by rw [sql_minus1, sql_strindex, hsa, hsb]; rfl,
        by rw [evalI_indexof]; exact eval_indexof ρ sa sb _ _ hea heb⟩
theorem specS : (e : StrE) → res (noNegS e = true) (fun p => noNegS e = true ∧
    ∀ ρ, semOkDjS ρ e = true → djDen ρ p.1 (valS (evalS ρ e))) (djVisit e.toExpr)
  | .lit s => by
      rw [StrE.toExpr, visit_litStr]
      exact res_pure ⟨rfl, fun ρ _ => ⟨.str s, rfl, by rw [eval_str, evalS]; rfl⟩⟩
  | .col c => by
      rw [StrE.toExpr, visit_ident]
      refine res_pure ⟨rfl, fun ρ hs => ?_⟩
      rw [semOkDjS] at hs
      exact ⟨_, sql_col c, by rw [eval_col, evalS, C01.ofVal_str ρ c hs]⟩
  | .concat x y => by
      rw [StrE.toExpr, visit_concat]
      simp only [noNegS, Bool.and_eq_true]
      refine res_bind (specS x) And.left fun a ha => res_bind (specS y) And.right fun b hb =>
        res_pure ⟨⟨ha.1, hb.1⟩, fun ρ hs => ?_⟩
      simp only [semOkDjS, Bool.and_eq_true] at hs
      obtain ⟨sa, hsa, hea⟩ := ha.2 ρ hs.1.1.1
      obtain ⟨sb, hsb, heb⟩ := hb.2 ρ hs.1.1.2
      -- Django wraps both operands in COALESCE(…, ''): the value is right only when neither is NULL
      obtain ⟨vx, hx⟩ := Option.isSome_iff_exists.mp hs.1.2
      obtain ⟨vy, hy⟩ := Option.isSome_iff_exists.mp hs.2
      rw [hx] at hea
      rw [hy] at heb
      refine ⟨_, by rw [sql_concat, hsa, hsb]; rfl, ?_⟩
      rw [evalS, hx, hy]
      exact eval_concat ρ _ _ (some vx) (some vy) (eval_coalesce ρ sa vx hea) (eval_coalesce ρ sb vy heb)
  | .substring x i => by
      rw [StrE.toExpr, visit_substring2]
      simp only [noNegS, Bool.and_eq_true]
      refine res_bind (specS x) And.left fun a ha => res_bind (specI i) And.right fun b hb =>
        res_pure ⟨⟨ha.1, hb.1⟩, fun ρ hs => ?_⟩
      simp only [semOkDjS, Bool.and_eq_true] at hs
      obtain ⟨sa, hsa, hea⟩ := ha.2 ρ hs.1.1
      obtain ⟨sb, hsb, heb⟩ := hb.2.2 ρ hs.1.2
      exact ⟨_, by rw [sql_substr2, sql_plus1, hsa, hsb]; rfl,
        by rw [evalS_substring]; exact eval_substring2 ρ sa sb _ _ hea heb (C01.nonnegO_of _ hs.2)⟩
  | .substring3 x i n => by
      rw [StrE.toExpr, visit_substring3]
      simp only [noNegS, Bool.and_eq_true]
      refine res_bind (specS x) (·.1.1) fun a ha => res_bind (specI i) (·.1.2) fun b hb => res_bind (specI n) (·.2) fun c hc =>
        res_pure ⟨⟨⟨ha.1, hb.1⟩, hc.1⟩, fun ρ hs => ?_⟩
      simp only [semOkDjS, Bool.and_eq_true] at hs
      obtain ⟨sa, hsa, hea⟩ := ha.2 ρ hs.1.1.1.1
      obtain ⟨sb, hsb, heb⟩ := hb.2.2 ρ hs.1.1.1.2
      obtain ⟨sc, hsc, hec⟩ := hc.2.2 ρ hs.1.1.2
      exact ⟨_, by rw [sql_substr3, sql_plus1, hsa, hsb, hsc]; rfl, by
        rw [evalS_substring3]
        exact eval_substring3 ρ sa sb sc _ _ _ hea heb hec (C01.nonnegO_of _ hs.1.2) (C01.nonnegO_of _ hs.2)⟩
  | .tolower x => by
      rw [StrE.toExpr, visit_tolower]
      simp only [noNegS]
      refine res_bind (specS x) id fun a ha => res_pure ⟨ha.1, fun ρ hs => ?_⟩
      rw [semOkDjS] at hs
      obtain ⟨sa, hsa, hea⟩ := ha.2 ρ hs
      exact ⟨_, by rw [sql_lower, hsa]; rfl, by rw [evalS]; exact eval_lower ρ sa _ hea⟩
  | .toupper x => by
      rw [StrE.toExpr, visit_toupper]
      simp only [noNegS]
      refine res_bind (specS x) id fun a ha => res_pure ⟨ha.1, fun ρ hs => ?_⟩
      rw [semOkDjS] at hs
      obtain ⟨sa, hsa, hea⟩ := ha.2 ρ hs
      exact ⟨_, by rw [sql_upper, hsa]; rfl, by rw [evalS]; exact eval_upper ρ sa _ hea⟩
  | .trim x => by
      rw [StrE.toExpr, visit_trim]
      simp only [noNegS]
      refine res_bind (specS x) id fun a ha => res_pure ⟨ha.1, fun ρ hs => ?_⟩
      rw [semOkDjS] at hs
      obtain ⟨sa, hsa, hea⟩ := ha.2 ρ hs
      exact ⟨_, by rw [sql_trim, hsa]; rfl, by rw [evalS]; exact eval_trim ρ sa _ hea⟩
end

theorem specIs : (xs : List IntE) → res (noNegIs xs = true) (fun items => ∀ ρ, semOkDjIs ρ xs = true →
    djDenList ρ items ((evalIs ρ xs).map valI)) (djVisitList (intsToExprs xs))
  | [] => by
      rw [intsToExprs, visitList_nil]
      exact res_pure fun ρ _ => ⟨.nil, rfl, by rw [sqlEvalList]; rfl⟩
  | e :: r => by
      rw [intsToExprs, visitList_cons]
      simp only [noNegIs, Bool.and_eq_true]
      refine res_bind (specI e) And.left fun a ha => res_bind (specIs r) And.right fun rest hr => res_pure fun ρ hs => ?_
      rw [semOkDjIs, Bool.and_eq_true] at hs
      exact djDenList_cons (ha.2.2 ρ hs.1) (hr ρ hs.2)
theorem specSs : (xs : List StrE) → res (noNegSs xs = true) (fun items => ∀ ρ, semOkDjSs ρ xs = true →
    djDenList ρ items ((evalSs ρ xs).map valS)) (djVisitList (strsToExprs xs))
  | [] => by
      rw [strsToExprs, visitList_nil]
      exact res_pure fun ρ _ => ⟨.nil, rfl, by rw [sqlEvalList]; rfl⟩
  | e :: r => by
      rw [strsToExprs, visitList_cons]
      simp only [noNegSs, Bool.and_eq_true]
      refine res_bind (specS e) And.left fun a ha => res_bind (specSs r) And.right fun rest hr => res_pure fun ρ hs => ?_
      rw [semOkDjSs, Bool.and_eq_true] at hs
      exact djDenList_cons (ha.2 ρ hs.1) (hr ρ hs.2)

/-- `cond`: a condition is required at this position (top level, operands of and / or / not); the result is one unless the
    filter is a bare Boolean field or literal -/
theorem specB : (b : BoolE) → (cond : Bool) → res (djFragAux cond b = true) (fun p => condKind p.2 ∧
    (isCond b = true → p.2 = .cond) ∧ ∀ ρ, semOkDj ρ b = true → djDen ρ p.1 (v3ToVal (evalB ρ b))) (djVisit b.toExpr)
  | .cmpI k l r, _ => by
      rw [BoolE.toExpr, visit_compare _ _ _ (C01.isNullLit_I l) (C01.isNullLit_I r)]
      simp only [djFragAux, Bool.and_eq_true]
      refine res_bind (specI l) And.left fun a ha => res_bind (specI r) And.right fun b hb =>
        res_pure ⟨.inl rfl, fun _ => rfl, fun ρ hs => ?_⟩
      rw [semOkDj, Bool.and_eq_true] at hs
      exact cmp_djDen k (ha.2.2 ρ hs.1) (hb.2.2 ρ hs.2) (by rw [evalB_cmpI, cmpVals_int])
  | .cmpS k l r, _ => by
      rw [BoolE.toExpr, visit_compare _ _ _ (C01.isNullLit_S l) (C01.isNullLit_S r)]
      simp only [djFragAux, Bool.and_eq_true]
      refine res_bind (specS l) And.left fun a ha => res_bind (specS r) And.right fun b hb =>
        res_pure ⟨.inl rfl, fun _ => rfl, fun ρ hs => ?_⟩
      rw [semOkDj, Bool.and_eq_true] at hs
      exact cmp_djDen k (ha.2 ρ hs.1) (hb.2 ρ hs.2) (by rw [evalB_cmpS, cmpVals_str])
  | .cmpB k l r, _ => by
      rw [BoolE.toExpr, visit_compare _ _ _ (C01.isNullLit_B l) (C01.isNullLit_B r)]
      simp only [djFragAux, Bool.and_eq_true]
      refine res_bind (specB l false) (·.1.2) fun a ha => res_bind (specB r false) (·.2) fun b hb =>
        res_pure ⟨.inl rfl, fun _ => rfl, fun ρ hs => ?_⟩
      simp only [semOkDj, Bool.and_eq_true] at hs
      exact cmp_djDen k (ha.2.2 ρ hs.1.1.1.1.2) (hb.2.2 ρ hs.1.1.1.2) (by rw [evalB_cmpB, cmpVals_bool k hs.1.1.1.1.1])
  | .isNull _ c negated, _ => by
      rw [BoolE.toExpr, visit_isNull]
      refine res_pure ⟨.inl rfl, fun _ => rfl, fun ρ _ => ?_⟩
      cases negated
      · exact ⟨.bin (S "IS") (.col none c) (.kw (S "NULL")), rfl, by rw [eval_isNull, evalB]; simp⟩
      · exact ⟨.bin (S "ISNOT") (.col none c) (.kw (S "NULL")), rfl, by rw [eval_isNotNull, evalB]; simp⟩
  | .inI e xs, _ => by
      rw [BoolE.toExpr, visit_in _ _ (C01.isNullLit_I e)]
      simp only [djFragAux, Bool.and_eq_true]
      refine res_bind (specI e) And.left fun a ha => res_bind (specIs xs) And.right fun items hi =>
        res_pure ⟨.inl rfl, fun _ => rfl, fun ρ hs => ?_⟩
      simp only [semOkDj, Bool.and_eq_true] at hs
      exact in_djDen (ha.2.2 ρ hs.1.1) (hi ρ hs.1.2) fun s ts h1 h2 => by rw [evalB]; exact eval_inI ρ s ts _ _ h1 h2
  | .inS e xs, _ => by
      rw [BoolE.toExpr, visit_in _ _ (C01.isNullLit_S e)]
      simp only [djFragAux, Bool.and_eq_true]
      refine res_bind (specS e) And.left fun a ha => res_bind (specSs xs) And.right fun items hi =>
        res_pure ⟨.inl rfl, fun _ => rfl, fun ρ hs => ?_⟩
      simp only [semOkDj, Bool.and_eq_true] at hs
      exact in_djDen (ha.2 ρ hs.1.1) (hi ρ hs.1.2) fun s ts h1 h2 => by rw [evalB]; exact eval_inS ρ s ts _ _ h1 h2
  | .and l r, _ => by
      rw [BoolE.toExpr, visit_boolop]
      simp only [djFragAux, Bool.and_eq_true]
      refine res_bind (specB l true) And.left fun a ha => res_bind (specB r true) And.right fun b hb =>
        boolop_res _ _ ha.1 hb.1 (fun h => ⟨ha.2.1 (isCond_of_frag h.1), hb.2.1 (isCond_of_frag h.2)⟩)
          ⟨.inl rfl, fun _ => rfl, fun ρ hs => ?_⟩
      rw [semOkDj, Bool.and_eq_true] at hs
      obtain ⟨sa, hsa, hea⟩ := ha.2.2 ρ hs.1
      obtain ⟨sb, hsb, heb⟩ := hb.2.2 ρ hs.2
      exact ⟨_, by rw [sql_bool .and_, hsa, hsb]; rfl, by rw [evalB]; exact eval_and ρ sa sb _ _ hea heb⟩
  | .or l r, _ => by
      rw [BoolE.toExpr, visit_boolop]
      simp only [djFragAux, Bool.and_eq_true]
      refine res_bind (specB l true) And.left fun a ha => res_bind (specB r true) And.right fun b hb =>
        boolop_res _ _ ha.1 hb.1 (fun h => ⟨ha.2.1 (isCond_of_frag h.1), hb.2.1 (isCond_of_frag h.2)⟩)
          ⟨.inl rfl, fun _ => rfl, fun ρ hs => ?_⟩
      rw [semOkDj, Bool.and_eq_true] at hs
      obtain ⟨sa, hsa, hea⟩ := ha.2.2 ρ hs.1
      obtain ⟨sb, hsb, heb⟩ := hb.2.2 ρ hs.2
      exact ⟨_, by rw [sql_bool .or_, hsa, hsb]; rfl, by rw [evalB]; exact eval_or ρ sa sb _ _ hea heb⟩
  | .not e, _ => by
      rw [BoolE.toExpr, visit_unary]
      simp only [djFragAux]
      refine res_bind (specB e true) id fun a ha =>
        not_res _ ha.1 (fun h => ha.2.1 (isCond_of_frag h)) ⟨.inl rfl, fun _ => rfl, fun ρ hs => ?_⟩
      rw [semOkDj] at hs
      obtain ⟨sa, hsa, hea⟩ := ha.2.2 ρ hs
      exact ⟨_, by rw [sql_not, hsa]; rfl, by rw [evalB]; exact eval_not ρ sa _ hea⟩
  | .like k x y, _ => by
      rw [BoolE.toExpr, visit_like]
      simp only [djFragAux, Bool.and_eq_true]
      refine res_bind (specS x) And.left fun a ha => res_bind (specS y) And.right fun b hb =>
        res_pure ⟨.inl rfl, fun _ => rfl, fun ρ hs => ?_⟩
      simp only [semOkDj, Bool.and_eq_true] at hs
      obtain ⟨sa, hsa, hea⟩ := ha.2 ρ hs.1.1
      obtain ⟨sb, hsb, heb⟩ := hb.2 ρ hs.1.2
      refine ⟨_, by rw [sql_like, hsa, hsb]; rfl, ?_⟩
      -- SQLite's LIKE folds ASCII case: the rows on which that shows are excluded by `semOkDj`
      have hci : cmp2 (likeCI k) (evalS ρ x) (evalS ρ y) = cmp2 (likeSem k) (evalS ρ x) (evalS ρ y) :=
        cmp2_congr fun h n hx hy => by
          have h2 := hs.2
          rw [hx, hy] at h2
          simpa using h2
      rw [evalB_like, ← hci]
      exact eval_like ρ (some '\\') _ _ hea
        (by rw [eval_catPat ρ k _ _ (eval_escape ρ sb _ heb), Option.map_map]; rfl)
        fun h n _ _ => sqliteLike_lit_esc k h n
  | .col c, _ => by
      rw [BoolE.toExpr, visit_ident]
      exact res_pure ⟨.inr (.inl rfl), (fun h => Bool.noConfusion h),
        fun ρ hs => ⟨_, sql_col c, by rw [eval_col, C01.ofVal_bool ρ c hs]⟩⟩
  | .lit b, _ => by
      rw [BoolE.toExpr, visit_litBool]
      refine res_pure ⟨.inr (.inr rfl), (fun h => Bool.noConfusion h), fun ρ _ => ?_⟩
      obtain ⟨s, h1, h2⟩ := eval_paramBool ρ b
      exact ⟨s, h1, by rw [evalB]; exact h2⟩

end OQ.DjangoSound
