/- For C07 `noninterference`: filters with the same skeleton are rendered to piece lists of the same shape, or fail alike.
   `Skel e e'` is the propositional form of `C07.sameSkel e e' = true` (slightly weaker on the nodes the SQL visitors
   reject outright: attribute paths, named parameters, collection lambdas). -/
import ODataVerif.Lemmas.SqlModel
import ODataVerif.Lemmas.ExprInduct
namespace OQ.SqlShape
open Spec

mutual
inductive Skel : Expr → Expr → Prop
  | ident (i i') : Skel (.ident i) (.ident i')
  | attr (o n o' n') : Skel (.attr o n) (.attr o' n')
  | str (a b) : (likeEscape a != a) = (likeEscape b != b) → Skel (.lit .str a) (.lit .str b)
  | lit (k v) : Skel (.lit k v) (.lit k v)
  | list {xs ys} : SkelList xs ys → Skel (.list xs) (.list ys)
  | binop (o) {l l' r r'} : Skel l l' → Skel r r' → Skel (.binop o l r) (.binop o l' r')
  | compare (o) {l l' r r'} : Skel l l' → Skel r r' → Skel (.compare o l r) (.compare o l' r')
  | boolop (o) {l l' r r'} : Skel l l' → Skel r r' → Skel (.boolop o l r) (.boolop o l' r')
  | unary (o) {e e'} : Skel e e' → Skel (.unary o e) (.unary o e')
  | named (n e n' e') : Skel (.named n e) (.named n' e')
  | call (f) {a a'} : SkelList a a' → Skel (.call f a) (.call f a')
  | coll (o op l o' op' l') : Skel (.coll o op l) (.coll o' op' l')
inductive SkelList : Exprs → Exprs → Prop
  | nil : SkelList .nil .nil
  | cons {h h' t t'} : Skel h h' → SkelList t t' → SkelList (.cons h t) (.cons h' t')
end

/-- erase what the filter chose (same function as `C07.shapeP`) -/
def shP : Piece → Piece
  | .tok t => .tok t.shape
  | .dq _ => .dq []
  | p => p

abbrev SameSh (a b : List Piece) : Prop := a.map shP = b.map shP

@[simp] theorem shP_tok (t) : shP (.tok t) = .tok t.shape := rfl
@[simp] theorem shP_dq (s) : shP (.dq s) = .dq [] := rfl
@[simp] theorem shP_sq (s) : shP (.sq s) = .sq s := rfl
@[simp] theorem shP_raw (s) : shP (.raw s) = .raw s := rfl
@[simp] theorem shP_ws (s) : shP (.ws s) = .ws s := rfl
@[simp] theorem shP_w (s) : shP (w s) = w s := rfl
@[simp] theorem shP_o (s) : shP (o s) = o s := rfl
@[simp] theorem shP_sp : shP sp = sp := rfl
@[simp] theorem shP_lp : shP lp = lp := rfl
@[simp] theorem shP_rp : shP rp = rp := rfl
@[simp] theorem shP_comma : shP comma = comma := rfl
@[simp] theorem shape_str (s) : SqlTok.shape (.str s) = .str [] := rfl
@[simp] theorem shape_qid (s) : SqlTok.shape (.qid s) = .qid [] := rfl

theorem map_parenP (ps) : (parenP ps).map shP = parenP (ps.map shP) := by simp [parenP]

theorem same_parenP {a b} (h : SameSh a b) : SameSh (parenP a) (parenP b) := by
  simp only [SameSh, map_parenP, h]

theorem same_append {a b c d} (h1 : SameSh a b) (h2 : SameSh c d) : SameSh (a ++ c) (b ++ d) := by
  simp only [SameSh, List.map_append, h1, h2]

theorem same_cons (p) {a b} (h : SameSh a b) : SameSh (p :: a) (p :: b) := by
  simp only [SameSh, List.map_cons, h]

theorem same_refl (a) : SameSh a a := rfl

abbrev SameShL (a b : List (List Piece)) : Prop := a.map (List.map shP) = b.map (List.map shP)

theorem map_joinComma : ∀ xs : List (List Piece), (joinComma xs).map shP = joinComma (xs.map (List.map shP))
  | [] => rfl
  | [x] => rfl
  | x :: y :: r => by
      have ih := map_joinComma (y :: r)
      simp only [joinComma, List.map_cons, List.map_append, shP_comma, shP_sp] at ih ⊢
      rw [ih]

theorem same_joinComma (xs ys : List (List Piece)) (h : SameShL xs ys) : SameSh (joinComma xs) (joinComma ys) := by
  simp only [SameSh, map_joinComma, h]

theorem same_getD {xs ys : List (List Piece)} (h : SameShL xs ys) (i : Nat) :
    SameSh (xs.getD i []) (ys.getD i []) := by
  have key : ∀ zs : List (List Piece), (zs.getD i []).map shP = (zs.map (List.map shP)).getD i [] := by
    intro zs
    simp only [List.getD_eq_getElem?_getD, List.getElem?_map]
    cases zs[i]? <;> simp
  simp only [SameSh, key, h]

theorem sqlPrec_skel {e e'} (h : Skel e e') : sqlPrec e = sqlPrec e' := by
  cases h <;> first | rfl | (rename_i o _ _ _ _ _ _; cases o <;> rfl) | (rename_i o _ _ _; cases o <;> rfl)

theorem isNullLit_skel {e e'} (h : Skel e e') : isNullLit e = isNullLit e' := by
  cases h <;> rfl

theorem isBoolOp_skel {e e'} (h : Skel e e') : isBoolOp e = isBoolOp e' := by
  cases h <;> rfl

theorem length_skel : ∀ (xs ys : Exprs), SkelList xs ys → xs.length = ys.length
  | .nil, _, h => by cases h; rfl
  | .cons a t, _, h => by
      cases h with
      | cons h1 h2 => simp only [Exprs.length, length_skel t _ h2]

theorem inferType_skel_all :
    (∀ e e', Skel e e' → inferType e = inferType e') ∧
    (∀ xs ys, SkelList xs ys → inferFirst xs = inferFirst ys ∧ inferFirst2 xs = inferFirst2 ys) ∧
    (∀ _ : OptLam, True) := by
  apply Expr.induct
  case ident | attr | lit => intros; cases ‹Skel _ _› <;> rfl
  case list | binop | compare | boolop | unary | named | coll => intros; cases ‹Skel _ _›; simp only [inferType]
  case call =>
    intro f a ih _ h
    cases h with
    | call _ ha =>
      simp only [inferType]
      rw [(ih _ ha).1, (ih _ ha).2]
  case nil => intro _ h; cases h; exact ⟨rfl, rfl⟩
  case cons =>
    intro a t iha iht _ h
    cases h with
    | cons h1 h2 =>
      refine ⟨by simp only [inferFirst]; exact iha _ h1, ?_⟩
      have ht := (iht _ h2).1
      cases h2 with
      | nil => simp only [inferFirst2]; exact iha _ h1
      | cons h3 h4 =>
        simp only [inferFirst] at ht
        simp only [inferFirst2]
        rw [iha _ h1, ht]
  case none | some => intros; trivial

theorem inferType_skel : ∀ (e e' : Expr), Skel e e' → inferType e = inferType e' := inferType_skel_all.1
theorem inferFirst_skel : ∀ (xs ys : Exprs), SkelList xs ys → inferFirst xs = inferFirst ys :=
  fun xs ys h => (inferType_skel_all.2.1 xs ys h).1
theorem inferFirst2_skel : ∀ (xs ys : Exprs), SkelList xs ys → inferFirst2 xs = inferFirst2 ys :=
  fun xs ys h => (inferType_skel_all.2.1 xs ys h).2

theorem inferTypes_skel : ∀ (xs ys : Exprs), SkelList xs ys →
    xs.toList.map inferType = ys.toList.map inferType
  | .nil, _, h => by cases h; rfl
  | .cons a t, _, h => by
      cases h with
      | cons h1 h2 =>
        simp only [Exprs.toList, List.map_cons, inferType_skel a _ h1, inferTypes_skel t _ h2]

theorem skel_dummy : Skel dummyExpr dummyExpr := .lit _ _

theorem getD_skel : ∀ (xs ys : Exprs), SkelList xs ys → ∀ i,
    Skel (xs.toList.getD i dummyExpr) (ys.toList.getD i dummyExpr)
  | .nil, _, h, i => by cases h; simpa [Exprs.toList] using skel_dummy
  | .cons a t, _, h, i => by
      cases h with
      | cons h1 h2 =>
        cases i with
        | zero => simpa [Exprs.toList] using h1
        | succ j => simpa [Exprs.toList] using getD_skel t _ h2 j

theorem same_wrapOperand {e e'} (h : Skel e e') (p oe) {a b} (hs : SameSh a b) :
    SameSh (wrapOperand e p oe a) (wrapOperand e' p oe b) := by
  unfold wrapOperand
  rw [sqlPrec_skel h]
  split
  · exact same_parenP hs
  · exact hs

theorem same_boolWrapL {e e'} (h : Skel e e') (op) {a b} (hs : SameSh a b) :
    SameSh (boolWrapL op e a) (boolWrapL op e' b) := by
  unfold boolWrapL
  rw [isBoolOp_skel h]
  split
  · split
    · exact same_parenP hs
    · exact hs
  · exact hs

theorem same_boolWrapR {e e'} (h : Skel e e') {a b} (hs : SameSh a b) :
    SameSh (boolWrapR e a) (boolWrapR e' b) := by
  unfold boolWrapR
  rw [isBoolOp_skel h]
  split
  · exact same_parenP hs
  · exact hs

theorem cmpPieces_skel {e e'} (h : Skel e e') (op) : cmpPieces op e = cmpPieces op e' := by
  unfold cmpPieces
  rw [isNullLit_skel h]

/-- the expression branch of `_to_pattern` -/
def patExpr (arg : Expr) (argPs : List Piece) (pre suf : Str) : List Piece :=
  let res := wrapOperand arg 5 true argPs
  let res := if pre.isEmpty then res else .tok (.str pre) :: sp :: o "||" :: sp :: res
  if suf.isEmpty then res else res ++ [sp, o "||", sp, .tok (.str suf)]

theorem same_patExpr {e e'} (h : Skel e e') {a b} (hs : SameSh a b) (pre suf) :
    SameSh (patExpr e a pre suf) (patExpr e' b pre suf) := by
  have hw := same_wrapOperand h 5 true hs
  have h1 : SameSh (if pre.isEmpty then wrapOperand e 5 true a else .tok (.str pre) :: sp :: o "||" :: sp :: wrapOperand e 5 true a)
      (if pre.isEmpty then wrapOperand e' 5 true b else .tok (.str pre) :: sp :: o "||" :: sp :: wrapOperand e' 5 true b) := by
    split
    · exact hw
    · exact same_cons _ (same_cons _ (same_cons _ (same_cons _ hw)))
  unfold patExpr
  dsimp only
  split
  · exact h1
  · exact same_append h1 (same_refl _)

theorem sqlPattern_nonstr (arg ps pre suf) (h : ∀ r, arg ≠ .lit .str r) :
    sqlPattern arg ps pre suf = patExpr arg ps pre suf := by
  unfold sqlPattern
  split
  · exact absurd rfl (h _)
  · rfl

/-- the pattern of a string literal depends on its content only through "does escaping change it", which the
    skeleton fixes; every other argument goes through `patExpr` -/
theorem same_sqlPattern {e e'} (h : Skel e e') {a b} (hs : SameSh a b) (pre suf) :
    SameSh (sqlPattern e a pre suf) (sqlPattern e' b pre suf) := by
  have h' := h
  cases h
  case str x y hw =>
    simp only [sqlPattern]
    rw [hw]
    split <;> simp [SameSh]
  case lit k v =>
    by_cases hk : k = .str
    · subst hk; simp only [sqlPattern, SameSh]
    · have hn : ∀ r, Expr.lit k v ≠ .lit .str r := fun r hr => hk (Expr.lit.inj hr).1
      rw [sqlPattern_nonstr _ _ _ _ hn, sqlPattern_nonstr _ _ _ _ hn]
      exact same_patExpr h' hs pre suf
  all_goals
    rw [sqlPattern_nonstr _ _ _ _ (fun r hr => by cases hr), sqlPattern_nonstr _ _ _ _ (fun r hr => by cases hr)]
    exact same_patExpr h' hs pre suf

theorem same_instItem {xs ys : Exprs} (ha : SkelList xs ys) {is js : List (List Piece)} (hi : SameShL is js)
    (it : TItem) : SameSh (instItem xs.toList is it) (instItem ys.toList js it) := by
  cases it with
  | p x => exact same_refl _
  | arg i => exact same_getD hi i
  | argW i pr oe => exact same_wrapOperand (getD_skel _ _ ha i) pr oe (same_getD hi i)
  | pat i pre suf => exact same_sqlPattern (getD_skel _ _ ha i) (same_getD hi i) pre suf

theorem same_instantiate {xs ys : Exprs} (ha : SkelList xs ys) {is js : List (List Piece)} (hi : SameShL is js) :
    ∀ tpl : List TItem, SameSh (instantiate tpl xs.toList is) (instantiate tpl ys.toList js)
  | [] => rfl
  | it :: rest => by
      have ih := same_instantiate ha hi rest
      simp only [instantiate, List.flatMap_cons] at ih ⊢
      exact same_append (same_instItem ha hi it) ih

theorem same_identPieces (d al n n') : SameSh (identPieces d al n) (identPieces d al n') := by
  unfold identPieces
  cases al with
  | none => simp [SameSh]
  | some a => dsimp only; split <;> simp [SameSh]

def OEq {α} (R : α → α → Prop) : Outcome α → Outcome α → Prop
  | .ok a, .ok b => R a b
  | .lib e, .lib e' => e = e'
  | .notImplemented, .notImplemented => True
  | .foreign c, .foreign c' => c = c'
  | _, _ => False

theorem OEq.refl {α} {R : α → α → Prop} (hR : ∀ a, R a a) (x : Outcome α) : OEq R x x := by
  cases x <;> simp [OEq, hR]

theorem OEq.bind {α β} {R : α → α → Prop} {S : β → β → Prop} {x x' : Outcome α} {f f' : α → Outcome β}
    (hx : OEq R x x') (hf : ∀ a a', R a a' → OEq S (f a) (f' a')) : OEq S (x >>= f) (x' >>= f') := by
  cases x <;> cases x' <;> simp only [OEq] at hx <;>
    first
    | exact hf _ _ hx
    | exact hx
    | trivial

theorem OEq.pure {β} {S : β → β → Prop} {a a' : β} (h : S a a') :
    OEq S (Pure.pure a : Outcome β) (Pure.pure a') := h

section
variable (isD : Char → Bool) (d : Dialect) (al : Option Str)

theorem skel_all :
    (∀ e e', Skel e e' → OEq SameSh (sqlVisit isD d al e) (sqlVisit isD d al e')) ∧
    (∀ xs ys, SkelList xs ys → OEq SameShL (sqlVisitList isD d al xs) (sqlVisitList isD d al ys)) ∧
    (∀ _ : OptLam, True) := by
  apply Expr.induct
  case ident =>
    intro i e' h
    cases h
    rw [sqlVisit, sqlVisit]
    exact same_identPieces _ _ _ _
  case attr | named | coll => intros; cases ‹Skel _ _›; rw [sqlVisit, sqlVisit]; exact rfl
  case lit =>
    intro k v e' h
    cases h with
    | str a b hw => rw [sqlVisit, sqlVisit]; simp [litPieces, OEq, SameSh]
    | lit => exact OEq.refl same_refl _
  case list =>
    intro xs ih e' h
    cases h with
    | list hx =>
      rw [sqlVisit, sqlVisit]
      exact OEq.bind (ih _ hx) (fun a a' ha => OEq.pure (same_parenP (same_joinComma _ _ ha)))
  case binop =>
    intro op l r ihl ihr e' h
    cases h with
    | binop _ hl hr =>
      rw [sqlVisit, sqlVisit]
      refine OEq.bind (ihl _ hl) (fun a a' ha => OEq.bind (ihr _ hr) (fun b b' hb => OEq.pure ?_))
      rw [sqlPrec_skel (.binop op hl hr)]
      exact same_append (same_wrapOperand hl _ _ ha)
        (same_cons _ (same_cons _ (same_cons _ (same_wrapOperand hr _ _ hb))))
  case compare =>
    intro op l r ihl ihr e' h
    cases h with
    | compare _ hl hr =>
      rw [sqlVisit, sqlVisit]
      refine OEq.bind (ihl _ hl) (fun a a' ha => OEq.bind (ihr _ hr) (fun b b' hb => ?_))
      rw [isNullLit_skel hl]
      split
      · refine OEq.pure ?_
        rw [cmpPieces_skel hl]
        exact same_append (same_append (same_wrapOperand hr _ _ hb) (same_refl _))
          (same_cons _ (same_wrapOperand hl _ _ ha))
      · refine OEq.pure ?_
        rw [cmpPieces_skel hr]
        exact same_append (same_append (same_wrapOperand hl _ _ ha) (same_refl _))
          (same_cons _ (same_wrapOperand hr _ _ hb))
  case boolop =>
    intro op l r ihl ihr e' h
    cases h with
    | boolop _ hl hr =>
      rw [sqlVisit, sqlVisit]
      refine OEq.bind (ihl _ hl) (fun a a' ha => OEq.bind (ihr _ hr) (fun b b' hb => OEq.pure ?_))
      exact same_append (same_boolWrapL hl _ ha)
        (same_cons _ (same_cons _ (same_cons _ (same_boolWrapR hr hb))))
  case unary =>
    intro op e ih e' h
    cases h with
    | unary _ he =>
      rw [sqlVisit, sqlVisit]
      refine OEq.bind (ih _ he) (fun a a' ha => OEq.pure ?_)
      rw [sqlPrec_skel (.unary op he)]
      exact same_cons _ (same_cons _ (same_wrapOperand he _ _ ha))
  case call =>
    intro f args ih e' h
    cases h with
    | call _ hargs =>
      rw [SqlModel.sqlVisit_call, SqlModel.sqlVisit_call, ← length_skel _ _ hargs, ← inferTypes_skel _ _ hargs]
      cases SqlModel.callPre d f args.length with
      | some err => exact OEq.refl same_refl err
      | none =>
        apply OEq.bind (ih _ hargs)
        intro is js hi
        apply OEq.bind (OEq.refl (R := Eq) (fun _ => rfl) _)
        intro t t' ht
        subst ht
        exact OEq.pure (same_instantiate hargs hi t)
  case nil => intro ys h; cases h; rw [sqlVisitList]; exact rfl
  case cons =>
    intro a t iha iht ys h
    cases h with
    | cons h1 h2 =>
      rw [sqlVisitList, sqlVisitList]
      refine OEq.bind (iha _ h1) (fun x x' hx => OEq.bind (iht _ h2) (fun y y' hy => OEq.pure ?_))
      simp only [SameShL, List.map_cons, List.cons.injEq]
      exact ⟨hx, hy⟩
  case none | some => intros; trivial

theorem skel_visit : (e e' : Expr) → Skel e e' →
    OEq SameSh (sqlVisit isD d al e) (sqlVisit isD d al e') :=
  (skel_all isD d al).1

theorem skel_visitList : (xs ys : Exprs) → SkelList xs ys →
    OEq SameShL (sqlVisitList isD d al xs) (sqlVisitList isD d al ys) :=
  (skel_all isD d al).2.1
end

theorem toks_shP (p : Piece) : (shP p).toks.map SqlTok.shape = p.toks.map SqlTok.shape := by
  cases p with
  | tok t => cases t <;> rfl
  | _ => rfl

theorem pieceToks_shP : ∀ ps : List Piece,
    (pieceToks (ps.map shP)).map SqlTok.shape = (pieceToks ps).map SqlTok.shape
  | [] => rfl
  | p :: r => by
      simp only [List.map_cons, pieceToks, List.map_append, toks_shP, pieceToks_shP r]

theorem pieceToks_shape_congr {ps ps' : List Piece} (h : SameSh ps ps') :
    (pieceToks ps).map SqlTok.shape = (pieceToks ps').map SqlTok.shape := by
  rw [← pieceToks_shP ps, ← pieceToks_shP ps', h]

end OQ.SqlShape
