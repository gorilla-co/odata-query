/- The keyword tokens (`any`, `all`, `not`, the 14 binary operators) in any ASCII letter case and
   with runs of whitespace (for Props/C19Text.lean). -/
import ODataVerif.Lemmas.RespellTok
namespace OQ.Respelling
open Spec LexRender CaseMap

def variants : List Char → List (List Char)
  | [] => [[]]
  | p :: ps => (variants ps).flatMap fun t => [p :: t, asciiUpper p :: t]

theorem lower_inv {c p : Char} (h : asciiLower c = p) : c = p ∨ c = asciiUpper p := by
  cases hc : isAsciiUpper c with
  | false => left; rw [← h, asciiLower_id hc]
  | true =>
    right
    have := (by decide +kernel : ∀ c ∈ upperChars, asciiUpper (asciiLower c) = c) c (upper_mem hc)
    rw [← h, this]

theorem variants_mem : ∀ (k s : List Char), s.map asciiLower = k → s ∈ variants k
  | [], s, h => by simp at h; subst h; simp [variants]
  | p :: ps, [], h => by simp at h
  | p :: ps, c :: s, h => by
      simp only [List.map_cons, List.cons.injEq] at h
      have ih := variants_mem ps s h.2
      simp only [variants, List.mem_flatMap, List.mem_cons, List.not_mem_nil, or_false]
      refine ⟨s, ih, ?_⟩
      rcases lower_inv h.1 with rfl | rfl
      · exact Or.inl rfl
      · exact Or.inr rfl

def kwOkB (t : Tok) (k : List Char) : Bool :=
  match k with
  | c :: _ => lexOne E k == some (t, []) && c != '\'' && !ciChar E 'g' c && !E.isSpace c
  | [] => false

theorem kwOkB_spec {t : Tok} {k : List Char} (h : kwOkB t k = true) : ∃ c s, k = c :: s ∧
    lexOne E k = some (t, []) ∧ c ≠ '\'' ∧ ciChar E 'g' c = false ∧ E.isSpace c = false := by
  cases k with
  | nil => cases h
  | cons c s =>
    simp only [kwOkB, Bool.and_eq_true, beq_iff_eq, bne_iff_ne, Bool.not_eq_true', and_assoc] at h
    exact ⟨c, s, rfl, h⟩

theorem any_table : ∀ k ∈ variants "any".toList, kwOkB .any k = true := by decide +kernel
theorem all_table : ∀ k ∈ variants "all".toList, kwOkB .all k = true := by decide +kernel

theorem lexOne_kw_lp {t : Tok} {k : List Char} (h : kwOkB t k = true) (htn : t ≠ .not_) (tl : List Char) :
    lexOne E (k ++ '(' :: tl) = some (t, '(' :: tl) := by
  obtain ⟨c, s0, rfl, h0, hq, hg, hs⟩ := kwOkB_spec h
  have hD : Delim E '(' := delim_of (by decide)
  exact lexOne_ext_other word_dot hD (delim_identStart (by decide)) (Or.inl (by decide)) hq
    (kw_head (p := 'g') hg) hs (fun hn => by rw [scanNot_ext hD (by decide +kernel), hn]; rfl) htn h0

def notOkB (k : List Char) : Bool :=
  match k with
  | c :: _ => (firstSome (litRules E) k == none) && (kw E "not".toList k == some (k, [])) && !E.isSpace c
      && c != '-' && c != '\'' && !ciChar E 'g' c
  | [] => false

theorem notOkB_spec {k : List Char} (h : notOkB k = true) : ∃ c s, k = c :: s ∧ firstSome (litRules E) k = none ∧
    kw E "not".toList k = some (k, []) ∧ E.isSpace c = false ∧ c ≠ '-' ∧ c ≠ '\'' ∧ ciChar E 'g' c = false := by
  cases k with
  | nil => cases h
  | cons c s =>
    simp only [notOkB, Bool.and_eq_true, beq_iff_eq, bne_iff_ne, Bool.not_eq_true', and_assoc] at h
    exact ⟨c, s, rfl, h⟩

theorem not_table : ∀ k ∈ variants "not".toList, notOkB k = true := by decide +kernel

theorem lexOne_not {k w : List Char} (hk : ciSpell "not".toList k) (hw : isBlankRun E w) (tl : List Char)
    (htl : headNS tl) : lexOne E (k ++ (w ++ tl)) = some (.not_, tl) := by
  obtain ⟨c, s0, rfl, hlit0, hkw, hsp, hm, hq, hg⟩ := notOkB_spec (not_table k (variants_mem _ _ hk))
  obtain ⟨d, w', rfl, hd⟩ := isBlankRun_cons hw
  have hD : Delim E d := space_delim hd
  have hdc : d ≠ ':' := space_ne hd
  have hlit : firstSome (litRules E) ((c :: s0) ++ d :: (w' ++ tl)) = none :=
    firstSome_transfer_none _ _ (d :: (w' ++ tl)) .not_ _
      (litRules_ext word_dot hD (Or.inl hdc) hq (kw_head (p := 'g') hg)) hlit0
  have hmin : rMinus ((c :: s0) ++ d :: (w' ++ tl)) = none := by
    rw [List.cons_append, rMinus_cons]; exact if_neg hm
  have hnot : scanNot E ((c :: s0) ++ d :: (w' ++ tl)) = some tl := by
    rw [scanNot_eq, kw_ext E d _ _ _ (hD.kwl _ (by decide +kernel)), hkw]
    have := span1_run hw htl
    simp only [List.cons_append] at this
    simp [this]
  have e : (c :: s0) ++ (d :: w' ++ tl) = (c :: s0) ++ d :: (w' ++ tl) := by simp
  rw [e, lexOne_eq, rules, firstSome_append, hlit, restRules_eq]
  simp only []
  have ho : ∀ L : List (Tok × List Char), ∀ f ∈ L.map opRule, f ((c :: s0) ++ d :: (w' ++ tl)) = none :=
    fun L => opRules_head L _ hsp
  rw [firstSome_skip _ _ _ (ho ops1)]
  simp only [firstSome, hmin]
  rw [firstSome_skip _ _ _ (ho ops2)]
  simp only [firstSome, rOp, hnot, Option.map_some]

theorem kw_isSome_lower {w k : List Char} (hw : ∀ p ∈ w, p ∈ patChars) :
    (kw E w (k.map asciiLower)).isSome = (kw E w k).isSome ∧
    ((∃ m, kw E w (k.map asciiLower) = some (m, [])) ↔ ∃ m, kw E w k = some (m, [])) := by
  rw [kw_map caseMap_lower w k hw]
  cases kw E w k with
  | none => simp
  | some x =>
    obtain ⟨m, r⟩ := x
    simp

theorem scanOp_word (w w' k w2 tl : List Char) (hk : k.map asciiLower = w') (hw' : headNS k) (hne : k ≠ [])
    (hw2 : isBlankRun E w2) (htl : headNS tl) (hw : ∀ p ∈ w, p ∈ patChars)
    (hkw : kw E w w' = none ∨ ∃ m, kw E w w' = some (m, [])) :
    scanOp E w (' ' :: k ++ (w2 ++ tl)) = if (kw E w w').isSome then some tl else none := by
  obtain ⟨d, w2', rfl, hd⟩ := isBlankRun_cons hw2
  have hD : Delim E d := space_delim hd
  have hx : headNS (k ++ (d :: w2' ++ tl)) := by
    cases k with
    | nil => exact absurd rfl hne
    | cons c t => exact headNS_cons (hw' c t rfl)
  obtain ⟨h1, h2⟩ := kw_isSome_lower (w := w) (k := k) hw
  rw [hk] at h1 h2
  rw [List.cons_append, scanOp_blank w hx]
  have e : k ++ (d :: w2' ++ tl) = k ++ d :: (w2' ++ tl) := by simp
  rw [e, kw_ext E d _ w k (hD.kwl w hw)]
  rcases hkw with hn | hs
  · have : kw E w k = none := by
      cases hkk : kw E w k with
      | none => rfl
      | some y => rw [hn, hkk] at h1; simp at h1
    simp [hn, this]
  · obtain ⟨m', hm'⟩ := h2.1 hs
    obtain ⟨m, hm⟩ := hs
    have hr := span1_run hw2 htl
    simp only [List.cons_append] at hr
    simp [hm, hm', hr]

theorem firstSome_opRules (L : List (Tok × List Char)) (more : List Rule) (w' k w2 tl : List Char)
    (hk : k.map asciiLower = w') (hw' : headNS k) (hne : k ≠ []) (hw2 : isBlankRun E w2) (htl : headNS tl)
    (hL : ∀ e ∈ L, (∀ p ∈ e.2, p ∈ patChars) ∧ (kw E e.2 w' = none ∨ ∃ m, kw E e.2 w' = some (m, []))) :
    firstSome (L.map opRule ++ more) (' ' :: k ++ (w2 ++ tl)) =
      match findOp L w' with
      | some e => some (e.1, tl)
      | none => firstSome more (' ' :: k ++ (w2 ++ tl)) := by
  induction L with
  | nil => rfl
  | cons e L ih =>
    have he := hL e List.mem_cons_self
    have hs := scanOp_word e.2 w' k w2 tl hk hw' hne hw2 htl he.1 he.2
    simp only [List.map_cons, List.cons_append, firstSome, opRule, rOp, findOp, List.find?_cons]
    simp only [List.cons_append] at hs
    rw [hs]
    cases hkk : (kw E e.2 w').isSome with
    | true => simp
    | false =>
      simp only [Bool.false_eq_true, if_false, Option.map_none]
      exact ih (fun e' he' => hL e' (List.mem_cons_of_mem _ he'))

theorem lexOne_op {tok : Tok} {w' : List Char} (h : (tok, w') ∈ allOps) {w1 k w2 : List Char}
    (hw1 : isBlankRun E w1) (hk : k.map asciiLower = w') (hw2 : isBlankRun E w2) (tl : List Char) (htl : headNS tl) :
    lexOne E (w1 ++ k ++ w2 ++ tl) = some (tok, tl) := by
  have hrow := (List.all_eq_true.1 ops_table) _ h
  simp only [opRow, Bool.and_eq_true] at hrow
  obtain ⟨⟨⟨⟨hh, s1⟩, s2⟩, s3⟩, hfind⟩ := hrow
  have hne : k ≠ [] := by rintro rfl; simp at hk; subst hk; simp at hh
  have hw' : headNS k := by
    intro c t hc; subst hc
    simp only [List.map_cons] at hk
    subst hk
    simp only [Bool.not_eq_true'] at hh
    rw [← caseMap_lower.space c]; exact hh
  have hx : headNS (k ++ (w2 ++ tl)) := by
    cases k with
    | nil => exact absurd rfl hne
    | cons c t => exact headNS_cons (hw' c t rfl)
  have e0 : w1 ++ k ++ w2 ++ tl = w1 ++ (k ++ (w2 ++ tl)) := by simp
  rw [e0, lexOne_blank_run hw1 hx]
  have hl : firstSome (litRules E) (' ' :: k ++ (w2 ++ tl)) = none :=
    litRules_head _ hf_blank (by decide) (by decide) (by decide)
  rw [← List.cons_append, lexOne_eq, rules, firstSome_append, hl, restRules_eq,
    firstSome_opRules ops1 _ w' k w2 tl hk hw' hne hw2 htl (opSide_spec s1)]
  cases h1 : findOp ops1 w' with
  | some e' => rw [h1] at hfind; simp at hfind; simp [hfind]
  | none =>
    rw [h1] at hfind
    have hmin : rMinus (' ' :: k ++ (w2 ++ tl)) = none := by
      rw [List.cons_append, rMinus_cons]; exact if_neg (by decide)
    have hnot : scanNot E (' ' :: k ++ (w2 ++ tl)) = none := scanNot_head hf_blank.n
    simp only [firstSome, hmin]
    rw [firstSome_opRules ops2 _ w' k w2 tl hk hw' hne hw2 htl (opSide_spec s2)]
    cases h2 : findOp ops2 w' with
    | some e' => rw [h2] at hfind; simp at hfind; simp [hfind]
    | none =>
      rw [h2] at hfind
      simp only [firstSome, rOp, hnot, Option.map_none]
      rw [firstSome_opRules ops3 _ w' k w2 tl hk hw' hne hw2 htl (opSide_spec s3)]
      simp at hfind
      simp [hfind]

end OQ.Respelling
