/-
  Simultaneous structural induction over the typed AST (`Expr`, `Exprs`, `OptLam` are mutually
  inductive, so the `induction` tactic does not apply): the three conclusions at once, the minor premises named after the
  constructors.
-/
import ODataVerif.Model.Ast
namespace OQ

theorem Expr.induct {P : Expr → Prop} {Q : Exprs → Prop} {R : OptLam → Prop}
    (ident : ∀ i, P (.ident i)) (attr : ∀ o n, P o → P (.attr o n)) (lit : ∀ k s, P (.lit k s))
    (list : ∀ xs, Q xs → P (.list xs)) (binop : ∀ o l r, P l → P r → P (.binop o l r))
    (compare : ∀ o l r, P l → P r → P (.compare o l r)) (boolop : ∀ o l r, P l → P r → P (.boolop o l r))
    (unary : ∀ o e, P e → P (.unary o e)) (named : ∀ n e, P e → P (.named n e)) (call : ∀ f a, Q a → P (.call f a))
    (coll : ∀ ow o l, P ow → R l → P (.coll ow o l))
    (nil : Q .nil) (cons : ∀ h t, P h → Q t → Q (.cons h t))
    (none : R .none) (some : ∀ v b, P b → R (.some v b)) :
    (∀ e, P e) ∧ (∀ xs, Q xs) ∧ (∀ l, R l) :=
  ⟨fun e => Expr.rec ident attr lit list binop compare boolop unary named call coll nil cons none some e,
   fun xs => Exprs.rec ident attr lit list binop compare boolop unary named call coll nil cons none some xs,
   fun l => OptLam.rec ident attr lit list binop compare boolop unary named call coll nil cons none some l⟩

end OQ
