/-
  The strip lemma for C04: the specification's "drop the leading variable segment" reading of a
  lambda body (Spec/RelElab.lean `elabRAux` with `var = some v`) agrees with the visitors' `IdentifierStripper`
  (Model/Rewrite.lean `strip`, typed view Model/OrmRel.lean `stripVar`) followed by a variable-free reading.

  Plan: (1) `Expr.ofTree ∘ Expr.toTree` is null-normalisation `normNull`; (2) a typed stripper `stripN` with
  `(stripN x e).toTree = strip x.toTree e.toTree`, hence `stripVar x e = some (stripN x e)`; (3) `pathSegs (stripN v e)`
  drops the leading `v`, hence `keyOf` / `ownerOf` / `relI` / `relS` / `relLeaf` agree; (4) induction along `elabRAux`.
-/
import ODataVerif.Model.OrmRel
import ODataVerif.Props.C17
import ODataVerif.Lemmas.ExprInduct
namespace OQ.RelStrip
open Spec

mutual
/-- every lambda variable occurring in the expression has an empty namespace (the parser only builds such) -/
def lamVarsPlain : Expr → Bool
  | .ident _ => true
  | .attr o _ => lamVarsPlain o
  | .lit _ _ => true
  | .list xs => lamVarsPlainList xs
  | .binop _ l r | .compare _ l r | .boolop _ l r => lamVarsPlain l && lamVarsPlain r
  | .unary _ e => lamVarsPlain e
  | .named _ e => lamVarsPlain e
  | .call _ args => lamVarsPlainList args
  | .coll o _ l => lamVarsPlain o && lamVarsPlainLam l
def lamVarsPlainList : Exprs → Bool
  | .nil => true
  | .cons h t => lamVarsPlain h && lamVarsPlainList t
def lamVarsPlainLam : OptLam → Bool
  | .none => true
  | .some v b => v.ns.isEmpty && lamVarsPlain b
end

mutual
def normNull : Expr → Expr
  | .ident i => .ident i
  | .attr o n => .attr (normNull o) n
  | .lit k s => if k = .null then .lit .null [] else .lit k s
  | .list xs => .list (normNullList xs)
  | .binop o l r => .binop o (normNull l) (normNull r)
  | .compare o l r => .compare o (normNull l) (normNull r)
  | .boolop o l r => .boolop o (normNull l) (normNull r)
  | .unary o e => .unary o (normNull e)
  | .named n e => .named n (normNull e)
  | .call f args => .call f (normNullList args)
  | .coll ow o l => .coll (normNull ow) o (normNullLam l)
def normNullList : Exprs → Exprs
  | .nil => .nil
  | .cons h t => .cons (normNull h) (normNullList t)
def normNullLam : OptLam → OptLam
  | .none => .none
  | .some v b => .some v (normNull b)
end

theorem toTree_lit_null (s : Str) : (Expr.lit .null s).toTree = Tree.leaf "Null" := by
  simp [Expr.toTree]
theorem toTree_lit (k : LitKind) (s : Str) (h : k ≠ .null) : (Expr.lit k s).toTree = .node k.className (.cons (.str s) .nil) := by
  cases k <;> simp_all [Expr.toTree]

/-! In the inductions over the AST below every constructor is a congruence except the ones treated first: both sides unfold one
  step and the induction hypotheses close the case. -/

theorem toTree_normNull_all : (∀ e, (normNull e).toTree = e.toTree) ∧ (∀ xs, (normNullList xs).toTrees = xs.toTrees) ∧
    (∀ l, (normNullLam l).toTree = l.toTree) := by
  apply Expr.induct
  case lit =>
    intro k s; rw [normNull]; split
    · subst_vars; rw [toTree_lit_null, toTree_lit_null]
    · rfl
  all_goals (intros; simp only [normNull, normNullList, normNullLam, Expr.toTree, Exprs.toTrees, OptLam.toTree, *])

theorem toTree_normNull : (e : Expr) → (normNull e).toTree = e.toTree := toTree_normNull_all.1
theorem toTrees_normNull : (xs : Exprs) → (normNullList xs).toTrees = xs.toTrees := toTree_normNull_all.2.1
theorem toTree_normNullLam : (l : OptLam) → (normNullLam l).toTree = l.toTree := toTree_normNull_all.2.2

theorem arith_rt (o : ArithOp) : ArithOp.ofClassName o.className = some o := by cases o <;> rfl
theorem cmp_rt (o : CmpOp) : CmpOp.ofClassName o.className = some o := by cases o <;> rfl
theorem bool_rt (o : BoolOp) : BoolOp.ofClassName o.className = some o := by cases o <;> rfl
theorem un_rt (o : UnOp) : UnOp.ofClassName o.className = some o := by cases o <;> rfl
theorem coll_rt (o : CollOp) : CollOp.ofClassName o.className = some o := by cases o <;> rfl
theorem lit_rt (k : LitKind) : LitKind.ofClassName k.className = some k := by cases k <;> decide


theorem ofTree_lit (k : LitKind) (s : Str) (h : k ≠ .null) :
    Expr.ofTree (.node k.className (.cons (.str s) .nil)) = some (.lit k s) := by
  rw [Expr.ofTree.eq_12]
  simp [lit_rt, h]

theorem ofTree_toTree_all : (∀ e, Expr.ofTree e.toTree = some (normNull e)) ∧
    (∀ xs, Exprs.ofTrees xs.toTrees = some (normNullList xs)) ∧ (∀ l, OptLam.ofTree l.toTree = some (normNullLam l)) := by
  apply Expr.induct
  case lit =>
    intro k s; rw [normNull]; split
    · subst_vars; rfl
    · rw [toTree_lit k s ‹_›, ofTree_lit k s ‹_›]
  all_goals
    (intros
     simp [Expr.toTree, Exprs.toTrees, OptLam.toTree, Ident.toTree, Tree.leaf, Expr.ofTree, Exprs.ofTrees, OptLam.ofTree, Ident.ofTree,
       normNull, normNullList, normNullLam, arith_rt, cmp_rt, bool_rt, un_rt, coll_rt, *])

theorem ofTree_toTree : (e : Expr) → Expr.ofTree e.toTree = some (normNull e) := ofTree_toTree_all.1
theorem ofTrees_toTrees : (xs : Exprs) → Exprs.ofTrees xs.toTrees = some (normNullList xs) := ofTree_toTree_all.2.1
theorem ofTree_optLam : (l : OptLam) → OptLam.ofTree l.toTree = some (normNullLam l) := ofTree_toTree_all.2.2

/-- `normNull` is what the round trip through the uniform tree does, and the tree does not see it: so it is idempotent -/
theorem normNull_idem (e : Expr) : normNull (normNull e) = normNull e :=
  Option.some.inj ((ofTree_toTree (normNull e)).symm.trans ((congrArg Expr.ofTree (toTree_normNull e)).trans (ofTree_toTree e)))
theorem normNullList_idem : (xs : Exprs) → normNullList (normNullList xs) = normNullList xs := fun xs =>
  Option.some.inj ((ofTrees_toTrees (normNullList xs)).symm.trans ((congrArg Exprs.ofTrees (toTrees_normNull xs)).trans (ofTrees_toTrees xs)))
theorem normNullLam_idem : (l : OptLam) → normNullLam (normNullLam l) = normNullLam l := fun l =>
  Option.some.inj ((ofTree_optLam (normNullLam l)).symm.trans ((congrArg OptLam.ofTree (toTree_normNullLam l)).trans (ofTree_optLam l)))

def isAttrE : Expr → Bool
  | .attr _ _ => true
  | _ => false

mutual
def stripN (x : Ident) : Expr → Expr
  | .ident i => .ident i
  | .attr o n =>
      if o = .ident x then .ident ⟨n, []⟩
      else if isAttrE o then .attr (stripN x o) n else .attr (normNull o) n
  | .lit k s => if k = .null then .lit .null [] else .lit k s
  | .list xs => .list (stripNList x xs)
  | .binop o l r => .binop o (stripN x l) (stripN x r)
  | .compare o l r => .compare o (stripN x l) (stripN x r)
  | .boolop o l r => .boolop o (stripN x l) (stripN x r)
  | .unary o e => .unary o (stripN x e)
  | .named n e => .named n (stripN x e)
  | .call f args => .call f (stripNList x args)
  | .coll ow o l => .coll (stripN x ow) o (stripNLam x l)
def stripNList (x : Ident) : Exprs → Exprs
  | .nil => .nil
  | .cons h t => .cons (stripN x h) (stripNList x t)
def stripNLam (x : Ident) : OptLam → OptLam
  | .none => .none
  | .some v b => .some v (stripN x b)
end

theorem normNull_eq_ident (o : Expr) (i : Ident) (h : normNull o = .ident i) : o = .ident i := by
  cases o <;> simp [normNull] at h ⊢
  · exact h
  · split at h <;> cases h

theorem toTree_eq_ident (o : Expr) (i : Ident) : o.toTree = i.toTree ↔ o = .ident i := by
  constructor
  · intro h
    have h1 := ofTree_toTree o
    have h2 := ofTree_toTree (.ident i)
    rw [h] at h1
    simp only [Expr.toTree] at h2
    rw [h2] at h1
    simp [normNull] at h1
    exact normNull_eq_ident o i h1.symm
  · intro h; subst h; simp [Expr.toTree]

theorem isAttr_node_ne (k : String) (fs : TreeList) (h : k ≠ "Attribute") : isAttr (.node k fs) = false :=
  (C17.attr_cases k fs).resolve_left fun ⟨hk, _⟩ => h hk

theorem isAttr_toTree (o : Expr) : isAttr o.toTree = isAttrE o := by
  cases o with
  | attr o n => rfl
  | lit k s =>
    by_cases h : k = .null
    · subst h; rfl
    · rw [toTree_lit k s h]
      exact (C17.attr_cases _ _).resolve_left fun ⟨_, _, _, hf⟩ => by cases hf
  | _ => exact isAttr_node_ne _ _ (by simp)

theorem strip_identTree (x : Tree) (i : Ident) : strip x i.toTree = i.toTree := by
  simp [strip, Ident.toTree, stripFields]

theorem strip_leaf (x : Tree) (k : String) : strip x (Tree.leaf k) = Tree.leaf k := by
  unfold Tree.leaf strip
  by_cases h : k = "Attribute" <;> simp [h, stripFields]

theorem stripFields_expr (x : Tree) (e : Expr) (rest : TreeList) :
    stripFields x (.cons e.toTree rest) = .cons (strip x e.toTree) (stripFields x rest) := by
  obtain ⟨k, fs, h⟩ := C16.toTree_isNode e
  rw [h]; simp [stripFields]
theorem stripFields_ident (x : Tree) (i : Ident) (rest : TreeList) :
    stripFields x (.cons i.toTree rest) = .cons i.toTree (stripFields x rest) := by
  have := strip_identTree x i
  simp only [Ident.toTree] at this ⊢
  simp [stripFields, this]
theorem stripFields_leaf (x : Tree) (k : String) (rest : TreeList) :
    stripFields x (.cons (Tree.leaf k) rest) = .cons (Tree.leaf k) (stripFields x rest) := by
  have := strip_leaf x k
  simp only [Tree.leaf] at this ⊢
  simp [stripFields, this]
theorem stripItems_expr (x : Tree) (e : Expr) (rest : TreeList) :
    stripItems x (.cons e.toTree rest) = .cons (strip x e.toTree) (stripItems x rest) := by
  obtain ⟨k, fs, h⟩ := C16.toTree_isNode e
  rw [h]; simp [stripItems]

theorem strip_node (x : Tree) (k : String) (fs : TreeList) (h : k ≠ "Attribute") :
    strip x (.node k fs) = .node k (stripFields x fs) := by
  unfold strip; simp [h]


theorem stripN_attr (x : Ident) (o : Expr) (n : Str) :
    stripN x (.attr o n) = if o = .ident x then .ident ⟨n, []⟩
      else if isAttrE o then .attr (stripN x o) n else .attr (normNull o) n := by
  simp [stripN]

theorem stripN_lit (x : Ident) (k : LitKind) (s : Str) :
    stripN x (.lit k s) = if k = .null then .lit .null [] else .lit k s := by simp [stripN]

theorem stripN_attr_cases (x : Ident) (o : Expr) (n : Str) {P : Expr → Prop} (root : o = .ident x → P (.ident ⟨n, []⟩))
    (chain : o ≠ .ident x → isAttrE o = true → P (.attr (stripN x o) n))
    (other : o ≠ .ident x → isAttrE o = false → P (.attr (normNull o) n)) : P (stripN x (.attr o n)) := by
  rw [stripN_attr]
  split
  · exact root ‹_›
  · split
    · exact chain ‹_› ‹_›
    · exact other ‹_› (Bool.eq_false_iff.2 ‹_›)

theorem toTree_stripN_all (x : Ident) : (∀ e, (stripN x e).toTree = strip x.toTree e.toTree) ∧
    (∀ xs, (stripNList x xs).toTrees = stripItems x.toTree xs.toTrees) ∧
    (∀ l rest, stripFields x.toTree (.cons l.toTree rest) = .cons (stripNLam x l).toTree (stripFields x.toTree rest)) := by
  apply Expr.induct
  case attr =>
    intro o n ih
    show _ = strip x.toTree (mkAttr o.toTree n)
    rw [C17.strip_mkAttr, isAttr_toTree]
    refine stripN_attr_cases x o n (P := fun e => e.toTree = _) (fun h => ?_) (fun h1 h3 => ?_) (fun h1 h3 => ?_)
    · subst h; simp [Expr.toTree, mkIdent, Ident.toTree]
    · rw [if_neg fun h => h1 ((toTree_eq_ident o x).1 h), h3, if_pos rfl, ← ih]; rfl
    · rw [if_neg fun h => h1 ((toTree_eq_ident o x).1 h), h3, if_neg Bool.false_ne_true, ← toTree_normNull o]; rfl
  case lit =>
    intro k s; rw [stripN]; split
    · subst_vars; rw [toTree_lit_null, toTree_lit_null, strip_leaf]
    · have : k.className ≠ "Attribute" := by cases k <;> simp [LitKind.className]
      rw [toTree_lit k s ‹_›, strip_node _ _ _ this]; rfl
  all_goals
    (intros
     simp [stripN, stripNList, stripNLam, Expr.toTree, Exprs.toTrees, OptLam.toTree, strip_identTree, strip_node, stripFields_leaf,
       stripFields_expr, stripFields_ident, stripItems_expr, stripFields, stripItems, *])

theorem toTree_stripN (x : Ident) : (e : Expr) → (stripN x e).toTree = strip x.toTree e.toTree := (toTree_stripN_all x).1
theorem toTrees_stripN (x : Ident) : (xs : Exprs) → (stripNList x xs).toTrees = stripItems x.toTree xs.toTrees :=
  (toTree_stripN_all x).2.1

theorem normNull_stripN_all (x : Ident) : (∀ e, normNull (stripN x e) = stripN x e) ∧
    (∀ xs, normNullList (stripNList x xs) = stripNList x xs) ∧ (∀ l, normNullLam (stripNLam x l) = stripNLam x l) := by
  apply Expr.induct
  case attr =>
    intro o n ih
    refine stripN_attr_cases x o n (P := fun e => normNull e = e) (fun _ => rfl) (fun _ _ => ?_) (fun _ _ => ?_)
    · rw [normNull, ih]
    · rw [normNull, normNull_idem]
  case lit => intro k s; rw [stripN]; split <;> simp only [normNull, if_true, *, if_false]
  all_goals (intros; simp only [stripN, stripNList, stripNLam, normNull, normNullList, normNullLam, *])

theorem normNull_stripN (x : Ident) : (e : Expr) → normNull (stripN x e) = stripN x e := (normNull_stripN_all x).1
theorem normNullList_stripN (x : Ident) : (xs : Exprs) → normNullList (stripNList x xs) = stripNList x xs :=
  (normNull_stripN_all x).2.1
theorem normNullLam_stripN (x : Ident) : (l : OptLam) → normNullLam (stripNLam x l) = stripNLam x l :=
  (normNull_stripN_all x).2.2

theorem stripVar_eq (x : Ident) (e : Expr) : stripVar x e = some (stripN x e) := by
  unfold stripVar
  rw [← toTree_stripN, ofTree_toTree, normNull_stripN]


theorem plain_normNull_all : (∀ e, lamVarsPlain (normNull e) = lamVarsPlain e) ∧
    (∀ xs, lamVarsPlainList (normNullList xs) = lamVarsPlainList xs) ∧ (∀ l, lamVarsPlainLam (normNullLam l) = lamVarsPlainLam l) := by
  apply Expr.induct
  case lit => intro k s; rw [normNull]; split <;> rfl
  all_goals (intros; simp only [normNull, normNullList, normNullLam, lamVarsPlain, lamVarsPlainList, lamVarsPlainLam, *])

theorem plain_normNull : (e : Expr) → lamVarsPlain (normNull e) = lamVarsPlain e := plain_normNull_all.1
theorem plain_normNullList : (xs : Exprs) → lamVarsPlainList (normNullList xs) = lamVarsPlainList xs := plain_normNull_all.2.1
theorem plain_normNullLam : (l : OptLam) → lamVarsPlainLam (normNullLam l) = lamVarsPlainLam l := plain_normNull_all.2.2

theorem plain_stripN_all (x : Ident) : (∀ e, lamVarsPlain (stripN x e) = lamVarsPlain e) ∧
    (∀ xs, lamVarsPlainList (stripNList x xs) = lamVarsPlainList xs) ∧ (∀ l, lamVarsPlainLam (stripNLam x l) = lamVarsPlainLam l) := by
  apply Expr.induct
  case attr =>
    intro o n ih
    refine stripN_attr_cases x o n (P := fun e => lamVarsPlain e = _) (fun h => ?_) (fun _ _ => ?_) (fun _ _ => ?_)
    · subst h; rfl
    · rw [lamVarsPlain, ih, lamVarsPlain]
    · rw [lamVarsPlain, plain_normNull, lamVarsPlain]
  case lit => intro k s; rw [stripN]; split <;> rfl
  all_goals (intros; simp only [stripN, stripNList, stripNLam, lamVarsPlain, lamVarsPlainList, lamVarsPlainLam, *])

theorem plain_stripN (x : Ident) : (e : Expr) → lamVarsPlain (stripN x e) = lamVarsPlain e := (plain_stripN_all x).1
theorem plain_stripNList (x : Ident) : (xs : Exprs) → lamVarsPlainList (stripNList x xs) = lamVarsPlainList xs :=
  (plain_stripN_all x).2.1
theorem plain_stripNLam (x : Ident) : (l : OptLam) → lamVarsPlainLam (stripNLam x l) = lamVarsPlainLam l :=
  (plain_stripN_all x).2.2


def dropV (v : Str) : List Str → List Str
  | s :: rest => if s == v && !rest.isEmpty then rest else s :: rest
  | [] => []

def adj (var : Option Str) (segs : List Str) : List Str :=
  match var, segs with
  | some v, s :: rest => if s == v && !rest.isEmpty then rest else segs
  | _, _ => segs

theorem adj_none (segs : List Str) : adj none segs = segs := by simp [adj]
theorem adj_some (v : Str) (segs : List Str) : adj (some v) segs = dropV v segs := by
  cases segs <;> simp [adj, dropV]

theorem pathSegs_ident (i : Ident) : pathSegs (.ident i) = if i.ns = [] then some [i.name] else none := by
  obtain ⟨c, ns⟩ := i
  cases ns <;> simp [pathSegs]
theorem pathSegs_attr (o : Expr) (n : Str) : pathSegs (.attr o n) = (pathSegs o).map (· ++ [n]) := by
  simp [pathSegs]

/-- identifiers and attribute chains: the expressions `pathSegs` reads -/
def isPathE : Expr → Bool
  | .ident _ | .attr _ _ => true
  | _ => false

theorem isPathE_stripN (x : Ident) (e : Expr) : isPathE (stripN x e) = isPathE e := by
  cases e with
  | attr o n => exact stripN_attr_cases x o n (P := fun e => isPathE e = true) (fun _ => rfl) (fun _ _ => rfl) (fun _ _ => rfl)
  | lit k s => rw [stripN_lit]; split <;> rfl
  | _ => rfl

theorem path_induct {P : Expr → Prop} (ident : ∀ i, P (.ident i)) (attr : ∀ o n, P o → P (.attr o n))
    (other : ∀ e, isPathE e = false → P e) : ∀ e, P e :=
  (Expr.induct (Q := fun _ => True) (R := fun _ => True) ident attr (fun _ _ => other _ rfl) (fun _ _ => other _ rfl)
    (fun _ _ _ _ _ => other _ rfl) (fun _ _ _ _ _ => other _ rfl) (fun _ _ _ _ _ => other _ rfl) (fun _ _ _ => other _ rfl)
    (fun _ _ _ => other _ rfl) (fun _ _ _ => other _ rfl) (fun _ _ _ _ _ => other _ rfl) trivial (fun _ _ _ _ => trivial)
    trivial (fun _ _ _ => trivial)).1

theorem pathSegs_of_not_path (e : Expr) (h : isPathE e = false) : pathSegs e = none := by
  cases e <;> first | rfl | cases h

theorem pathSegs_ne_nil (e : Expr) (segs : List Str) (h : pathSegs e = some segs) : segs ≠ [] := by
  cases e with
  | ident i =>
    rw [pathSegs_ident] at h; split at h <;> simp at h; subst h; simp
  | attr o n =>
    rw [pathSegs_attr] at h
    obtain ⟨s, _, rfl⟩ := Option.map_eq_some_iff.1 h
    simp
  | _ => simp [pathSegs] at h

theorem pathSegs_head (e : Expr) : ∀ (s : Str) (rest : List Str), pathSegs e = some (s :: rest) → pathHeads e = [s] := by
  induction e using path_induct with
  | ident i =>
    intro s rest h
    rw [pathSegs_ident] at h; split at h <;> simp at h; simp [pathHeads, h.1]
  | attr o n ih =>
    intro s rest h
    rw [pathSegs_attr] at h
    obtain ⟨sg, ho, h⟩ := Option.map_eq_some_iff.1 h
    cases sg with
    | nil => exact absurd rfl (pathSegs_ne_nil o _ ho)
    | cons s' r' => rw [pathHeads, ih s' r' ho, (List.cons.inj h).1]
  | other e he => intro s rest h; rw [pathSegs_of_not_path e he] at h; cases h

theorem pathSegs_normNull (e : Expr) (h : isAttrE e = false) : pathSegs (normNull e) = pathSegs e := by
  cases e with
  | attr o n => cases h
  | lit k s => rw [normNull]; split <;> rfl
  | _ => rfl

theorem dropV_snoc (v : Str) (segs : List Str) (n : Str) (h : 2 ≤ segs.length) :
    dropV v (segs ++ [n]) = dropV v segs ++ [n] := by
  match segs, h with
  | s :: t :: r, _ => simp [dropV]; split <;> simp

/-- `stripN` drops the leading variable segment of a path, and only of a path of at least two segments -/
theorem pathSegs_stripN (v : Str) (e : Expr) : pathSegs (stripN ⟨v, []⟩ e) = (pathSegs e).map (dropV v) := by
  induction e using path_induct with
  | ident i => rw [stripN, pathSegs_ident]; split <;> simp [dropV]
  | attr o n ih =>
    refine stripN_attr_cases _ o n (P := fun e => pathSegs e = _) (fun h => ?_) (fun _ h3 => ?_) (fun h1 h3 => ?_)
    · subst h; simp [pathSegs, dropV]
    · rw [pathSegs_attr, ih, pathSegs_attr]
      cases ho : pathSegs o with
      | none => rfl
      | some sg =>
        refine congrArg some (dropV_snoc v sg n ?_).symm
        cases o with
        | attr o2 n2 =>
          rw [pathSegs_attr] at ho
          obtain ⟨s2, ho2, rfl⟩ := Option.map_eq_some_iff.1 ho
          have := pathSegs_ne_nil o2 s2 ho2
          cases s2 with
          | nil => exact absurd rfl this
          | cons _ _ => simp
        | _ => cases h3
    · rw [pathSegs_attr, pathSegs_normNull o h3, pathSegs_attr]
      cases o with
      | ident i =>
        rw [pathSegs_ident]; split
        · have : ¬ (i.name = v) := fun hn => h1 (by obtain ⟨c, ns⟩ := i; simp_all)
          simp [dropV, this]
        · rfl
      | attr _ _ => cases h3
      | _ => rfl
  | other e he => rw [pathSegs_of_not_path e he, pathSegs_of_not_path _ ((isPathE_stripN _ e).trans he)]; rfl


def H (v : Str) (var var' : Option Str) (hs : List Str) : Prop :=
  (var = some v ∧ var' = none) ∨ (var' = var ∧ v ∉ hs)

theorem H.mono {v : Str} {var var' : Option Str} {hs hs' : List Str} (h : H v var var' hs)
    (hsub : ∀ x, x ∈ hs' → x ∈ hs) : H v var var' hs' := by
  rcases h with h | ⟨h1, h2⟩
  · exact Or.inl h
  · exact Or.inr ⟨h1, fun hm => h2 (hsub _ hm)⟩

theorem segs_strip (v : Str) (var var' : Option Str) (e : Expr) (h : H v var var' (pathHeads e)) :
    (pathSegs (stripN ⟨v, []⟩ e)).map (adj var') = (pathSegs e).map (adj var) := by
  rw [pathSegs_stripN]
  rcases h with ⟨rfl, rfl⟩ | ⟨rfl, h2⟩
  · cases pathSegs e <;> simp [adj_none, adj_some]
  · cases hp : pathSegs e with
    | none => simp
    | some sg =>
        cases sg with
        | nil => exact absurd rfl (pathSegs_ne_nil e _ hp)
        | cons s rest =>
            have := pathSegs_head e s rest hp
            rw [this] at h2
            have hsv : ¬ s = v := by intro hh; apply h2; simp [hh]
            simp [dropV, hsv]

def keyK : Option (List Str) → Option (Str × Str)
  | some segs => (match segs.reverse with
       | last :: _ => some (joinSlash segs, last)
       | [] => none)
  | none => none
def ownK : Option (List Str) → Option (List Str × Str)
  | some segs => (match segs.reverse with
       | coll :: revPath => some (revPath.reverse, coll)
       | [] => none)
  | none => none

theorem keyOf_eq (var : Option Str) (e : Expr) : keyOf var e = keyK ((pathSegs e).map (adj var)) := by
  unfold keyOf
  cases pathSegs e <;> rfl
theorem ownerOf_eq (var : Option Str) (e : Expr) : ownerOf var e = ownK ((pathSegs e).map (adj var)) := by
  unfold ownerOf
  cases pathSegs e <;> rfl

theorem keyOf_strip (v : Str) (var var' : Option Str) (e : Expr) (h : H v var var' (pathHeads e)) :
    keyOf var' (stripN ⟨v, []⟩ e) = keyOf var e := by
  rw [keyOf_eq, keyOf_eq, segs_strip v var var' e h]
theorem ownerOf_strip (v : Str) (var var' : Option Str) (e : Expr) (h : H v var var' (pathHeads e)) :
    ownerOf var' (stripN ⟨v, []⟩ e) = ownerOf var e := by
  rw [ownerOf_eq, ownerOf_eq, segs_strip v var var' e h]
theorem colOfKind_strip (kindOf : Str → Option ColK) (v : Str) (var var' : Option Str) (k : ColK) (e : Expr)
    (h : H v var var' (pathHeads e)) :
    colOfKind kindOf var' k (stripN ⟨v, []⟩ e) = colOfKind kindOf var k e := by
  unfold colOfKind
  rw [keyOf_strip v var var' e h]


theorem relI_lit_var (kindOf : Str → Option ColK) (var var' : Option Str) (k : LitKind) (s : Str) :
    relI kindOf var' (.lit k s) = relI kindOf var (.lit k s) := by
  cases k with
  | int =>
      cases s with
      | nil => simp [relI]
      | cons c cs =>
          by_cases hc : c = '-'
          · subst hc; simp [relI]
          · simp [relI, hc]
  | _ => simp [relI]
theorem relS_lit_var (kindOf : Str → Option ColK) (var var' : Option Str) (k : LitKind) (s : Str) :
    relS kindOf var' (.lit k s) = relS kindOf var (.lit k s) := by
  cases k <;> simp [relS]


theorem relI_path (kindOf : Str → Option ColK) (var : Option Str) (e : Expr) (h : isPathE e = true) :
    relI kindOf var e = (colOfKind kindOf var .int e).map .col := by
  cases e <;> first | rfl | cases h
theorem relS_path (kindOf : Str → Option ColK) (var : Option Str) (e : Expr) (h : isPathE e = true) :
    relS kindOf var e = (colOfKind kindOf var .str e).map .col := by
  cases e <;> first | rfl | cases h

section
variable (kindOf : Str → Option ColK) (v : Str) (var var' : Option Str)

theorem relI_strip_path (e : Expr) (hp : isPathE e = true) (h : H v var var' (pathHeads e)) :
    relI kindOf var' (stripN ⟨v, []⟩ e) = relI kindOf var e := by
  rw [relI_path _ _ _ ((isPathE_stripN _ e).trans hp), relI_path _ _ _ hp, colOfKind_strip kindOf v var var' .int e h]
theorem relS_strip_path (e : Expr) (hp : isPathE e = true) (h : H v var var' (pathHeads e)) :
    relS kindOf var' (stripN ⟨v, []⟩ e) = relS kindOf var e := by
  rw [relS_path _ _ _ ((isPathE_stripN _ e).trans hp), relS_path _ _ _ hp, colOfKind_strip kindOf v var var' .str e h]

/-- the two scalar readers at once (`relI` reads the argument of `length` with `relS`): identifiers and attribute chains by
    the path lemmas, literals do not look at the variable, `neg`, arithmetic and one-argument calls pass to their parts, and
    on everything else both readers answer `none` -/
theorem rel_strip_all : ∀ e, H v var var' (pathHeads e) →
    relS kindOf var' (stripN ⟨v, []⟩ e) = relS kindOf var e ∧ relI kindOf var' (stripN ⟨v, []⟩ e) = relI kindOf var e := by
  refine (Expr.induct (Q := fun xs => ∀ a, xs = .cons a .nil → H v var var' (pathHeads a) →
        relS kindOf var' (stripN ⟨v, []⟩ a) = relS kindOf var a ∧ relI kindOf var' (stripN ⟨v, []⟩ a) = relI kindOf var a)
      (R := fun _ => True) ?ident ?attr ?lit ?list ?binop ?compare ?boolop ?unary ?named ?call ?coll ?nil ?cons trivial
    (fun _ _ _ => trivial)).1
  case ident => exact fun i h => ⟨relS_strip_path kindOf v var var' _ rfl h, relI_strip_path kindOf v var var' _ rfl h⟩
  case attr => exact fun o n _ h => ⟨relS_strip_path kindOf v var var' _ rfl h, relI_strip_path kindOf v var var' _ rfl h⟩
  case lit =>
    intro k s _
    rw [stripN_lit]; split
    · subst_vars; exact ⟨rfl, rfl⟩
    · exact ⟨relS_lit_var kindOf var var' k s, relI_lit_var kindOf var var' k s⟩
  case unary =>
    intro o e ih h
    cases o with
    | not_ => exact ⟨rfl, rfl⟩
    | neg => exact ⟨rfl, by simp only [stripN, relI, (ih h).2]⟩
  case binop =>
    intro k l r ihl ihr h
    refine ⟨rfl, ?_⟩
    simp only [stripN, relI, (ihl (h.mono fun x hx => List.mem_append_left _ hx)).2,
      (ihr (h.mono fun x hx => List.mem_append_right _ hx)).2]
  case call =>
    intro f args ih h
    match f, args, ih, h with
    | ⟨n, []⟩, .cons a .nil, ih, h =>
      have ha := (ih a rfl (h.mono fun x hx => List.mem_append_left _ hx)).1
      exact ⟨by simp only [stripN, stripNList, relS, ha], by simp only [stripN, stripNList, relI, ha]⟩
    | ⟨n, []⟩, .nil, _, _ => exact ⟨rfl, rfl⟩
    | ⟨n, []⟩, .cons a (.cons b t), _, _ => exact ⟨rfl, rfl⟩
    | ⟨n, _ :: _⟩, args, _, _ => exact ⟨rfl, rfl⟩
  case nil => intro a h; cases h
  case cons => intro h t ihh _ a e; cases e; exact ihh
  all_goals (intros; exact ⟨rfl, rfl⟩)

theorem relS_strip (e : Expr) (h : H v var var' (pathHeads e)) : relS kindOf var' (stripN ⟨v, []⟩ e) = relS kindOf var e :=
  (rel_strip_all kindOf v var var' e h).1
theorem relI_strip (e : Expr) (h : H v var var' (pathHeads e)) : relI kindOf var' (stripN ⟨v, []⟩ e) = relI kindOf var e :=
  (rel_strip_all kindOf v var var' e h).2
end

theorem relIs_strip (kindOf : Str → Option ColK) (v : Str) (var var' : Option Str) :
    (xs : Exprs) → H v var var' (pathHeadsList xs) → relIs kindOf var' (stripNList ⟨v, []⟩ xs) = relIs kindOf var xs
  | .nil, _ => by simp [stripNList, relIs]
  | .cons a t, h => by
      have ha := relI_strip kindOf v var var' a (h.mono (by simp [pathHeadsList]; intro x hx; exact Or.inl hx))
      have ht := relIs_strip kindOf v var var' t (h.mono (by simp [pathHeadsList]; intro x hx; exact Or.inr hx))
      simp only [stripNList, relIs, ha, ht]
theorem relSs_strip (kindOf : Str → Option ColK) (v : Str) (var var' : Option Str) :
    (xs : Exprs) → H v var var' (pathHeadsList xs) → relSs kindOf var' (stripNList ⟨v, []⟩ xs) = relSs kindOf var xs
  | .nil, _ => by simp [stripNList, relSs]
  | .cons a t, h => by
      have ha := relS_strip kindOf v var var' a (h.mono (by simp [pathHeadsList]; intro x hx; exact Or.inl hx))
      have ht := relSs_strip kindOf v var var' t (h.mono (by simp [pathHeadsList]; intro x hx; exact Or.inr hx))
      simp only [stripNList, relSs, ha, ht]

def isListE : Expr → Bool
  | .list _ => true
  | _ => false
def isNullLit : Expr → Bool
  | .lit .null _ => true
  | _ => false

theorem isListE_stripN (x : Ident) (e : Expr) : isListE (stripN x e) = isListE e := by
  cases e with
  | attr o n => exact stripN_attr_cases x o n (P := fun e => isListE e = false) (fun _ => rfl) (fun _ _ => rfl) (fun _ _ => rfl)
  | lit k s => rw [stripN_lit]; split <;> rfl
  | _ => rfl
theorem isNullLit_stripN (x : Ident) (e : Expr) : isNullLit (stripN x e) = isNullLit e := by
  cases e with
  | attr o n => exact stripN_attr_cases x o n (P := fun e => isNullLit e = false) (fun _ => rfl) (fun _ _ => rfl) (fun _ _ => rfl)
  | lit k s =>
    rw [stripN_lit]; split
    · subst_vars; rfl
    · rfl
  | _ => rfl

theorem isNullLit_inv {r : Expr} (h : isNullLit r = true) : ∃ s, r = .lit .null s := by
  unfold isNullLit at h
  split at h
  · exact ⟨_, rfl⟩
  · cases h
theorem isListE_inv {r : Expr} (h : isListE r = true) : ∃ xs, r = .list xs := by
  unfold isListE at h
  split at h
  · exact ⟨_, rfl⟩
  · cases h

theorem relLeaf_cmp_gen (kindOf : Str → Option ColK) (var : Option Str) (op : CmpOp) (l r : Expr)
    (h1 : op = .in_ → isListE r = false) (h2 : isNullLit r = false) :
    relLeaf kindOf var (.compare op l r) =
      match cmpKOf op with
      | none => none
      | some k =>
          match relI kindOf var l, relI kindOf var r with
          | some a, some b => some (.cmpI k a b)
          | _, _ =>
              match relS kindOf var l, relS kindOf var r with
              | some a, some b => some (.cmpS k a b)
              | _, _ => none := by
  refine relLeaf.eq_3 kindOf var op l r ?_ ?_
  · intro xs ho hr; subst hr; simp [isListE] at h1; exact h1 ho
  · intro s hr; subst hr; simp [isNullLit] at h2

theorem relLeaf_strip (kindOf : Str → Option ColK) (v : Str) (var var' : Option Str) :
    (e : Expr) → H v var var' (pathHeads e) → relLeaf kindOf var' (stripN ⟨v, []⟩ e) = relLeaf kindOf var e := by
  intro e h
  cases e with
  | compare op l r =>
    have hHl : H v var var' (pathHeads l) := h.mono fun x hx => List.mem_append_left _ hx
    have hHr : H v var var' (pathHeads r) := h.mono fun x hx => List.mem_append_right _ hx
    have hlI := relI_strip kindOf v var var' l hHl
    have hlS := relS_strip kindOf v var var' l hHl
    show relLeaf kindOf var' (.compare op (stripN ⟨v, []⟩ l) (stripN ⟨v, []⟩ r)) = _
    by_cases hN : isNullLit r = true
    · obtain ⟨s, rfl⟩ := isNullLit_inv hN
      simp only [stripN, if_true, relLeaf, keyOf_strip v var var' l hHl]
    · by_cases hL : op = .in_ ∧ isListE r = true
      · obtain ⟨rfl, hL⟩ := hL
        obtain ⟨xs, rfl⟩ := isListE_inv hL
        simp only [stripN, relLeaf, hlI, hlS, relIs_strip kindOf v var var' xs hHr, relSs_strip kindOf v var var' xs hHr]
      · have hN' : isNullLit r = false := Bool.eq_false_iff.2 hN
        have hL' : op = .in_ → isListE r = false := fun ho => Bool.eq_false_iff.2 fun hl => hL ⟨ho, hl⟩
        rw [relLeaf_cmp_gen kindOf var op l r hL' hN',
          relLeaf_cmp_gen kindOf var' op _ _ (by rw [isListE_stripN]; exact hL') (by rw [isNullLit_stripN]; exact hN'),
          hlI, hlS, relI_strip kindOf v var var' r hHr, relS_strip kindOf v var var' r hHr]
  | call f args =>
    match f, args, h with
    | ⟨n, []⟩, .cons a (.cons b .nil), h =>
      have ha := relS_strip kindOf v var var' a (h.mono fun x hx => List.mem_append_left _ hx)
      have hb := relS_strip kindOf v var var' b (h.mono fun x hx => List.mem_append_right _ (List.mem_append_left _ hx))
      simp only [stripN, stripNList, relLeaf, ha, hb]
    | ⟨n, []⟩, .nil, _ => rfl
    | ⟨n, []⟩, .cons a .nil, _ => rfl
    | ⟨n, []⟩, .cons a (.cons b (.cons c t)), _ => rfl
    | ⟨n, _ :: _⟩, args, _ => rfl
  | attr o n =>
    exact stripN_attr_cases _ o n (P := fun e => relLeaf kindOf var' e = none) (fun _ => rfl) (fun _ _ => rfl) (fun _ _ => rfl)
  | lit k s => rw [stripN_lit]; split <;> rfl
  | _ => rfl


theorem pathHeads_normNull_all : (∀ e, pathHeads (normNull e) = pathHeads e) ∧
    (∀ xs, pathHeadsList (normNullList xs) = pathHeadsList xs) ∧ (∀ l, pathHeadsLam (normNullLam l) = pathHeadsLam l) := by
  apply Expr.induct
  case lit => intro k s; rw [normNull]; split <;> rfl
  all_goals (intros; simp only [normNull, normNullList, normNullLam, pathHeads, pathHeadsList, pathHeadsLam, *])

theorem pathHeads_normNull : (e : Expr) → pathHeads (normNull e) = pathHeads e := pathHeads_normNull_all.1
theorem pathHeadsList_normNull : (xs : Exprs) → pathHeadsList (normNullList xs) = pathHeadsList xs := pathHeads_normNull_all.2.1
theorem pathHeadsLam_normNull : (l : OptLam) → pathHeadsLam (normNullLam l) = pathHeadsLam l := pathHeads_normNull_all.2.2

theorem pathHeads_stripN_all (v : Str) : (∀ e, v ∉ pathHeads e → pathHeads (stripN ⟨v, []⟩ e) = pathHeads e) ∧
    (∀ xs, v ∉ pathHeadsList xs → pathHeadsList (stripNList ⟨v, []⟩ xs) = pathHeadsList xs) ∧
    (∀ l, v ∉ pathHeadsLam l → pathHeadsLam (stripNLam ⟨v, []⟩ l) = pathHeadsLam l) := by
  apply Expr.induct
  case attr =>
    intro o n ih h
    refine stripN_attr_cases _ o n (P := fun e => pathHeads e = _) (fun h1 => ?_) (fun _ _ => ih h) (fun _ _ => pathHeads_normNull o)
    subst h1; simp [pathHeads] at h
  case lit => intro k s _; rw [stripN]; split <;> rfl
  all_goals
    (intros
     simp_all only [stripN, stripNList, stripNLam, pathHeads, pathHeadsList, pathHeadsLam, List.mem_append, not_or,
       not_false_eq_true])

theorem pathHeads_stripN (v : Str) : (e : Expr) → v ∉ pathHeads e → pathHeads (stripN ⟨v, []⟩ e) = pathHeads e :=
  (pathHeads_stripN_all v).1
theorem pathHeadsList_stripN (v : Str) : (xs : Exprs) → v ∉ pathHeadsList xs →
    pathHeadsList (stripNList ⟨v, []⟩ xs) = pathHeadsList xs := (pathHeads_stripN_all v).2.1
theorem pathHeadsLam_stripN (v : Str) : (l : OptLam) → v ∉ pathHeadsLam l →
    pathHeadsLam (stripNLam ⟨v, []⟩ l) = pathHeadsLam l := (pathHeads_stripN_all v).2.2

def extOuter (var : Option Str) (outer : List Str) : List Str :=
  match var with
  | some x => x :: outer
  | none => outer

def isLeafShape : Expr → Bool
  | .boolop _ _ _ => false
  | .unary .not_ _ => false
  | .coll _ .any .none => false
  | .coll _ _ (.some _ _) => false
  | _ => true

/-- `and` / `or` under one name: every translation of the filter grammar treats the two alike -/
def rcBin : BoolOp → RCond → RCond → RCond
  | .and_ => .and
  | .or_ => .or

theorem elabRAux_boolop (kindOf : Str → Option ColK) (outer : List Str) (var : Option Str) (o : BoolOp) (l r : Expr) :
    elabRAux kindOf outer var (.boolop o l r) =
      (elabRAux kindOf outer var l).bind fun a => (elabRAux kindOf outer var r).map (rcBin o a) := by
  cases o <;> simp only [elabRAux] <;> cases elabRAux kindOf outer var l <;> cases elabRAux kindOf outer var r <;> rfl

theorem elabRAux_boolop_some {kindOf : Str → Option ColK} {outer : List Str} {var : Option Str} {o : BoolOp} {l r : Expr} {f : RCond}
    (h : elabRAux kindOf outer var (.boolop o l r) = some f) :
    ∃ a b, elabRAux kindOf outer var l = some a ∧ elabRAux kindOf outer var r = some b ∧ f = rcBin o a b := by
  rw [elabRAux_boolop] at h
  obtain ⟨a, ha, h⟩ := Option.bind_eq_some_iff.1 h
  obtain ⟨b, hb, h⟩ := Option.map_eq_some_iff.1 h
  exact ⟨a, b, ha, hb, h.symm⟩

theorem elabRAux_coll_some (kindOf : Str → Option ColK) (outer : List Str) (var : Option Str)
    (ow : Expr) (op : CollOp) (w : Ident) (body : Expr) :
    elabRAux kindOf outer var (.coll ow op (.some w body)) =
      if (pathHeads ow).any (fun h => outer.contains h) then none
      else
        (match ownerOf var ow, elabRAux kindOf (extOuter var outer) (some w.name) body with
         | some (path, coll), some b => some (if op == .any then .any path coll b else .all path coll b)
         | _, _ => none) := by
  cases var <;> simp only [elabRAux, extOuter] <;> rfl

theorem elabRAux_leaf (kindOf : Str → Option ColK) (outer : List Str) (var : Option Str) (e : Expr)
    (h : isLeafShape e = true) :
    elabRAux kindOf outer var e =
      if (pathHeads e).any (fun h => outer.contains h) then none
      else (relLeaf kindOf var e).map .scalar := by
  rw [elabRAux.eq_7]
  all_goals (intros; subst_vars; simp [isLeafShape] at h)


theorem isLeafShape_stripN (x : Ident) (e : Expr) : isLeafShape (stripN x e) = isLeafShape e := by
  cases e with
  | attr o n => exact stripN_attr_cases x o n (P := fun e => isLeafShape e = true) (fun _ => rfl) (fun _ _ => rfl) (fun _ _ => rfl)
  | lit k s => rw [stripN_lit]; split <;> rfl
  | unary o e => cases o <;> rfl
  | coll ow o l => cases o <;> cases l <;> rfl
  | _ => rfl

def Mode (v : Str) (outer outer2 : List Str) (var var' : Option Str) : Prop :=
  (var = some v ∧ var' = none ∧ outer2 = []) ∨ (var' = var ∧ v ∈ outer)

theorem mode_check {v : Str} {outer outer2 : List Str} {var var' : Option Str}
    (hm : Mode v outer outer2 var var') (hsub : ∀ x, x ∈ outer2 → x ∈ outer) (t : Expr)
    (hc : (pathHeads t).any (fun h => outer.contains h) = false) :
    H v var var' (pathHeads t) ∧ (pathHeads (stripN ⟨v, []⟩ t)).any (fun h => outer2.contains h) = false := by
  rcases hm with ⟨h1, h2, h3⟩ | ⟨h1, h2⟩
  · refine ⟨Or.inl ⟨h1, h2⟩, ?_⟩
    subst h3; simp
  · have hv : v ∉ pathHeads t := by
      intro hin
      simp only [List.any_eq_false] at hc
      have := hc v hin
      simp [h2] at this
    refine ⟨Or.inr ⟨h1, hv⟩, ?_⟩
    rw [pathHeads_stripN v t hv]
    simp only [List.any_eq_false] at hc ⊢
    intro x hx hcon
    apply hc x hx
    simp only [List.contains_iff_mem] at hcon ⊢
    exact hsub x hcon

theorem mode_ext {v : Str} {outer outer2 : List Str} {var var' : Option Str}
    (hm : Mode v outer outer2 var var') (hsub : ∀ x, x ∈ outer2 → x ∈ outer) (w : Str) :
    Mode v (extOuter var outer) (extOuter var' outer2) (some w) (some w) ∧
      (∀ x, x ∈ extOuter var' outer2 → x ∈ extOuter var outer) := by
  rcases hm with ⟨h1, h2, h3⟩ | ⟨h1, h2⟩
  · subst h1 h2 h3
    exact ⟨Or.inr ⟨rfl, by simp [extOuter]⟩, by simp [extOuter]⟩
  · subst h1
    cases var' with
    | none => exact ⟨Or.inr ⟨rfl, by simpa [extOuter] using h2⟩, by simpa [extOuter] using hsub⟩
    | some y =>
        refine ⟨Or.inr ⟨rfl, by simp [extOuter, h2]⟩, ?_⟩
        intro x hx
        simp only [extOuter, List.mem_cons] at hx ⊢
        rcases hx with hx | hx
        · exact Or.inl hx
        · exact Or.inr (hsub x hx)

section
variable {kindOf : Str → Option ColK} {motive : List Str → Option Str → Expr → RCond → Prop}
  (bool : ∀ outer var o l r a b, elabRAux kindOf outer var l = some a → elabRAux kindOf outer var r = some b →
    motive outer var l a → motive outer var r b → motive outer var (.boolop o l r) (rcBin o a b))
  (not : ∀ outer var e a, elabRAux kindOf outer var e = some a → motive outer var e a →
    motive outer var (.unary .not_ e) (.not a))
  (nonEmpty : ∀ outer var ow path coll, (pathHeads ow).any (fun h => outer.contains h) = false →
    ownerOf var ow = some (path, coll) → motive outer var (.coll ow .any .none) (.nonEmpty path coll))
  (lam : ∀ outer var ow op w body path coll b, (pathHeads ow).any (fun h => outer.contains h) = false →
    ownerOf var ow = some (path, coll) → elabRAux kindOf (extOuter var outer) (some w.name) body = some b →
    motive (extOuter var outer) (some w.name) body b →
    motive outer var (.coll ow op (.some w body)) (if op == .any then .any path coll b else .all path coll b))
  (leaf : ∀ outer var e b, isLeafShape e = true → (pathHeads e).any (fun h => outer.contains h) = false →
    relLeaf kindOf var e = some b → motive outer var e (.scalar b))
include leaf

theorem elabRAux_leaf_step (e : Expr) (outer : List Str) (var : Option Str) (f : RCond) (hl : isLeafShape e = true)
    (he : elabRAux kindOf outer var e = some f) : motive outer var e f := by
  rw [elabRAux_leaf kindOf outer var e hl] at he
  split at he
  · cases he
  · obtain ⟨b, hb, rfl⟩ := Option.map_eq_some_iff.1 he
    exact leaf outer var e b hl (Bool.eq_false_iff.2 ‹_›) hb

include bool not nonEmpty lam

theorem elabRAux_induct : ∀ e outer var f, elabRAux kindOf outer var e = some f → motive outer var e f := by
  refine (Expr.induct (P := fun e => ∀ outer var f, elabRAux kindOf outer var e = some f → motive outer var e f)
    (Q := fun _ => True) (R := fun l => ∀ w body, l = .some w body →
      ∀ outer var f, elabRAux kindOf outer var body = some f → motive outer var body f)
    ?ident ?attr ?lit ?list ?binop ?compare ?boolop ?unary ?named ?call ?coll trivial (fun _ _ _ _ => trivial) ?none ?some).1
  case boolop =>
    intro o l r ihl ihr outer var f he
    obtain ⟨a, b, hl, hr, rfl⟩ := elabRAux_boolop_some he
    exact bool outer var o l r a b hl hr (ihl outer var a hl) (ihr outer var b hr)
  case unary =>
    intro o e ih outer var f he
    cases o with
    | neg => exact elabRAux_leaf_step leaf _ outer var f rfl he
    | not_ =>
      simp only [elabRAux] at he
      obtain ⟨a, ha, rfl⟩ := Option.map_eq_some_iff.1 he
      exact not outer var e a ha (ih outer var a ha)
  case coll =>
    intro ow op lam _ ihl outer var f he
    cases lam with
    | none =>
      cases op with
      | all => exact elabRAux_leaf_step leaf _ outer var f rfl he
      | any =>
        simp only [elabRAux] at he
        split at he
        · cases he
        · obtain ⟨⟨path, coll⟩, how, rfl⟩ := Option.map_eq_some_iff.1 he
          exact nonEmpty outer var ow path coll (Bool.eq_false_iff.2 ‹_›) how
    | some w body =>
      rw [elabRAux_coll_some] at he
      split at he
      · cases he
      · cases how : ownerOf var ow with
        | none => simp [how] at he
        | some pc =>
          cases hb : elabRAux kindOf (extOuter var outer) (some w.name) body with
          | none => simp [how, hb] at he
          | some b =>
            obtain rfl : (if op == .any then RCond.any pc.1 pc.2 b else .all pc.1 pc.2 b) = f := by simpa [how, hb] using he
            exact lam outer var ow op w body pc.1 pc.2 b (Bool.eq_false_iff.2 ‹_›) how hb (ihl w body rfl _ _ b hb)
  case none => intro w body h; cases h
  case some => intro v b ih w body h; cases h; exact ih
  all_goals (intros; exact elabRAux_leaf_step leaf _ _ _ _ rfl ‹_›)
end

theorem elab_strip (kindOf : Str → Option ColK) (v : Str) :
    ∀ e outer var f, elabRAux kindOf outer var e = some f → ∀ outer2 var', Mode v outer outer2 var var' →
      (∀ x, x ∈ outer2 → x ∈ outer) → elabRAux kindOf outer2 var' (stripN ⟨v, []⟩ e) = some f := by
  apply elabRAux_induct
  · intro outer var o l r a b _ _ ihl ihr outer2 var' hm hsub
    rw [stripN, elabRAux_boolop, ihl _ _ hm hsub, ihr _ _ hm hsub]; rfl
  · intro outer var e a _ ih outer2 var' hm hsub
    simp only [stripN, elabRAux, ih _ _ hm hsub, Option.map_some]
  · intro outer var ow path coll hc how outer2 var' hm hsub
    obtain ⟨hH, hc2⟩ := mode_check hm hsub ow hc
    simp only [stripN, stripNLam, elabRAux, hc2, ownerOf_strip v var var' ow hH, how, Bool.false_eq_true, if_false, Option.map_some]
  · intro outer var ow op w body path coll b hc how _ ih outer2 var' hm hsub
    obtain ⟨hH, hc2⟩ := mode_check hm hsub ow hc
    obtain ⟨hm', hsub'⟩ := mode_ext hm hsub w.name
    simp only [stripN, stripNLam]
    rw [elabRAux_coll_some, hc2, ownerOf_strip v var var' ow hH, how, ih _ _ hm' hsub']; rfl
  · intro outer var e b hl hc hb outer2 var' hm hsub
    obtain ⟨hH, hc2⟩ := mode_check hm hsub e hc
    rw [elabRAux_leaf kindOf outer2 var' _ ((isLeafShape_stripN _ e).trans hl), hc2, relLeaf_strip kindOf v var var' e hH, hb]; rfl

/-- THE STRIP LEMMA: the specification's "drop the leading variable segment" reading of a lambda body agrees with the
    visitors' IdentifierStripper (`stripVar_eq`) followed by a variable-free reading -/
theorem strip_elab (kindOf : Str → Option ColK) (v : Ident) (hv : v.ns = []) (outer : List Str) (body : Expr) (b : RCond)
    (he : elabRAux kindOf outer (some v.name) body = some b) :
    elabRAux kindOf [] none (stripN v body) = some b := by
  obtain ⟨n, ns⟩ := v
  subst hv
  exact elab_strip kindOf n body outer (some n) b he [] none (Or.inl ⟨rfl, rfl, rfl⟩) (fun _ h => nomatch h)

theorem check_mono {outer outer2 : List Str} (hsub : ∀ x, x ∈ outer2 → x ∈ outer) (hs : List Str)
    (hc : hs.any (fun h => outer.contains h) = false) : hs.any (fun h => outer2.contains h) = false := by
  simp only [List.any_eq_false, List.contains_iff_mem] at hc ⊢
  exact fun x hx hcon => hc x hx (hsub x hcon)

theorem extOuter_mono {outer outer2 : List Str} (hsub : ∀ x, x ∈ outer2 → x ∈ outer) (var : Option Str) :
    ∀ x, x ∈ extOuter var outer2 → x ∈ extOuter var outer := by
  cases var with
  | none => exact hsub
  | some y =>
    intro x hx
    rcases List.mem_cons.1 hx with hx | hx
    · exact List.mem_cons.2 (Or.inl hx)
    · exact List.mem_cons.2 (Or.inr (hsub x hx))

/-- fewer enclosing variables to avoid: the same reading -/
theorem elabRAux_mono (kindOf : Str → Option ColK) (outer outer2 : List Str) (var : Option Str) (e : Expr) (f : RCond)
    (hsub : ∀ x, x ∈ outer2 → x ∈ outer) (he : elabRAux kindOf outer var e = some f) :
    elabRAux kindOf outer2 var e = some f := by
  revert outer2
  refine elabRAux_induct (motive := fun outer var e f => ∀ outer2, (∀ x, x ∈ outer2 → x ∈ outer) →
    elabRAux kindOf outer2 var e = some f) ?_ ?_ ?_ ?_ ?_ e outer var f he
  · intro outer var o l r a b _ _ ihl ihr outer2 hsub
    rw [elabRAux_boolop, ihl _ hsub, ihr _ hsub]; rfl
  · intro outer var e a _ ih outer2 hsub
    simp only [elabRAux, ih _ hsub, Option.map_some]
  · intro outer var ow path coll hc how outer2 hsub
    simp only [elabRAux, check_mono hsub _ hc, how, Bool.false_eq_true, if_false, Option.map_some]
  · intro outer var ow op w body path coll b hc how _ ih outer2 hsub
    rw [elabRAux_coll_some, check_mono hsub _ hc, how, ih _ (extOuter_mono hsub var)]; rfl
  · intro outer var e b hl hc hb outer2 hsub
    rw [elabRAux_leaf kindOf outer2 var e hl, check_mono hsub _ hc, hb]; rfl

end OQ.RelStrip
