/-
  The printer model `rtRender` (Model/Printer.lean) against `Spec.render ∘ Spec.printToks` in the
  printer's own style and mode, for Props/C13Roundtrip.lean: `S e` says the two agree on `e` in front
  of any further tokens, and holds by structural recursion over `rtOk` trees; printable trees are `rtOk`.
-/
import ODataVerif.Model.Printer
import ODataVerif.Lemmas.Pratt
import ODataVerif.Props.C13
namespace OQ.RT
open Spec C13

/-- the printer's whitespace: "- x", "a, b", "v: body", nothing inside parentheses -/
def sty : Spec.Style := { afterMinus := true, afterComma := true, afterColon := true }

theorem quoteStr_eq : (s : Str) → quoteStr s = strReplaceQuote s
  | [] => rfl
  | c :: t => by
      by_cases h : c = '\''
      · subst h; simp [quoteStr, strReplaceQuote, quoteStr_eq t]
      · simp [quoteStr, strReplaceQuote, quoteStr_eq t]

theorem joinDots_snoc (x : Str) : (ns : List Str) → ns ≠ [] → joinDots (ns ++ [x]) = joinDots ns ++ '.' :: x
  | [], h => absurd rfl h
  | [n], _ => by simp [joinDots]
  | n :: n2 :: r, _ => by
      have ih := joinDots_snoc x (n2 :: r) (by simp)
      simp only [List.cons_append] at ih ⊢
      simp only [joinDots, ih, List.append_assoc, List.cons_append]

theorem spellIdent_rt (i : Ident) : spellIdent i = rtIdent i := by
  rw [Pratt.spellIdent_eq, Ident.fullName, rtIdent]
  by_cases h : i.ns = []
  · simp [h, joinDots]
  · simp [h, joinDots_snoc _ _ h]

theorem spell_arith (o : ArithOp) : spellTok (.arith o) = ' ' :: (arithWord o).toList ++ [' '] := by
  cases o <;> decide +kernel
theorem spell_cmp (o : CmpOp) : spellTok (.cmp o) = ' ' :: (cmpWord o).toList ++ [' '] := by
  cases o <;> decide +kernel
theorem spell_bool (o : BoolOp) : spellTok (.bool o) = ' ' :: (boolWord o).toList ++ [' '] := by
  cases o <;> decide +kernel

theorem render_cons (t : Tok) (h : t ≠ .uminus) (rest : List Tok) :
    render (t :: rest) = spellTok t ++ render rest := by
  cases t <;> first | exact absurd rfl h | simp [render]


@[simp] theorem render_lit (k v) (rest : List Tok) : render (.lit k v :: rest) = spellTok (.lit k v) ++ render rest := by
  rw [render_cons (.lit k v) (by simp)]
@[simp] theorem render_ident (i) (rest : List Tok) : render (.ident i :: rest) = rtIdent i ++ render rest := by
  rw [render_cons (.ident i) (by simp)]
  show spellIdent i ++ _ = _
  rw [spellIdent_rt]
@[simp] theorem render_arith (o) (rest : List Tok) : render (.arith o :: rest) = ' ' :: (arithWord o).toList ++ ' ' :: render rest := by
  rw [render_cons (.arith o) (by simp), spell_arith]; simp
@[simp] theorem render_cmp (o) (rest : List Tok) : render (.cmp o :: rest) = ' ' :: (cmpWord o).toList ++ ' ' :: render rest := by
  rw [render_cons (.cmp o) (by simp), spell_cmp]; simp
@[simp] theorem render_bool (o) (rest : List Tok) : render (.bool o :: rest) = ' ' :: (boolWord o).toList ++ ' ' :: render rest := by
  rw [render_cons (.bool o) (by simp), spell_bool]; simp
@[simp] theorem render_not (rest : List Tok) : render (.not_ :: rest) = "not ".toList ++ render rest := by
  rw [render_cons .not_ (by simp)]; rfl
@[simp] theorem render_any (rest : List Tok) : render (.any :: rest) = "any".toList ++ render rest := by
  rw [render_cons .any (by simp)]; rfl
@[simp] theorem render_all (rest : List Tok) : render (.all :: rest) = "all".toList ++ render rest := by
  rw [render_cons .all (by simp)]; rfl
@[simp] theorem render_ws (rest : List Tok) : render (.ws :: rest) = ' ' :: render rest := by
  rw [render_cons .ws (by simp)]; rfl
@[simp] theorem render_lp (rest : List Tok) : render (.lp :: rest) = '(' :: render rest := by
  rw [render_cons .lp (by simp)]; rfl
@[simp] theorem render_rp (rest : List Tok) : render (.rp :: rest) = ')' :: render rest := by
  rw [render_cons .rp (by simp)]; rfl
@[simp] theorem render_comma (rest : List Tok) : render (.comma :: rest) = ',' :: render rest := by
  rw [render_cons .comma (by simp)]; rfl
@[simp] theorem render_slash (rest : List Tok) : render (.slash :: rest) = '/' :: render rest := by
  rw [render_cons .slash (by simp)]; rfl
@[simp] theorem render_colon (rest : List Tok) : render (.colon :: rest) = ':' :: render rest := by
  rw [render_cons .colon (by simp)]; rfl
@[simp] theorem render_eqs (rest : List Tok) : render (.eqs :: rest) = '=' :: render rest := by
  rw [render_cons .eqs (by simp)]; rfl

theorem render_uminus_ws (rest : List Tok) : render (.uminus :: .ws :: rest) = '-' :: ' ' :: render rest := by
  rw [render]
  simp only [isUnsignedNumber, Bool.false_eq_true, if_false]
  rw [render_ws]

-- by `rfl`: the equation lemmas of `rtRender` are slow to generate
theorem rt_ident (i) : rtRender (.ident i) = rtIdent i := rfl
theorem rt_attr (o n) : rtRender (.attr o n) = rtRender o ++ '/' :: n := rfl
theorem rt_list_nil : rtRender (.list .nil) = ['(', ')'] := rfl
theorem rt_list_one (a) : rtRender (.list (.cons a .nil)) = '(' :: rtRender a ++ [',', ')'] := rfl
theorem rt_list_many (a b t) : rtRender (.list (.cons a (.cons b t))) = '(' :: rtJoin (.cons a (.cons b t)) ++ [')'] := rfl
theorem rt_binop (o l r) : rtRender (.binop o l r) =
    wrapIf (rtParenNeeded l o.className false) (rtRender l) ++ ' ' :: (arithWord o).toList ++ ' ' :: wrapIf (rtParenNeeded r o.className true) (rtRender r) := rfl
theorem rt_compare (o l r) : rtRender (.compare o l r) =
    wrapIf (rtParenNeeded l o.className false) (rtRender l) ++ ' ' :: (cmpWord o).toList ++ ' ' :: wrapIf (rtParenNeeded r o.className true) (rtRender r) := rfl
theorem rt_boolop (o l r) : rtRender (.boolop o l r) =
    wrapIf (rtParenNeeded l o.className false) (rtRender l) ++ ' ' :: (boolWord o).toList ++ ' ' :: wrapIf (rtParenNeeded r o.className true) (rtRender r) := rfl
theorem rt_not (e) : rtRender (.unary .not_ e) = "not ".toList ++ wrapIf (rtParenNeeded e "Not" false) (rtRender e) := rfl
theorem rt_neg (e) : rtRender (.unary .neg e) = "- ".toList ++ wrapIf (rtParenNeeded e "USub" false) (rtRender e) := rfl
theorem rt_named (n e) : rtRender (.named n e) = rtIdent n ++ '=' :: rtRender e := rfl
theorem rt_call (f args) : rtRender (.call f args) = rtIdent f ++ '(' :: rtJoin args ++ [')'] := rfl
theorem rt_coll (ow op lam) : rtRender (.coll ow op lam) =
    rtRender ow ++ '/' :: (if op = .any then "any" else "all").toList ++ '(' :: rtLam lam ++ [')'] := rfl
theorem rtJoin_nil : rtJoin .nil = [] := rfl
theorem rtJoin_one (a) : rtJoin (.cons a .nil) = rtRender a := rfl
theorem rtJoin_cons (a b t) : rtJoin (.cons a (.cons b t)) = rtRender a ++ ',' :: ' ' :: rtJoin (.cons b t) := rfl
theorem rtLam_none : rtLam .none = [] := rfl
theorem rtLam_some (v b) : rtLam (.some v b) = rtIdent v ++ ':' :: ' ' :: rtRender b := rfl

@[simp] theorem ws_true : ws? true = [.ws] := rfl
@[simp] theorem ws_false : ws? false = [] := rfl

theorem sty_insideParens : sty.insideParens = false := rfl
theorem sty_beforeComma : sty.beforeComma = false := rfl
theorem sty_beforeColon : sty.beforeColon = false := rfl
theorem sty_afterMinus : sty.afterMinus = true := rfl
theorem sty_afterComma : sty.afterComma = true := rfl
theorem sty_afterColon : sty.afterColon = true := rfl

mutual
/-- shapes on which the printer model and the reference rendering agree: the right operand of every
    `in` is something the printer does not parenthesise (a list, in every parsed tree) -/
def rtOk : Expr → Bool
  | .ident _ => true
  | .attr o _ => rtOk o
  | .lit _ _ => true
  | .list xs => rtOkArgs xs
  | .binop _ l r => rtOk l && rtOk r
  | .compare o l r => rtOk l && rtOk r && (o != .in_ || !rtParenNeeded r "In" true)
  | .boolop _ l r => rtOk l && rtOk r
  | .unary _ e => rtOk e
  | .named _ e => rtOk e
  | .call _ args => rtOkArgs args
  | .coll ow _ lam => rtOk ow && rtOkLam lam
def rtOkArgs : Exprs → Bool
  | .nil => true
  | .cons a t => rtOk a && rtOkArgs t
def rtOkLam : OptLam → Bool
  | .none => true
  | .some _ b => rtOk b
end

def S (e : Expr) : Prop :=
  ∀ rest : List Tok, render (printToks sty .printer e ++ rest) = rtRender e ++ render rest

def SJ (xs : Exprs) : Prop :=
  ∀ rest : List Tok, render (printArgs sty .printer xs ++ rest) = rtJoin xs ++ render rest

theorem s_operand {c : Expr} (hc : S c) (pl : Nat) (strict : Bool) (cls : String)
    (hp : rtParenNeeded c cls strict = needsParen .printer pl strict c) (rest : List Tok) :
    render (operand sty .printer pl strict c ++ rest)
      = wrapIf (rtParenNeeded c cls strict) (rtRender c) ++ render rest := by
  rw [operand, hp]
  cases needsParen .printer pl strict c with
  | false => simpa [wrapIf] using hc rest
  | true =>
    simp only [if_true, wrapIf, paren, sty_insideParens, ws_false, List.append_nil, List.cons_append,
      List.nil_append, List.append_assoc, render_lp]
    rw [hc, render_rp]

theorem s_ident (i : Ident) : S (.ident i) := by
  intro rest
  simp [printToks, rt_ident]

theorem s_attr {o : Expr} (n : Str) (ho : S o) : S (.attr o n) := by
  intro rest
  simp only [printToks, List.append_assoc, List.cons_append, List.nil_append]
  rw [ho, render_slash, render_ident]
  simp [rtIdent, rt_attr]

theorem s_lit (k : LitKind) (v : Str) : S (.lit k v) := by
  intro rest
  simp only [printToks, List.cons_append, List.nil_append, render_lit]
  cases k <;> first | rfl | (show _ :: (quoteStr v ++ _) ++ _ = _; rw [quoteStr_eq]; rfl)

/-- a binary operator spelled `w`, of class `cls`, on a row `L` where the printer's rule is the
    reference rule: both sides wrap the same operands -/
theorem s_binary {l r : Expr} (hl : S l) (hr : S r) (L : Nat) (cls : String) (t : Tok) (w : String)
    (hpar : ∀ c strict, rtParenNeeded c cls strict = needsParen .printer L strict c)
    (ht : ∀ rest, render (t :: rest) = ' ' :: w.toList ++ ' ' :: render rest) (rest : List Tok) :
    render (operand sty .printer L false l ++ t :: (operand sty .printer L true r ++ rest)) =
      (wrapIf (rtParenNeeded l cls false) (rtRender l) ++ ' ' :: w.toList ++
        ' ' :: wrapIf (rtParenNeeded r cls true) (rtRender r)) ++ render rest := by
  rw [s_operand hl _ _ cls (hpar l false), ht, s_operand hr _ _ cls (hpar r true)]
  simp

theorem s_binop {l r : Expr} (o : ArithOp) (hl : S l) (hr : S r) : S (.binop o l r) := by
  intro rest
  rw [printToks]
  simp only [List.append_assoc, List.cons_append, List.nil_append]
  exact s_binary hl hr _ o.className (.arith o) (arithWord o) (rtParen_arith o l r) (render_arith o) rest

theorem s_boolop {l r : Expr} (o : BoolOp) (hl : S l) (hr : S r) : S (.boolop o l r) := by
  intro rest
  rw [printToks]
  simp only [List.append_assoc, List.cons_append, List.nil_append]
  exact s_binary hl hr _ o.className (.bool o) (boolWord o) (rtParen_bool o l r) (render_bool o) rest

theorem s_compare {l r : Expr} (o : CmpOp) (ho : o ≠ .in_) (hl : S l) (hr : S r) : S (.compare o l r) := by
  intro rest
  rw [Pratt.printToks_compare sty .printer ho]
  simp only [List.append_assoc, List.cons_append]
  exact s_binary hl hr _ o.className (.cmp o) (cmpWord o) (rtParen_cmp o ho l r) (render_cmp o) rest

theorem s_in {l r : Expr} (hl : S l) (hr : S r) (hnp : rtParenNeeded r "In" true = false) :
    S (.compare .in_ l r) := by
  intro rest
  rw [printToks]
  simp only [List.append_assoc, List.cons_append, List.nil_append]
  rw [s_operand hl 8 false "In" (rtParen_in l), render_cmp, hr, rt_compare]
  have : CmpOp.in_.className = "In" := rfl
  simp [this, hnp, wrapIf]

theorem s_not {e : Expr} (he : S e) : S (.unary .not_ e) := by
  intro rest
  rw [printToks]
  simp only [List.cons_append, List.nil_append, render_not]
  rw [s_operand he 7 false "Not" (rtParen_unary .not_ e), rt_not]
  simp

theorem s_neg {e : Expr} (he : S e) : S (.unary .neg e) := by
  intro rest
  rw [printToks]
  simp only [sty_afterMinus, ws_true, List.cons_append, List.nil_append, render_uminus_ws]
  rw [s_operand he 7 false "USub" (rtParen_unary .neg e), rt_neg]
  rfl

theorem s_named {e : Expr} (n : Ident) (he : S e) : S (.named n e) := by
  intro rest
  simp only [printToks, List.cons_append, List.nil_append, render_ident, render_eqs]
  rw [he, rt_named]
  simp

theorem sj_nil : SJ .nil := by
  intro rest; simp [printArgs, rtJoin_nil]

theorem sj_one {a : Expr} (ha : S a) : SJ (.cons a .nil) := by
  intro rest; simpa [printArgs, rtJoin_one] using ha rest

theorem sj_cons {a b : Expr} {t : Exprs} (ha : S a) (ht : SJ (.cons b t)) : SJ (.cons a (.cons b t)) := by
  intro rest
  rw [Pratt.printArgs_cons2]
  simp only [commaToks, sty_beforeComma, sty_afterComma, ws_true, ws_false, List.append_assoc,
    List.cons_append, List.nil_append]
  rw [ha, render_comma, render_ws, ht, rtJoin_cons]
  simp

theorem s_list_nil : S (.list .nil) := by
  intro rest
  simp [printToks, printList, rt_list_nil]

theorem s_list_one {a : Expr} (ha : S a) : S (.list (.cons a .nil)) := by
  intro rest
  simp only [printToks, printList, sty_insideParens, sty_beforeComma, ws_false, List.append_nil,
    List.append_assoc, List.cons_append, List.nil_append, render_lp]
  rw [ha, render_comma, render_rp, rt_list_one]
  simp

theorem s_list_many {a b : Expr} {t : Exprs} (h : SJ (.cons a (.cons b t))) : S (.list (.cons a (.cons b t))) := by
  intro rest
  simp only [printToks, printList, paren, sty_insideParens, ws_false, List.append_nil, List.append_assoc,
    List.cons_append, List.nil_append, render_lp]
  rw [h, render_rp, rt_list_many]
  simp

theorem s_call {args : Exprs} (f : Ident) (h : SJ args) : S (.call f args) := by
  intro rest
  have e : printToks sty .printer (.call f args)
      = .ident f :: .lp :: (printArgs sty .printer args ++ [.rp]) := by
    cases args with
    | nil => simp [printToks, printArgs]
    | cons a t => simp [Pratt.printToks_call, paren, sty_insideParens]
  rw [e]
  simp only [List.append_assoc, List.cons_append, List.nil_append, render_ident, render_lp]
  rw [h (.rp :: rest), render_rp, rt_call]
  simp

theorem s_coll_none {ow : Expr} (op : CollOp) (how : S ow) : S (.coll ow op .none) := by
  intro rest
  simp only [printToks, sty_insideParens, ws_false, List.append_nil, List.append_assoc, List.cons_append,
    List.nil_append]
  rw [how, render_slash, rt_coll, rtLam_none]
  cases op <;> simp

theorem s_coll_some {ow b : Expr} (op : CollOp) (v : Ident) (how : S ow) (hb : S b) :
    S (.coll ow op (.some v b)) := by
  intro rest
  simp only [printToks, paren, sty_insideParens, sty_beforeColon, sty_afterColon, ws_false, ws_true,
    List.append_nil, List.append_assoc, List.cons_append, List.nil_append]
  rw [how, render_slash, rt_coll, rtLam_some]
  cases op <;> simp [hb (.rp :: rest)]

theorem s_compare_any {l r : Expr} (o : CmpOp) (hl : S l) (hr : S r)
    (hnp : (o != .in_ || !rtParenNeeded r "In" true) = true) : S (.compare o l r) := by
  by_cases ho : o = .in_
  · subst ho
    exact s_in hl hr (by simpa using hnp)
  · exact s_compare o ho hl hr

mutual
theorem render_ok : (e : Expr) → rtOk e = true → S e
  | .ident i, _ => s_ident i
  | .attr o n, h => s_attr n (render_ok o (by simpa [rtOk] using h))
  | .lit k v, _ => s_lit k v
  | .list .nil, _ => s_list_nil
  | .list (.cons a .nil), h => s_list_one (render_ok a (by simpa [rtOk, rtOkArgs] using h))
  | .list (.cons a (.cons b t)), h => s_list_many (join_ok (.cons a (.cons b t)) (by simpa [rtOk] using h))
  | .binop o l r, h =>
      have h' : rtOk l = true ∧ rtOk r = true := by simpa [rtOk] using h
      s_binop o (render_ok l h'.1) (render_ok r h'.2)
  | .boolop o l r, h =>
      have h' : rtOk l = true ∧ rtOk r = true := by simpa [rtOk] using h
      s_boolop o (render_ok l h'.1) (render_ok r h'.2)
  | .compare o l r, h =>
      have h' : (rtOk l = true ∧ rtOk r = true) ∧ (o != .in_ || !rtParenNeeded r "In" true) = true := by
        simpa only [rtOk, Bool.and_eq_true] using h
      s_compare_any o (render_ok l h'.1.1) (render_ok r h'.1.2) h'.2
  | .unary .not_ e, h => s_not (render_ok e (by simpa [rtOk] using h))
  | .unary .neg e, h => s_neg (render_ok e (by simpa [rtOk] using h))
  | .named n e, h => s_named n (render_ok e (by simpa [rtOk] using h))
  | .call f args, h => s_call f (join_ok args (by simpa [rtOk] using h))
  | .coll ow op .none, h => s_coll_none op (render_ok ow (by simpa [rtOk, rtOkLam] using h))
  | .coll ow op (.some v b), h =>
      have h' : rtOk ow = true ∧ rtOk b = true := by simpa [rtOk, rtOkLam] using h
      s_coll_some op v (render_ok ow h'.1) (render_ok b h'.2)
theorem join_ok : (xs : Exprs) → rtOkArgs xs = true → SJ xs
  | .nil, _ => sj_nil
  | .cons a .nil, h => sj_one (render_ok a (by simpa [rtOkArgs] using h))
  | .cons a (.cons b t), h =>
      have h' : rtOk a = true ∧ rtOkArgs (.cons b t) = true := by simpa [rtOkArgs] using h
      sj_cons (render_ok a h'.1) (join_ok (.cons b t) h'.2)
end

def namedOk : Expr → Bool
  | .named _ e => printable e
  | _ => false

theorem rtOk_foldl (names : List Str) : ∀ o : Expr, rtOk o = true →
    rtOk (names.foldl (fun o n => Expr.attr o n) o) = true := by
  induction names with
  | nil => intro o h; exact h
  | cons n ns ih => intro o h; exact ih (.attr o n) (by simpa [rtOk] using h)

theorem rtOk_of_pathOk (e : Expr) (h : pathOk e = true) : rtOk e = true := by
  obtain ⟨i, names, he, _, _⟩ := Pratt.pathOk_decomp sty .printer e h
  rw [he]
  exact rtOk_foldl names (.ident i) (by simp [rtOk])

theorem list_not_wrapped (xs : Exprs) : rtParenNeeded (.list xs) "In" true = false := by
  rw [rtParen_in_prec, rtPrec_eq]; rfl

theorem compare_split (o : CmpOp) (l r : Expr) (h : printable (.compare o l r) = true) :
    printable l = true ∧ printable r = true ∧ (o != .in_ || !rtParenNeeded r "In" true) = true := by
  refine ⟨(printable_compare h).1, (printable_compare h).2, ?_⟩
  cases o <;> try rfl
  cases r with
  | list xs => rw [list_not_wrapped]; rfl
  | _ => cases (Bool.and_eq_true_iff.1 h).2

theorem args_split (a : Expr) (t : Exprs)
    (h : printableArgs (.cons a t) = true ∨ printableNamed (.cons a t) = true) :
    (printable a = true ∨ namedOk a = true) ∧ (printableArgs t = true ∨ printableNamed t = true) := by
  rcases h with h | h
  · have h' : printable a = true ∧ printableArgs t = true := by simpa [printableArgs] using h
    exact ⟨Or.inl h'.1, Or.inl h'.2⟩
  · cases a with
    | named n e =>
      have h' := printableNamed_cons h
      refine ⟨Or.inr h'.1, ?_⟩
      cases t with
      | nil => exact Or.inl rfl
      | cons b t' => exact Or.inr (h'.2 nofun)
    | _ => cases h

mutual
theorem rtOk_of_printable : (e : Expr) → (printable e = true ∨ namedOk e = true) → rtOk e = true
  | .ident _, _ => by simp [rtOk]
  | .attr o n, h => rtOk_of_pathOk _ (by simpa [printable, namedOk] using h)
  | .lit _ _, _ => by simp [rtOk]
  | .list xs, h =>
      have h' : 1 ≤ xs.length ∧ printableArgs xs = true := by simpa [printable, namedOk] using h
      by simpa [rtOk] using rtOkArgs_of_printable xs (Or.inl h'.2)
  | .binop o l r, h =>
      have h' : printable l = true ∧ printable r = true := by simpa [printable, namedOk] using h
      by simp [rtOk, rtOk_of_printable l (Or.inl h'.1), rtOk_of_printable r (Or.inl h'.2)]
  | .boolop o l r, h =>
      have h' : printable l = true ∧ printable r = true := by simpa [printable, namedOk] using h
      by simp [rtOk, rtOk_of_printable l (Or.inl h'.1), rtOk_of_printable r (Or.inl h'.2)]
  | .compare o l r, h =>
      have h' := compare_split o l r (h.resolve_right (by simp [namedOk]))
      by simp only [rtOk, rtOk_of_printable l (Or.inl h'.1), rtOk_of_printable r (Or.inl h'.2.1),
           h'.2.2, Bool.and_self]
  | .unary o e, h =>
      have h' : printable e = true := by simpa [printable, namedOk] using h
      by simpa [rtOk] using rtOk_of_printable e (Or.inl h')
  | .named n e, h =>
      have h' : printable e = true := by simpa [printable, namedOk] using h
      by simpa [rtOk] using rtOk_of_printable e (Or.inl h')
  | .call f args, h =>
      have h' : callOk f args.length = true ∧ (printableArgs args = true ∨ printableNamed args = true) := by
        simpa [printable, namedOk] using h
      by simpa [rtOk] using rtOkArgs_of_printable args h'.2
  | .coll ow op .none, h =>
      have h' : pathOk ow = true ∧ op = .any := by simpa [printable, namedOk] using h
      by simp [rtOk, rtOkLam, rtOk_of_pathOk ow h'.1]
  | .coll ow op (.some v b), h =>
      have h' : pathOk ow = true ∧ printable b = true := by simpa [printable, namedOk] using h
      by simp [rtOk, rtOkLam, rtOk_of_pathOk ow h'.1, rtOk_of_printable b (Or.inl h'.2)]
theorem rtOkArgs_of_printable : (xs : Exprs) →
    (printableArgs xs = true ∨ printableNamed xs = true) → rtOkArgs xs = true
  | .nil, _ => by simp [rtOkArgs]
  | .cons a t, h =>
      have h' := args_split a t h
      by simp [rtOkArgs, rtOk_of_printable a h'.1, rtOkArgs_of_printable t h'.2]
end

theorem rtRender_eq_of_rtOk (e : Expr) (h : rtOk e = true) :
    rtRender e = render (printToks sty .printer e) := by
  have := render_ok e h []
  simpa [render] using this.symm


end OQ.RT
