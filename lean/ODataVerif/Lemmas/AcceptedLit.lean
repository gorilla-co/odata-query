/-
  A literal token the lexer emits is read back, from its spelling alone, as itself (`lit_alone`): the
  rule that produced it matches the spelling completely and the earlier rules fail; between blanks, no operator rule takes the
  blank in front of it (`lit_ops`).
-/
import ODataVerif.Lemmas.AcceptedFixed
import ODataVerif.Lemmas.AcceptedQuoted
namespace OQ.AcceptedLex
open OQ.LexRender OQ.Spec OQ.CaseMap

theorem numHead_facts {c : Char} (h : c = '+' ∨ c = '-' ∨ E.isDigit c = true) :
    ¬ letterNat c.toNat ∧ E.isSpace c = false ∧ c ≠ '\'' := by
  rcases h with rfl | rfl | h
  · exact ⟨by simp [letterNat], by decide +kernel, by decide⟩
  · exact ⟨by simp [letterNat], by decide +kernel, by decide⟩
  · obtain ⟨h1, h2, -⟩ := isDigit_imp c h
    refine ⟨h2, ?_, ne_of_class h LitLex.isDigit_quote⟩
    cases hs : E.isSpace c with
    | false => rfl
    | true => exact absurd ((isSpace_iff c).1 hs) h1

theorem numHead_rules {c : Char} (h : c = '+' ∨ c = '-' ∨ E.isDigit c = true) (t : Str) :
    scanDuration E (c :: t) = none ∧ scanString (c :: t) = none ∧ scanGeography E (c :: t) = none := by
  obtain ⟨hl, -, hq⟩ := numHead_facts h
  have ci : ∀ p, isAsciiLower p = true → ciChar E p c = false := fun p hp => by
    cases hc : ciChar E p c with
    | false => rfl
    | true => exact absurd (ciChar_letter hp hc) hl
  exact ⟨scanDuration_head (ci 'd' (by decide)), scanString_head hq, scanGeography_head (ci 'g' (by decide))⟩

/-- the search went past a literal rule of another kind: its scanner failed -/
theorem lit_before {k k' : LitKind} {sc : Str → Option (Str × Str)} {fs : List Rule} {cs v r : Str}
    (h : firstSome (rLit k' sc :: fs) cs = some (.lit k v, r)) (hk : k ≠ k') :
    sc cs = none ∧ firstSome fs cs = some (.lit k v, r) := by
  cases hs : sc cs with
  | none => simpa [firstSome, rLit, hs] using h
  | some x =>
    simp only [firstSome, rLit, hs, Option.map_some, Option.some.injEq, Prod.mk.injEq, Tok.lit.injEq] at h
    exact absurd h.1.1.symm hk

/-- a number token: the GUID and date rules, which come first and also start with digits, have failed -/
theorem number_first {cs r v : Str} {k : LitKind} (h : lexOne E cs = some (.lit k v, r)) (hk : k = .float ∨ k = .int) :
    scanGuid E cs = none ∧ scanDatePart E cs = none := by
  have hne : k ≠ .duration ∧ k ≠ .str ∧ k ≠ .geo ∧ k ≠ .guid ∧ k ≠ .datetime ∧ k ≠ .date := by
    rcases hk with rfl | rfl <;> simp
  obtain ⟨-, h1⟩ := lit_before (lexOne_lit_inv h) hne.1
  obtain ⟨-, h2⟩ := lit_before h1 hne.2.1
  obtain ⟨-, h3⟩ := lit_before h2 hne.2.2.1
  obtain ⟨hg, h4⟩ := lit_before h3 hne.2.2.2.1
  obtain ⟨-, h5⟩ := lit_before h4 hne.2.2.2.2.1
  exact ⟨hg, (lit_before h5 hne.2.2.2.2.2).1⟩

theorem scanTime_nocolon {v : Str} (h : ':' ∉ v) : scanTime E v = none := by
  have : scanHourMinute E v = none := LitLex.scanHourMinute_nocolon v (by
    rw [List.all_eq_true]; intro c hc; simpa using fun e : c = ':' => h (e ▸ hc))
  simp [scanTime, this]

theorem alone_duration {cs v r : Str} (ha : cs.all isAscii = true) (h : scanDuration E cs = some (v, r)) :
    lexOne E (spellTok (.lit .duration v)) = some (.lit .duration v, []) :=
  LitLex.lexOne_duration (scanDuration_trim ha h)

theorem alone_str {cs v r : Str} (h : scanString cs = some (v, r)) :
    lexOne E (spellTok (.lit .str v)) = some (.lit .str v, []) :=
  LitLex.lexOne_string (scanDuration_head hf_quote.d) (scanString_trim h).2

theorem alone_geo {cs v r : Str} (h : scanGeography E cs = some (v, r)) :
    lexOne E (spellTok (.lit .geo v)) = some (.lit .geo v, []) := by
  have h3 := scanGeography_trim h
  have e : "geography'".toList = 'g' :: "eography'".toList := by decide +kernel
  show lexOne E ("geography'".toList ++ v ++ ['\'']) = _
  rw [e] at h3 ⊢
  exact LitLex.lexOne_geo (scanDuration_head (by decide +kernel)) (scanString_head (by decide)) h3

theorem alone_guid {cs v r : Str} (h : scanGuid E cs = some (v, r)) :
    lexOne E (spellTok (.lit .guid v)) = some (.lit .guid v, []) := by
  obtain ⟨-, hf, ⟨c, c2, c3, c4, t, rfl, hc⟩, -⟩ := scanGuid_ps h
  have hq : LexImage.NoQ (c :: c2 :: c3 :: c4 :: t) := LexImage.scanGuid_noq _ _ _ h
  have := hf []
  rw [List.append_nil] at this
  exact LitLex.lexOne_guid (scanDuration_noq hq) (scanString_head (ne_of_class hc LexImage.hex_q)) (scanGeography_noq hq) this

theorem alone_date {cs v r : Str} (h : scanDatePart E cs = some (v, r)) :
    lexOne E (spellTok (.lit .date v)) = some (.lit .date v, []) := by
  obtain ⟨-, hf, ⟨y1, y2, y3, y4, t, rfl, hy1⟩⟩ := scanDatePart_ps h
  have hd := hf []
  rw [List.append_nil] at hd
  obtain ⟨p1, p2, p3⟩ := numHead_rules (Or.inr (Or.inr hy1)) (y2 :: y3 :: y4 :: '-' :: t)
  refine LitLex.lexOne_date p1 p2 p3 (scanGuid_dash5 _ _ _ _ _) ?_ hd
  show scanDateTime E (y1 :: y2 :: y3 :: y4 :: '-' :: t) = none
  simp [scanDateTime, hd]

theorem alone_datetime {cs v r : Str} (h : scanDateTime E cs = some (v, r)) :
    lexOne E (spellTok (.lit .datetime v)) = some (.lit .datetime v, []) := by
  obtain ⟨a, -, rfl, hs, ⟨y1, y2, y3, y4, t, rfl, hy1⟩⟩ := scanDateTime_trim h
  obtain ⟨p1, p2, p3⟩ := numHead_rules (Or.inr (Or.inr hy1)) (y2 :: y3 :: y4 :: '-' :: t)
  have h0 := LitLex.lexOne_datetime p1 p2 p3 (scanGuid_dash5 _ _ _ _ _) hs
  have h1 := lexOne_lit_inv h0
  apply lexOne_of_lit
  have := firstSome_map (litRules E) (litRules_map caseMap_upper) (y1 :: y2 :: y3 :: y4 :: '-' :: t)
  rw [h1] at this
  exact this

theorem alone_time {cs v r : Str} (h : scanTime E cs = some (v, r)) :
    lexOne E (spellTok (.lit .time v)) = some (.lit .time v, []) := by
  obtain ⟨-, hs, ⟨h1, h2, t, rfl, hh⟩⟩ := scanTime_trim h
  obtain ⟨p1, p2, p3⟩ := numHead_rules (Or.inr (Or.inr hh)) (h2 :: ':' :: t)
  exact LitLex.lexOne_time p1 p2 p3 (scanGuid_colon3 _ _ _) (LitLex.scanDateTime_nodate (LitLex.scanDatePart_colon _ _ _))
    (LitLex.scanDatePart_colon _ _ _) hs

theorem alone_float {cs v r : Str} (hl : lexOne E cs = some (.lit .float v, r)) (h : scanDecimal E cs = some (v, r)) :
    lexOne E (spellTok (.lit .float v)) = some (.lit .float v, []) := by
  obtain ⟨rfl, ⟨c, t, rfl, hc⟩, hch, hs⟩ := scanDecimal_trim h
  obtain ⟨p1, p2, p3⟩ := numHead_rules hc t
  have hg := scanGuid_prefix (number_first hl (Or.inl rfl)).1
  have hd := scanDatePart_prefix (number_first hl (Or.inl rfl)).2
  exact LitLex.lexOne_float p1 p2 p3 hg (LitLex.scanDateTime_nodate hd) hd (scanTime_nocolon hch) hs

theorem alone_int {cs v r : Str} (hl : lexOne E cs = some (.lit .int v, r)) (h : scanInteger E cs = some (v, r)) :
    lexOne E (spellTok (.lit .int v)) = some (.lit .int v, []) := by
  obtain ⟨rfl, ⟨c, t, rfl, hc⟩, hch, hf⟩ := scanInteger_ps h
  obtain ⟨p1, p2, p3⟩ := numHead_rules hc t
  have hg := scanGuid_prefix (number_first hl (Or.inr rfl)).1
  have hd := scanDatePart_prefix (number_first hl (Or.inr rfl)).2
  have hi := hf [] (stops_nil _)
  rw [List.append_nil] at hi
  have hdec : scanDecimal E (c :: t) = none := by
    simp [scanDecimal, hi, scanExponent_nil]
  exact LitLex.lexOne_int p1 p2 p3 hg (LitLex.scanDateTime_nodate hd) hd (scanTime_nocolon hch) hdec hi

theorem alone_null : lexOne E (spellTok (.lit .null [])) = some (.lit .null [], []) := LitLex.null_alone false false false false


theorem bool_of_word {w cs v r : Str} (hw : w = "true".toList ∨ w = "false".toList) (ha : cs.all isAscii = true)
    (h : scanWord E w cs = some (v, r)) : v.map asciiLower = w ∧ boolOrIdent v = .lit .bool v := by
  obtain ⟨-, hk, -⟩ := scanWord_trim h
  have hm := kw_lower (by rcases hw with rfl | rfl <;> decide) ha hk
  exact ⟨hm, by rcases hw with rfl | rfl <;> simp [boolOrIdent, hm]⟩

theorem ci_cl {p x : Char} (hx : isAscii x = true) (h : ciChar E p x = true) : ∃ b, x = LitLex.cl b p := by
  rcases ciChar_ascii hx h with rfl | rfl
  · exact ⟨false, rfl⟩
  · exact ⟨true, by simp [LitLex.cl, asciiUpper, isAsciiLower]⟩

theorem kw_cl {w s m r : Str} (hs : s.all isAscii = true) (h : kw E w s = some (m, r)) :
    ∃ bs : List Bool, bs.length = w.length ∧ m = List.zipWith LitLex.cl bs w := by
  induction w generalizing s m with
  | nil => obtain ⟨rfl, -⟩ := (LexImage.kw_nil E s m r).1 h; exact ⟨[], rfl, rfl⟩
  | cons p w ih =>
    obtain ⟨c, t, m', rfl, hc, hk, rfl⟩ := (LexImage.kw_cons E p w s m r).1 h
    simp only [List.all_cons, Bool.and_eq_true] at hs
    obtain ⟨b, rfl⟩ := ci_cl hs.1 hc
    obtain ⟨bs, hl, rfl⟩ := ih hs.2 hk
    exact ⟨b :: bs, by simp [hl], rfl⟩

/-- a Boolean token is `true` / `false` in some letter case: one of the 16 + 32 texts of `LitLex.true_alone` / `false_alone` -/
theorem bool_text {cs v r : Str} (ha : cs.all isAscii = true) (hl : lexOne E cs = some (.lit .bool v, r)) :
    (∃ b0 b1 b2 b3, v = [LitLex.cl b0 't', LitLex.cl b1 'r', LitLex.cl b2 'u', LitLex.cl b3 'e']) ∨
    (∃ b0 b1 b2 b3 b4, v = [LitLex.cl b0 'f', LitLex.cl b1 'a', LitLex.cl b2 'l', LitLex.cl b3 's', LitLex.cl b4 'e']) := by
  have hsrc : scanWord E "true".toList cs = some (v, r) ∨ scanWord E "false".toList cs = some (v, r) := lexOne_src hl
  rcases hsrc with h | h
  · obtain ⟨bs, hlen, hv⟩ := kw_cl ha (scanWord_trim h).2.1
    match bs, hlen, hv with
    | [b0, b1, b2, b3], _, hv => exact Or.inl ⟨b0, b1, b2, b3, hv⟩
  · obtain ⟨bs, hlen, hv⟩ := kw_cl ha (scanWord_trim h).2.1
    match bs, hlen, hv with
    | [b0, b1, b2, b3, b4], _, hv => exact Or.inr ⟨b0, b1, b2, b3, b4, hv⟩

theorem alone_bool {cs v r : Str} (ha : cs.all isAscii = true) (hl : lexOne E cs = some (.lit .bool v, r)) :
    lexOne E (spellTok (.lit .bool v)) = some (.lit .bool v, []) := by
  rcases bool_text ha hl with ⟨b0, b1, b2, b3, rfl⟩ | ⟨b0, b1, b2, b3, b4, rfl⟩
  · exact (LitLex.true_alone b0 b1 b2 b3).1
  · exact (LitLex.false_alone b0 b1 b2 b3 b4).1

theorem lit_alone {cs r v : Str} {k : LitKind} (ha : cs.all isAscii = true) (hl : lexOne E cs = some (.lit k v, r)) :
    lexOne E (spellTok (.lit k v)) = some (.lit k v, []) := by
  have hsrc := lexOne_src hl
  cases k with
  | null =>
    obtain ⟨rfl, -⟩ : v = [] ∧ _ := hsrc
    exact alone_null
  | int => exact alone_int hl hsrc
  | float => exact alone_float hl hsrc
  | bool => exact alone_bool ha hl
  | str => exact alone_str hsrc
  | geo => exact alone_geo hsrc
  | date => exact alone_date hsrc
  | time => exact alone_time hsrc
  | datetime => exact alone_datetime hsrc
  | duration => exact alone_duration ha hsrc
  | guid => exact alone_guid hsrc

/-- criterion: no operator rule matches ` s `: what an operator keyword leaves of `s` does not go on with a space -/
theorem ops_none_of {s : Str} (hs : headNS (s ++ [' ']))
    (hk : ∀ e ∈ allOps, ∀ m r, kw E e.2 s = some (m, r) → span1 E.isSpace (r ++ [' ']) = none) :
    ∀ e ∈ allOps, scanOp E e.2 (' ' :: (s ++ [' '])) = none := by
  intro e he
  rw [scanOp_blank e.2 hs, kw_ext E ' ' [] _ _ (delim_blank.kwl _ (allOps_pat e he))]
  cases h : kw E e.2 s with
  | none => rfl
  | some y => simp only [ext_some, Option.bind_some, hk e he _ _ h]; rfl

theorem allOps_len : ∀ e ∈ allOps, e.2.length = 2 ∨ e.2.length = 3 := by decide +kernel

theorem ops_none_pos {a b c d : Char} {t : Str} (ha : E.isSpace a = false) (hc : E.isSpace c = false)
    (hd : E.isSpace d = false) : ∀ e ∈ allOps, scanOp E e.2 (' ' :: ((a :: b :: c :: d :: t) ++ [' '])) = none := by
  apply ops_none_of (headNS_cons ha)
  intro e he m r hk
  obtain ⟨hdec, hl, -⟩ := kw_ps hk
  rcases allOps_len e he with h2 | h3
  · rw [h2] at hl
    match m, hl with
    | [x1, x2], _ =>
      simp only [List.cons_append, List.nil_append, List.cons.injEq] at hdec
      obtain ⟨-, -, rfl⟩ := hdec
      exact span1_head hc
  · rw [h3] at hl
    match m, hl with
    | [x1, x2, x3], _ =>
      simp only [List.cons_append, List.nil_append, List.cons.injEq] at hdec
      obtain ⟨-, -, -, rfl⟩ := hdec
      exact span1_head hd

theorem ops_none_word {w : Str} {a b c d : Char} {t : Str} (hw : w = a :: b :: c :: d :: t) (ha : E.isSpace a = false)
    (hc : E.isSpace c = false) (hd : E.isSpace d = false) (x q : Str) :
    ∀ e ∈ allOps, scanOp E e.2 (' ' :: (w ++ x ++ q ++ [' '])) = none := by
  subst hw; exact ops_none_pos ha hc hd

theorem null_ops : ∀ e ∈ allOps, scanOp E e.2 (' ' :: ("null".toList ++ [' '])) = none := by decide +kernel

theorem allOps_lower : allOps.all (fun e => match e.2 with | p :: _ => isAsciiLower p | [] => false) = true := by decide +kernel

/-- the operator keywords start with a letter: after a blank, a text led by anything else is no operator -/
theorem ops_none_nonletter {c : Char} (x : Str) (hl : ¬ letterNat c.toNat) (hs : E.isSpace c = false) :
    ∀ e ∈ allOps, scanOp E e.2 (' ' :: c :: x) = none := by
  intro e he
  apply scanOp_kw_none (headNS_cons hs)
  have := List.all_eq_true.1 allOps_lower e he
  cases hw : e.2 with
  | nil => rw [hw] at this; cases this
  | cons p ps =>
    rw [hw] at this
    apply kw_head
    cases hc : ciChar E p c with
    | false => rfl
    | true => exact absurd (ciChar_letter this hc) hl

theorem digit_upper {c : Char} (h : E.isDigit c = true) : asciiUpper c = c := by
  refine asciiUpper_id fun hl => ?_
  have := (isDigit_imp c h).2.1
  simp only [isAsciiLower, Bool.and_eq_true, decide_eq_true_eq, le_char_iff] at hl
  simp only [letterNat] at this
  have ha : 'a'.toNat = 97 := rfl
  have hz : 'z'.toNat = 122 := rfl
  omega

theorem hex_not_space {c : Char} (h : isHex E c = true ∨ c = '-') : E.isSpace c = false := by
  cases hs : E.isSpace c with
  | false => rfl
  | true =>
    obtain ⟨-, -, -, -, -, hm, hh, -⟩ := space_imp c hs
    rcases h with h | h
    · rw [hh] at h; cases h
    · exact absurd h hm

/-- no operator keyword starts with `t` or `f` -/
theorem boolHead_table : ∀ b : Bool, ∀ p ∈ ['t', 'f'], E.isSpace (LitLex.cl b p) = false ∧
    ∀ e ∈ allOps, (match e.2 with | q :: _ => ciChar E q (LitLex.cl b p) | [] => true) = false := by decide +kernel

theorem boolHead_ops (b : Bool) {p : Char} (hp : p ∈ ['t', 'f']) (x : Str) :
    ∀ e ∈ allOps, scanOp E e.2 (' ' :: LitLex.cl b p :: x) = none := by
  intro e he
  obtain ⟨hs, hk⟩ := boolHead_table b p hp
  apply scanOp_kw_none (headNS_cons hs)
  have := hk e he
  cases hw : e.2 with
  | nil => rw [hw] at this; cases this
  | cons q qs => rw [hw] at this; exact kw_head this

theorem lit_ops {cs r v : Str} {k : LitKind} (ha : cs.all isAscii = true) (hl : lexOne E cs = some (.lit k v, r)) :
    ∀ e ∈ allOps, scanOp E e.2 (' ' :: (spellTok (.lit k v) ++ [' '])) = none := by
  have hsrc := lexOne_src hl
  have byHead : ∀ {c : Char} {t : Str}, (c = '+' ∨ c = '-' ∨ E.isDigit c = true) →
      ∀ e ∈ allOps, scanOp E e.2 (' ' :: ((c :: t) ++ [' '])) = none :=
    fun hc => ops_none_nonletter _ (numHead_facts hc).1 (numHead_facts hc).2.1
  cases k with
  | null => exact null_ops
  | int =>
    obtain ⟨-, ⟨c, t, rfl, hc⟩, -, -⟩ := scanInteger_ps hsrc
    exact byHead hc
  | float =>
    obtain ⟨-, ⟨c, t, rfl, hc⟩, -, -⟩ := scanDecimal_trim hsrc
    exact byHead hc
  | bool =>
    rcases bool_text ha hl with ⟨b0, b1, b2, b3, rfl⟩ | ⟨b0, b1, b2, b3, b4, rfl⟩
    · exact boolHead_ops b0 (by simp) _
    · exact boolHead_ops b0 (by simp) _
  | str => exact ops_none_nonletter _ (by simp [letterNat]) (by decide +kernel)
  | geo =>
    exact ops_none_word (w := "geography'".toList) (a := 'g') (b := 'e') (c := 'o') (d := 'g') (t := "raphy'".toList) (by decide +kernel)
      (by decide +kernel) (by decide +kernel) (by decide +kernel) v ['\'']
  | duration =>
    exact ops_none_word (w := "duration'".toList) (a := 'd') (b := 'u') (c := 'r') (d := 'a') (t := "tion'".toList) (by decide +kernel)
      (by decide +kernel) (by decide +kernel) (by decide +kernel) v ['\'']
  | date =>
    obtain ⟨-, -, ⟨y1, y2, y3, y4, t, rfl, hy1⟩⟩ := scanDatePart_ps hsrc
    exact byHead (Or.inr (Or.inr hy1))
  | datetime =>
    obtain ⟨a, -, rfl, -, ⟨y1, y2, y3, y4, t, rfl, hy1⟩⟩ := scanDateTime_trim hsrc
    show ∀ e ∈ allOps, scanOp E e.2 (' ' :: (List.map asciiUpper (y1 :: y2 :: y3 :: y4 :: '-' :: t) ++ [' '])) = none
    rw [List.map_cons, digit_upper hy1]
    exact byHead (Or.inr (Or.inr hy1))
  | time =>
    obtain ⟨-, -, ⟨h1, h2, t, rfl, hh⟩⟩ := scanTime_trim hsrc
    exact byHead (Or.inr (Or.inr hh))
  | guid =>
    obtain ⟨-, -, ⟨a, b, c, d, t, rfl, -⟩, hch⟩ := scanGuid_ps hsrc
    exact ops_none_pos (hex_not_space (hch a (by simp))) (hex_not_space (hch c (by simp))) (hex_not_space (hch d (by simp)))

end OQ.AcceptedLex
