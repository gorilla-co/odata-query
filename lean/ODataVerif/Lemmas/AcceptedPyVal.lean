/-
  `py_val` of the duration / GUID / integer literals the lexer emits never raises a ValueError:
  `pyInt` / `pyGuid` have no failing branch; `pyDuration` follows `Duration.unpack` (`durUnpack`), which accepts every emitted
  duration text (`LexImage.scanDuration_ok`).
-/
import ODataVerif.Lemmas.LexDur
import ODataVerif.Model.PyVal
import ODataVerif.Lemmas.AcceptedQuoted
namespace OQ.AcceptedPyVal
open OQ.LexImage OQ.AcceptedLex

theorem pyInt_nf (v : Str) (c : String) : pyInt v ≠ .foreign c := by
  unfold pyInt
  repeat' split
  all_goals simp

theorem pyGuid_nf (v : Str) (c : String) : pyGuid v ≠ .foreign c := by
  unfold pyGuid
  split <;> simp

/-- ASCII digit test of `PyVal` -/
abbrev A : Char → Bool := fun c => (asciiDigit? c).isSome

theorem durComponent_eq (l : Char) (cs : Str) :
    durComponent l cs = ((durGroupU A l cs).1.bind natOfDigits, (durGroupU A l cs).2) := by
  unfold durComponent durGroupU
  dsimp only
  generalize List.takeWhile A cs = ds
  generalize List.drop ds.length cs = rest
  cases ds with
  | nil => rfl
  | cons d ds' =>
    cases rest with
    | nil => rfl
    | cons c r => dsimp only; split <;> rfl

theorem durSecondsMicros_rest {cs : Str} {x : Option Nat} {t : Str} (h : durSecondsMicros cs = some (x, t)) :
    t = (durSecondsU A cs).2 := by
  unfold durSecondsMicros at h
  unfold durSecondsU
  dsimp only at h ⊢
  generalize List.takeWhile A cs = ds at h ⊢
  generalize List.drop ds.length cs = rest at h ⊢
  split at h
  · simp only [Option.some.injEq, Prod.mk.injEq] at h
    rw [← h.2]
  · rename_i r _
    simp only [Option.map_eq_some_iff, Prod.mk.injEq] at h
    obtain ⟨n, -, -, rfl⟩ := h
    cases ds with
    | nil => rename_i h1; exact absurd rfl h1
    | cons d ds' => rfl
  · rename_i r0 hne
    cases ds with
    | nil => exact absurd rfl hne
    | cons d ds' =>
      show t = (match List.takeWhile A r0, List.drop (List.takeWhile A r0).length r0 with
        | [], _ => ((none : Option Str), cs)
        | _, 'S' :: r' => (some ((d :: ds') ++ '.' :: List.takeWhile A r0), r')
        | _, _ => (none, cs)).2
      generalize List.takeWhile A r0 = fs at h ⊢
      generalize List.drop fs.length r0 = rest2 at h ⊢
      split at h
      · rename_i r'
        split at h
        · cases h
        · rename_i hc
          split at h
          · simp only [Option.some.injEq, Prod.mk.injEq] at h
            cases fs with
            | nil => simp at hc
            | cons f fs' => exact h.2.symm
          · cases h
      · rename_i hns
        simp only [Option.some.injEq, Prod.mk.injEq] at h
        rw [← h.2]
        cases fs with
        | nil => rfl
        | cons f fs' =>
          cases rest2 with
          | nil => rfl
          | cons c2 r2 =>
            split
            · rename_i heq; simp at heq
            · rename_i heq _; exact (hns _ heq).elim
            · rfl
  · rename_i h1 h2 h3
    simp only [Option.some.injEq, Prod.mk.injEq] at h
    rw [← h.2]
    cases ds with
    | nil => exact (h1 rfl).elim
    | cons d ds' =>
      cases rest with
      | nil => rfl
      | cons c r =>
        split
        · rename_i heq; simp at heq
        · rename_i heq _; exact (h2 _ heq).elim
        · rename_i heq _; exact (h3 _ heq).elim
        · rfl

/-- `Duration.unpack` after the date groups -/
def uTail (sg : Option Char) (y mo d : Option Str) (r : Str) : Option DurParts :=
  match r with
  | [] => some ⟨sg, y, mo, d, none, none, none⟩
  | 'T' :: t =>
      let (h, t) := durGroupU A 'H' t
      let (mi, t) := durGroupU A 'M' t
      let (s, t) := durSecondsU A t
      if t.isEmpty then some ⟨sg, y, mo, d, h, mi, s⟩ else none
  | _ => none

/-- `Duration.py_val` after the date groups: hours, minutes, microseconds and the unread rest -/
def pRes (r : Str) : Option (Nat × Nat × Option Nat × List Char) :=
  match r with
  | 'T' :: t =>
      let (h, t) := durComponent 'H' t
      let (mi, t) := durComponent 'M' t
      (match durSecondsMicros t with
       | some (s, t') => some (h.getD 0, mi.getD 0, s, t')
       | none => none)
  | t => some (0, 0, some 0, t)

theorem tail_nf {sg : Option Char} {y mo d : Option Str} {r : Str} {p : DurParts} (h : uTail sg y mo d r = some p) :
    pRes r = none ∨ ∃ a b s, pRes r = some (a, b, s, []) := by
  cases r with
  | nil => exact Or.inr ⟨0, 0, some 0, rfl⟩
  | cons c t =>
    by_cases hc : c = 'T'
    · subst hc
      have e1 : uTail sg y mo d ('T' :: t) =
          (if (durSecondsU A (durGroupU A 'M' (durGroupU A 'H' t).2).2).2.isEmpty then
            some ⟨sg, y, mo, d, (durGroupU A 'H' t).1, (durGroupU A 'M' (durGroupU A 'H' t).2).1,
              (durSecondsU A (durGroupU A 'M' (durGroupU A 'H' t).2).2).1⟩ else none) := rfl
      have e2 : pRes ('T' :: t) =
          (match durSecondsMicros (durComponent 'M' (durComponent 'H' t).2).2 with
           | some (s, t') => some ((durComponent 'H' t).1.getD 0, (durComponent 'M' (durComponent 'H' t).2).1.getD 0, s, t')
           | none => none) := rfl
      rw [e1] at h
      rw [e2]
      simp only [durComponent_eq]
      cases hs : durSecondsMicros (durGroupU A 'M' (durGroupU A 'H' t).2).2 with
      | none => exact Or.inl rfl
      | some st =>
        obtain ⟨s, t'⟩ := st
        have ht := durSecondsMicros_rest hs
        split at h
        · rename_i he
          rw [← ht] at he
          have : t' = [] := by simpa using he
          subst this
          exact Or.inr ⟨_, _, _, rfl⟩
        · cases h
    · exfalso
      unfold uTail at h
      split at h
      · rename_i heq; cases heq
      · rename_i heq; simp at heq; exact hc heq.1
      · cases h

/-- `Duration.unpack` after the sign -/
def unpackBody (sg : Option Char) (r : Str) : Option DurParts :=
  match r with
  | 'P' :: r =>
      uTail sg (durGroupU A 'Y' r).1 (durGroupU A 'M' (durGroupU A 'Y' r).2).1
        (durGroupU A 'D' (durGroupU A 'M' (durGroupU A 'Y' r).2).2).1
        (durGroupU A 'D' (durGroupU A 'M' (durGroupU A 'Y' r).2).2).2
  | _ => none

theorem durUnpack_other {c : Char} (t : Str) (h1 : c ≠ '+') (h2 : c ≠ '-') :
    durUnpack A (c :: t) = unpackBody none (c :: t) := by
  unfold durUnpack
  split
  rename_i sg r heq
  split at heq
  · rename_i he; simp at he; exact absurd he.1 h1
  · rename_i he; simp at he; exact absurd he.1 h2
  · simp only [Prod.mk.injEq] at heq
    obtain ⟨rfl, rfl⟩ := heq
    rfl

/-- `Duration.py_val` after the sign -/
def pyBody (neg : Bool) (r : Str) : Outcome PyValue :=
  match r with
  | 'P' :: r =>
      (match pRes (durComponent 'D' (durComponent 'M' (durComponent 'Y' r).2).2).2 with
       | some (h, mi, s, []) =>
           let y := (durComponent 'Y' r).1
           let mo := (durComponent 'M' (durComponent 'Y' r).2).1
           let d := (durComponent 'D' (durComponent 'M' (durComponent 'Y' r).2).2).1
           let secs : Nat := d.getD 0 * 86400 + y.getD 0 * 31557600 + mo.getD 0 * 2630016 + h * 3600 + mi * 60
           let us : Nat := secs * 1000000 + s.getD 0
           .ok (.duration (if neg then -(us : Int) else us))
       | some _ => .foreign "ValueError"
       | none => .ok .unmodelled)
  | _ => .foreign "ValueError"

theorem pyDuration_other {c : Char} (t : Str) (h1 : c ≠ '+') (h2 : c ≠ '-') :
    pyDuration (c :: t) = pyBody false (c :: t) := by
  unfold pyDuration
  split
  rename_i neg r heq
  split at heq
  · rename_i he; simp at he; exact absurd he.1 h2
  · rename_i he; simp at he; exact absurd he.1 h1
  · simp only [Prod.mk.injEq] at heq
    obtain ⟨rfl, rfl⟩ := heq
    rfl

theorem body_nf (sg : Option Char) (neg : Bool) (r : Str) (p : DurParts) (c : String)
    (h : unpackBody sg r = some p) : pyBody neg r ≠ .foreign c := by
  unfold unpackBody at h
  unfold pyBody
  split at h
  · rename_i r'
    simp only [durComponent_eq]
    rcases tail_nf h with h0 | ⟨a, b, s, h0⟩
    · rw [h0]; simp
    · rw [h0]; simp
  · cases h

theorem pyDuration_nf {v : Str} {p : DurParts} (h : durUnpack A v = some p) (c : String) : pyDuration v ≠ .foreign c := by
  cases v with
  | nil => have : durUnpack A [] = none := rfl; rw [this] at h; cases h
  | cons x t =>
    by_cases h1 : x = '+'
    · subst h1
      have e1 : durUnpack A ('+' :: t) = unpackBody (some '+') t := rfl
      have e2 : pyDuration ('+' :: t) = pyBody false t := rfl
      rw [e1] at h; rw [e2]
      exact body_nf _ _ _ _ _ h
    · by_cases h2 : x = '-'
      · subst h2
        have e1 : durUnpack A ('-' :: t) = unpackBody (some '-') t := rfl
        have e2 : pyDuration ('-' :: t) = pyBody true t := rfl
        rw [e1] at h; rw [e2]
        exact body_nf _ _ _ _ _ h
      · rw [durUnpack_other t h1 h2] at h
        rw [pyDuration_other t h1 h2]
        exact body_nf _ _ _ _ _ h

theorem A_ascii (c : Char) (hc : LexImage.isAscii c = true) : pyCharEnv.isDigit c = A c := by
  rw [digit_ascii c hc]
  simp only [A, asciiDigit?, Spec.isDig]
  split <;> simp_all

/-- a duration / GUID / integer token the lexer emits on ASCII text has a Python value -/
theorem emitted_pyVal {k : LitKind} {v : Str} (he : Emitted (.lit k v)) (hk : k = .duration ∨ k = .guid ∨ k = .int)
    (c : String) : pyVal k v ≠ .foreign c := by
  rcases hk with rfl | rfl | rfl
  · obtain ⟨cs, r, ha, h⟩ := he
    have hs : scanDuration pyCharEnv cs = some (v, r) := LexRender.lexOne_src h
    obtain ⟨p, hp, -⟩ := scanDuration_ok (isD := A) (fun x hx => (A_ascii x hx).symm) cs v r ha hs
    exact pyDuration_nf hp c
  · exact pyGuid_nf v c
  · exact pyInt_nf v c

end OQ.AcceptedPyVal
