/- The table alias is a homomorphic decoration of the emitted pieces: rendering with alias `a` is rendering
   without alias and then prefixing every quoted identifier piece with `"a".` (C09 `alias_only_fields`). -/
import ODataVerif.Lemmas.SqlModel
import ODataVerif.Lemmas.ExprInduct
namespace OQ.SqlAlias
open SqlModel

def qual (a : Str) : Piece → List Piece
  | .dq n => [.dq a, .tok .dot, .dq n]
  | p => [p]

def qualify (a : Str) (ps : List Piece) : List Piece := ps.flatMap (qual a)

@[simp] theorem qualify_nil (a) : qualify a [] = [] := rfl
@[simp] theorem qualify_append (a xs ys) : qualify a (xs ++ ys) = qualify a xs ++ qualify a ys := by
  simp [qualify]
@[simp] theorem qualify_cons (a p xs) : qualify a (p :: xs) = qual a p ++ qualify a xs := by
  simp [qualify]
@[simp] theorem qual_tok (a t) : qual a (.tok t) = [.tok t] := rfl
@[simp] theorem qual_sq (a s) : qual a (.sq s) = [.sq s] := rfl
@[simp] theorem qual_raw (a s) : qual a (.raw s) = [.raw s] := rfl
@[simp] theorem qual_ws (a s) : qual a (.ws s) = [.ws s] := rfl
@[simp] theorem qual_w (a s) : qual a (w s) = [w s] := rfl
@[simp] theorem qual_o (a s) : qual a (o s) = [o s] := rfl
@[simp] theorem qual_sp (a) : qual a sp = [sp] := rfl
@[simp] theorem qual_lp (a) : qual a lp = [lp] := rfl
@[simp] theorem qual_rp (a) : qual a rp = [rp] := rfl
@[simp] theorem qual_comma (a) : qual a comma = [comma] := rfl

theorem qualify_parenP (a ps) : qualify a (parenP ps) = parenP (qualify a ps) := by
  simp [parenP]

theorem qualify_joinComma (a) : ∀ xs : List (List Piece), qualify a (joinComma xs) = joinComma (xs.map (qualify a))
  | [] => rfl
  | [x] => by simp [joinComma]
  | x :: y :: r => by
      have ih := qualify_joinComma a (y :: r)
      simp [joinComma] at ih ⊢
      simp [ih]

theorem qualify_wrapOperand (a e p oe ps) :
    qualify a (wrapOperand e p oe ps) = wrapOperand e p oe (qualify a ps) := by
  unfold wrapOperand; split <;> simp [qualify_parenP]

theorem qualify_boolWrapL (a op l ps) : qualify a (boolWrapL op l ps) = boolWrapL op l (qualify a ps) := by
  unfold boolWrapL; split
  · split <;> simp [qualify_parenP]
  · rfl
theorem qualify_boolWrapR (a r ps) : qualify a (boolWrapR r ps) = boolWrapR r (qualify a ps) := by
  unfold boolWrapR; split <;> simp [qualify_parenP]

theorem qualify_cmpPieces (a op r) : qualify a (cmpPieces op r) = cmpPieces op r := by
  unfold cmpPieces; split
  · simp
  · split
    · simp
    · cases op <;> simp [cmpSym]

theorem qualify_sqlPattern (a arg ps pre suf) :
    qualify a (sqlPattern arg ps pre suf) = sqlPattern arg (qualify a ps) pre suf := by
  unfold sqlPattern
  split
  · dsimp only; split <;> simp
  · dsimp only
    split <;> split <;> simp [qualify_wrapOperand]

theorem getD_map_qualify (a) (items : List (List Piece)) (i : Nat) :
    (items.map (qualify a)).getD i [] = qualify a (items.getD i []) := by
  simp only [List.getD_eq_getElem?_getD, List.getElem?_map]
  cases items[i]? <;> simp

def noDqP : Piece → Bool
  | .dq _ => false
  | _ => true

theorem qual_noDq {a p} (h : noDqP p = true) : qual a p = [p] := by
  cases p <;> first | rfl | cases h

theorem qualify_id (a) : ∀ ps : List Piece, ps.all noDqP = true → qualify a ps = ps
  | [], _ => rfl
  | p :: r, h => by
      rw [List.all_cons, Bool.and_eq_true] at h
      rw [qualify_cons, qual_noDq h.1, qualify_id a r h.2]
      rfl

/-- a template item that is no column piece of its own -/
def noDq : TItem → Bool
  | .p x => noDqP x
  | _ => true

theorem qualify_instItem (a args items it) (h : noDq it = true) :
    qualify a (instItem args items it) = instItem args (items.map (qualify a)) it := by
  cases it with
  | p x => exact qualify_id a [x] (by rw [List.all_cons, List.all_nil, Bool.and_true]; exact h)
  | arg i => simp only [instItem, getD_map_qualify]
  | argW i pr oe => simp only [instItem, getD_map_qualify, qualify_wrapOperand]
  | pat i pre suf => simp only [instItem, getD_map_qualify, qualify_sqlPattern]

/-- no template contains a column piece of its own: columns only come from the rendered arguments -/
theorem selectTpl_noDq (d key tys tpl) (h : selectTpl d key tys = .ok tpl) : tpl.all noDq = true :=
  selectTpl_all (P := fun _ _ t => t.all noDq) (by decide +kernel) h

theorem qualify_instantiate (a args items) : ∀ tpl : List TItem, tpl.all noDq = true →
    qualify a (instantiate tpl args items) = instantiate tpl args (items.map (qualify a))
  | [], _ => rfl
  | it :: rest, h => by
      simp only [List.all_cons, Bool.and_eq_true] at h
      have ih := qualify_instantiate a args items rest h.2
      simp only [instantiate, List.flatMap_cons, qualify_append] at ih ⊢
      rw [qualify_instItem a args items it h.1, ih]

theorem joinPlus_noDq : ∀ xs : List (List Piece), (∀ x ∈ xs, x.all noDqP = true) → (joinPlus xs).all noDqP = true
  | [], _ => rfl
  | [x], h => by simpa [joinPlus] using h x (by simp)
  | x :: y :: r, h => by
      have ih := joinPlus_noDq (y :: r) (fun z hz => h z (by simp [hz]))
      have hx := h x (by simp)
      simp only [joinPlus, List.all_append, List.all_cons, hx, ih]
      rfl

theorem durIvs_noDq (p) : ∀ z ∈ durIvs p, z.all noDqP = true := by
  intro z hz
  simp only [durIvs, List.mem_append] at hz
  rcases hz with ((((h | h) | h) | h) | h) | h <;> obtain ⟨n, _, rfl⟩ := mem_optIv h <;> rfl

theorem durationPieces_noDq (isD v ps) (h : durationPieces isD v = .ok ps) : ps.all noDqP = true := by
  rw [durationPieces_eq] at h
  split at h
  · cases h
  · rename_i p _
    have hsg : (durSign p).all noDqP = true := by unfold durSign; cases p.sign <;> rfl
    have hall := durIvs_noDq p
    split at h
    · cases h
    · injection h with h; subst h
      rename_i one heq
      have := hall one (by rw [heq]; simp)
      simp [List.all_append, hsg, this]
    · injection h with h; subst h
      have hj := joinPlus_noDq _ hall
      simp only [List.all_append, hsg, parenP, List.all_cons, hj]
      rfl

theorem litPieces_noDq (isD d k v ps) (h : litPieces isD d k v = .ok ps) : ps.all noDqP = true := by
  cases k <;> simp only [litPieces] at h
  case duration => exact durationPieces_noDq isD v ps h
  case geo => cases h
  case bool | date | time => split at h <;> cases h <;> rfl
  case datetime => cases d <;> cases h <;> rfl
  all_goals cases h; rfl

theorem identPieces_alias (d a n) (ha : a ≠ []) : identPieces d (some a) n = qualify a (identPieces d none n) := by
  have : a.isEmpty = false := by cases a <;> simp_all
  simp [identPieces, this, qualify, qual]

def omap {α β} (f : α → β) (x : Outcome α) : Outcome β := x.bind (fun a => .ok (f a))
@[simp] theorem omap_ok {α β} (f : α → β) (a) : omap f (.ok a) = .ok (f a) := rfl
@[simp] theorem omap_lib {α β} (f : α → β) (e) : omap f (.lib e : Outcome α) = .lib e := rfl
@[simp] theorem omap_foreign {α β} (f : α → β) (c) : omap f (.foreign c : Outcome α) = .foreign c := rfl
@[simp] theorem omap_ni {α β} (f : α → β) : omap f (.notImplemented : Outcome α) = .notImplemented := rfl
@[simp] theorem bind_ok' {α β} (a : α) (f : α → Outcome β) : (Outcome.ok a).bind f = f a := rfl
@[simp] theorem bind_lib' {α β} (e) (f : α → Outcome β) : (Outcome.lib e : Outcome α).bind f = .lib e := rfl
@[simp] theorem bind_foreign' {α β} (c) (f : α → Outcome β) : (Outcome.foreign c : Outcome α).bind f = .foreign c := rfl
@[simp] theorem bind_ni' {α β} (f : α → Outcome β) : (Outcome.notImplemented : Outcome α).bind f = .notImplemented := rfl

/-- `omap` commutes with the binds of a `do` block: it moves to the last step, and a mapped first step moves into
    the continuation -/
theorem omap_bind {α β γ} (g : β → γ) (x : Outcome α) (f : α → Outcome β) :
    omap g (x >>= f) = x >>= fun a => omap g (f a) := by cases x <;> rfl
theorem bind_omap {α β γ} (g : α → β) (x : Outcome α) (f : β → Outcome γ) :
    (omap g x >>= f) = x >>= fun a => f (g a) := by cases x <;> rfl

variable (isD : Char → Bool) (d : Dialect) (a : Str)

theorem alias_all (ha : a ≠ []) :
    (∀ e, sqlVisit isD d (some a) e = omap (qualify a) (sqlVisit isD d none e)) ∧
    (∀ xs, sqlVisitList isD d (some a) xs = omap (List.map (qualify a)) (sqlVisitList isD d none xs)) ∧
    (∀ _ : OptLam, True) := by
  apply Expr.induct
  case ident => intro i; rw [sqlVisit, sqlVisit, identPieces_alias d a i.name ha]; rfl
  case attr | named | coll => intros; rw [sqlVisit, sqlVisit]; rfl
  case lit =>
    intro k v
    rw [sqlVisit, sqlVisit]
    cases h : litPieces isD d k v with
    | ok ps => rw [omap_ok, qualify_id a ps (litPieces_noDq isD d k v ps h)]
    | _ => rfl
  case list =>
    intro xs ih
    rw [sqlVisit, sqlVisit, ih]
    simp only [bind_omap, omap_bind, Outcome.pure_eq, omap_ok, qualify_parenP, qualify_joinComma]
  case binop =>
    intro op l r ihl ihr
    rw [sqlVisit, sqlVisit, ihl, ihr]
    simp only [bind_omap, omap_bind, Outcome.pure_eq, omap_ok, qualify_append, qualify_cons, qualify_wrapOperand,
      qual_sp, qual_o, List.cons_append, List.nil_append]
  case compare =>
    intro op l r ihl ihr
    rw [sqlVisit, sqlVisit, ihl, ihr]
    simp only [bind_omap, omap_bind]
    split <;>
      simp only [Outcome.pure_eq, omap_ok, qualify_append, qualify_cons, qualify_wrapOperand, qualify_cmpPieces,
        qual_sp, List.cons_append, List.nil_append]
  case boolop =>
    intro op l r ihl ihr
    rw [sqlVisit, sqlVisit, ihl, ihr]
    simp only [bind_omap, omap_bind, Outcome.pure_eq, omap_ok, qualify_append, qualify_cons, qualify_boolWrapL,
      qualify_boolWrapR, qual_sp, qual_w, List.cons_append, List.nil_append]
  case unary =>
    intro op e ih
    rw [sqlVisit, sqlVisit, ih]
    simp only [bind_omap, omap_bind, Outcome.pure_eq, omap_ok, qualify_cons, qualify_wrapOperand, qual_sp,
      List.cons_append, List.nil_append]
    split <;> rfl
  case call =>
    intro f args ih
    rw [sqlVisit_call, sqlVisit_call]
    cases hp : callPre d f args.length with
    | some err =>
      cases err with
      | ok ps => exact absurd hp (callPre_not_ok _ _ _ _)
      | _ => rfl
    | none =>
      simp only [ih, bind_omap, omap_bind]
      refine congrArg _ (funext fun items => ?_)
      cases hs : selectTpl d (String.ofList (pyLower (funcKey f))) (List.map inferType args.toList) with
      | ok tpl =>
        simp only [Outcome.bind_ok, Outcome.pure_eq, omap_ok,
          qualify_instantiate a _ _ tpl (selectTpl_noDq _ _ _ _ hs)]
      | _ => rfl
  case nil => rw [sqlVisitList, sqlVisitList]; rfl
  case cons =>
    intro h t ihh iht
    rw [sqlVisitList, sqlVisitList, ihh, iht]
    simp only [bind_omap, omap_bind, Outcome.pure_eq, omap_ok, List.map_cons]
  case none | some => intros; trivial

theorem alias_visit (ha : a ≠ []) : (e : Expr) →
    sqlVisit isD d (some a) e = omap (qualify a) (sqlVisit isD d none e) :=
  (alias_all isD d a ha).1

theorem alias_visitList (ha : a ≠ []) : (xs : Exprs) →
    sqlVisitList isD d (some a) xs = omap (List.map (qualify a)) (sqlVisitList isD d none xs) :=
  (alias_all isD d a ha).2.1

end OQ.SqlAlias
