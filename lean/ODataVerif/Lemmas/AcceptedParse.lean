/-
  The parser only re-uses what the tokens carry: if every token satisfies `ok`, every literal / identifier of the accepted
  tree comes from a token satisfying `ok` (`Prov ok`, Lemmas/AcceptedProv.lean). `Prov ok` is an instance of the parser
  invariant of Lemmas/ParseInduct.lean.
-/
import ODataVerif.Lemmas.AcceptedProv
import ODataVerif.Lemmas.ParseInduct
namespace OQ.AcceptedParse
open OQ.AcceptedProv

section
variable (ok : Tok → Prop)

theorem nameOk_of_ok (j : Ident) (h : ok (.ident j)) : NameOk ok j.name := by
  cases j with
  | mk name ns => exact ⟨ns, h⟩

theorem nameOk_of_idOk (j : Ident) (h : IdOk ok j) : NameOk ok j.name := by
  rcases h with h | ⟨_, h⟩
  · exact nameOk_of_ok ok j h
  · exact h

theorem idOk_root (i : Ident) (h : ok (.ident i)) : IdOk ok ⟨i.name, []⟩ :=
  .inr ⟨rfl, nameOk_of_ok ok i h⟩

theorem provL_snoc : ∀ (acc : Exprs) (e : Expr), ProvL ok acc → Prov ok e → ProvL ok (acc.snoc e)
  | .nil, e, ha, he => by
    simp only [Exprs.snoc, ProvL, and_true]; exact he
  | .cons h t, e, ha, he => by
    simp only [Exprs.snoc, ProvL] at ha ⊢
    exact ⟨ha.1, provL_snoc t e ha.2 he⟩

theorem explode_names : ∀ (e : Expr) (names : List Str), Prov ok e → explodePath e = some names →
    ∀ n ∈ names, NameOk ok n
  | .ident i, names, hp, h => by
    simp only [explodePath, Option.some.injEq] at h
    subst h
    intro n hn
    simp only [List.mem_singleton] at hn
    subst hn
    simp only [Prov] at hp
    exact nameOk_of_idOk ok i hp
  | .attr o m, names, hp, h => by
    simp only [explodePath, Option.map_eq_some_iff] at h
    obtain ⟨ns, h1, h2⟩ := h
    subst h2
    simp only [Prov] at hp
    intro n hn
    simp only [List.mem_append, List.mem_singleton] at hn
    rcases hn with hn | hn
    · exact explode_names o ns hp.1 h1 n hn
    · subst hn; exact hp.2
  | .lit _ _, _, _, h => by simp [explodePath] at h
  | .list _, _, _, h => by simp [explodePath] at h
  | .binop _ _ _, _, _, h => by simp [explodePath] at h
  | .compare _ _ _, _, _, h => by simp [explodePath] at h
  | .boolop _ _ _, _, _, h => by simp [explodePath] at h
  | .unary _ _, _, _, h => by simp [explodePath] at h
  | .named _ _, _, _, h => by simp [explodePath] at h
  | .call _ _, _, _, h => by simp [explodePath] at h
  | .coll _ _ _, _, _, h => by simp [explodePath] at h

theorem prov_foldl (names : List Str) : ∀ base : Expr, Prov ok base → (∀ n ∈ names, NameOk ok n) →
    Prov ok (names.foldl (fun o n => .attr o n) base) := by
  induction names with
  | nil => intro base hb _; exact hb
  | cons n ns ih =>
    intro base hb hn
    simp only [List.foldl_cons]
    simp only [List.forall_mem_cons] at hn
    refine ih _ ?_ hn.2
    simp only [Prov]; exact ⟨hb, hn.1⟩

theorem rebuild_prov (i : Ident) (names : List Str) (e : Expr) (hi : ok (.ident i))
    (hn : ∀ n ∈ names, NameOk ok n) (h : rebuildPath (i.name :: names) = some e) : Prov ok e := by
  simp only [rebuildPath, Option.some.injEq] at h
  subst h
  refine prov_foldl ok names _ ?_ hn
  simp only [Prov]; exact idOk_root ok i hi

theorem pathCons_prov (i : Ident) (tail e : Expr) (hi : ok (.ident i))
    (ht : Prov ok tail) (h : pathCons i tail = .ok e) : Prov ok e := by
  unfold pathCons at h
  split at h
  · split at h
    · rename_i names hx
      split at h
      · rename_i e' hr
        cases h
        exact rebuild_prov ok i names _ hi (explode_names ok _ names ht hx) hr
      · cases h
    · cases h
  · rename_i owner op lam
    simp only [Prov] at ht
    split at h
    · split at h
      · rename_i names hx
        split at h
        · rename_i e' hr
          cases h
          simp only [Prov]
          exact ⟨rebuild_prov ok i names _ hi (explode_names ok _ names ht.1 hx) hr, ht.2⟩
        · cases h
      · cases h
    · cases h
      simp only [Prov] at ht ⊢
      exact ⟨⟨.inl hi, nameOk_of_idOk ok _ ht.1⟩, ht.2⟩
    · cases h
  · cases h
    simp only [Prov] at ht ⊢
    exact ⟨.inl hi, nameOk_of_idOk ok _ ht⟩
  · cases h

def prov : ParseInv where
  K := ok
  Q _ := True
  E := Prov ok
  L := Prov ok
  Items := ProvL ok
  Named := ProvL ok
  Path := Prov ok
  Lam := ProvLam ok
  err _ _ := trivial
  lit _ _ h := h
  unary _ _ h := h
  boolop _ _ _ hl hr := ⟨hl, hr⟩
  binop _ _ _ hl hr := ⟨hl, hr⟩
  compare _ _ _ _ hl hr := ⟨hl, hr⟩
  isIn _ _ hl hr := ⟨hl, hr⟩
  list _ h := h
  ofList _ h := h
  one _ h := ⟨h, trivial⟩
  snoc := provL_snoc ok
  named _ _ hn he := ⟨⟨hn, he⟩, trivial⟩
  namedSnoc _ _ _ hn ha he := provL_snoc ok _ _ ha ⟨hn, he⟩
  call f args hf ha rest := by
    have ha' : ProvL ok args := by
      rcases ha with rfl | h | h
      · trivial
      · exact h
      · exact h
    unfold functionCall functionCallWith
    split
    · split
      · trivial
      · split
        · trivial
        · simp only [liftOutcome, Res_ok, Prov]; exact ⟨hf, ha'⟩
    · simp only [liftOutcome, Res_ok, Prov]; exact ⟨hf, ha'⟩
  pathIdent _ hi := .inl hi
  pathCons i tl hi ht rest := by
    cases hp : pathCons i tl with
    | ok e => exact pathCons_prov ok i tl e hi ht hp
    | _ => trivial
  pathAny _ hi := ⟨.inl hi, trivial⟩
  pathColl _ _ _ hi h := ⟨.inl hi, h⟩
  ofPath _ h := h
  lam _ _ hv h := ⟨hv, h⟩

end

theorem parseToks_prov (ok : Tok → Prop) (lexErr : Option Nat) (ts : List Tok) (e : Expr)
    (hts : ∀ t ∈ ts, ok t) (h : parseToks lexErr ts = .ok e) : Prov ok e :=
  (prov ok).parseToks hts h

end OQ.AcceptedParse
