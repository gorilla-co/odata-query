/- An arbitrary choice of the unary minus tokens behind which a WS token is put (`sepG S`: behind
   the minus tokens whose rest has a length in `S`, unless a WS follows already) is ignored by the parser as well
   (`ParseSep.sepInv`; for Props/C19Text.lean). -/
import ODataVerif.Lemmas.ParseSep
namespace OQ.ParseSepG
open Spec LexRender

theorem ok_bind {α β} (a : α) (g : α → Except PErr β) : (Except.ok a >>= g) = g a := ParseSep.ok_bind a g
theorem err_bind {α β} (e : PErr) (g : α → Except PErr β) : (Except.error e >>= g) = .error e := ParseSep.err_bind e g

def wsHead : List Tok → Bool
  | .ws :: _ => true
  | _ => false

def sepG (S : List Nat) : List Tok → List Tok
  | [] => []
  | .uminus :: r => if S.contains r.length && !wsHead r then .uminus :: .ws :: sepG S r else .uminus :: sepG S r
  | t :: r => t :: sepG S r

variable {S : List Nat}

theorem sep_cons_ne {t : Tok} (h : t ≠ .uminus) (r : List Tok) : sepG S (t :: r) = t :: sepG S r := by
  cases t <;> first | rfl | exact absurd rfl h

@[simp] theorem sep_nil : sepG S [] = [] := rfl
@[simp] theorem sep_lit (k v r) : sepG S (.lit k v :: r) = .lit k v :: sepG S r := rfl
@[simp] theorem sep_arith (o r) : sepG S (.arith o :: r) = .arith o :: sepG S r := rfl
@[simp] theorem sep_bool (o r) : sepG S (.bool o :: r) = .bool o :: sepG S r := rfl
@[simp] theorem sep_not (r) : sepG S (.not_ :: r) = .not_ :: sepG S r := rfl
@[simp] theorem sep_any (r) : sepG S (.any :: r) = .any :: sepG S r := rfl
@[simp] theorem sep_all (r) : sepG S (.all :: r) = .all :: sepG S r := rfl
@[simp] theorem sep_ws (r) : sepG S (.ws :: r) = .ws :: sepG S r := rfl
@[simp] theorem sep_comma (r) : sepG S (.comma :: r) = .comma :: sepG S r := rfl
@[simp] theorem sep_colon (r) : sepG S (.colon :: r) = .colon :: sepG S r := rfl
@[simp] theorem sep_eqs (r) : sepG S (.eqs :: r) = .eqs :: sepG S r := rfl

theorem minusWs_sepG (S : List Nat) : ParseSep.MinusWs (sepG S) where
  nil := rfl
  cons t r h := sep_cons_ne h r
  uminus r := by
    simp only [sepG]
    split
    · rename_i hc
      refine .inr ⟨rfl, ?_⟩
      cases r with
      | nil => rfl
      | cons t r0 => exact ParseSep.skipWs_cons (fun e => by rw [e] at hc; simp [wsHead] at hc) r0
    · exact .inl rfl

end OQ.ParseSepG
