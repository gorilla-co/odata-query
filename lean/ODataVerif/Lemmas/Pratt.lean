/-
  Token-level round trip of the precedence-climbing parser model (C05, Props/C05Roundtrip.lean).
  The fuelled mutual parser is unfolded once, in step lemmas stated for arbitrary token lists under
  hypotheses on the shape of the input; the induction over trees (`Core`, one lemma per constructor,
  assembled in the structurally recursive `core`) uses only those.
-/
import ODataVerif.Model.Parser
import ODataVerif.Spec.RefPrinter
import ODataVerif.Props.C11
import ODataVerif.Lemmas.Totality
namespace OQ.Pratt
open Spec

@[simp] theorem ok_bind {α β} (a : α) (g : α → Except PErr β) : (Except.ok a >>= g) = g a := rfl

def stops (m : Nat) : List Tok → Bool
  | .bool o :: _ => decide (o.lvl < m)
  | .cmp o :: _ => decide (o.lvl < m)
  | .arith o :: _ => decide (o.lvl < m)
  | _ => true

def followOk : List Tok → Bool
  | [] => true
  | t :: _ => isFollow t

def startTok : Tok → Bool
  | .lit _ _ | .ident _ | .not_ | .uminus | .lp => true
  | _ => false

def headStart : List Tok → Bool
  | t :: _ => startTok t
  | [] => false

def noWs : List Tok → Bool
  | .ws :: _ => false
  | _ => true

theorem parseExpr_step (f m ts lhs r) (h : parsePrefix false f ts = .ok (lhs, r)) :
    parseExpr false (f+1) m ts = parseLoop false f m lhs r := by
  rw [parseExpr]; simp [h]

theorem loop_stop (m lhs ts) (h : stops m ts = true) :
    ∀ f, 1 ≤ f → parseLoop false f m lhs ts = .ok (lhs, ts)
  | f+1, _ => by
    unfold parseLoop
    split <;> first | rfl | exact if_neg (Nat.not_le.2 (of_decide_eq_true h))

theorem loop_arith (f m lhs o r rhs r') (hm : m ≤ o.lvl)
    (h : parseExpr false f (o.lvl+1) r = .ok (rhs, r')) :
    parseLoop false (f+1) m lhs (.arith o :: r) = parseLoop false f m (.binop o lhs rhs) r' := by
  simp [parseLoop, hm, h]

theorem loop_bool (f m lhs o r rhs r') (hm : m ≤ o.lvl)
    (h : parseExpr false f (o.lvl+1) r = .ok (rhs, r')) :
    parseLoop false (f+1) m lhs (.bool o :: r) = parseLoop false f m (.boolop o lhs rhs) r' := by
  simp [parseLoop, hm, h]

theorem loop_cmp (f m lhs o r rhs r') (ho : o ≠ .in_) (hm : m ≤ o.lvl)
    (h : parseExpr false f (o.lvl+1) r = .ok (rhs, r')) :
    parseLoop false (f+1) m lhs (.cmp o :: r) = parseLoop false f m (.compare o lhs rhs) r' := by
  cases o <;> simp at ho <;> simp [parseLoop, hm, h]

theorem loop_in (f m lhs r rhs r') (hm : m ≤ 8) (h : parseListExpr false f r = .ok (rhs, r')) :
    parseLoop false (f+1) m lhs (.cmp .in_ :: r) = parseLoop false f m (.compare .in_ lhs rhs) r' := by
  simp [parseLoop, hm, h, CmpOp.lvl]

theorem prefix_not (f r e r') (h : parseExpr false f 8 r = .ok (e, r')) :
    parsePrefix false (f+1) (.not_ :: r) = .ok (.unary .not_ e, r') := by
  simp [parsePrefix, unaryLvl, h]; rfl

theorem prefix_uminus (f r e r') (h : parseExpr false f 8 (skipWs r) = .ok (e, r')) :
    parsePrefix false (f+1) (.uminus :: r) = .ok (.unary .neg e, r') := by
  simp [parsePrefix, unaryLvl, h]; rfl

theorem prefix_lit (f k v r) : parsePrefix false (f+1) (.lit k v :: r) = .ok (.lit k v, r) := by
  simp [parsePrefix]

theorem prefix_lp (f r) : parsePrefix false (f+1) (.lp :: r) = parseParen false f (skipWs r) := by
  simp [parsePrefix]

theorem prefix_call_nil (f i r) :
    parsePrefix false (f+1) (.ident i :: .lp :: .rp :: r) = finishCall false i .nil r := by
  simp [parsePrefix]

def notRpHead : List Tok → Bool
  | .rp :: _ => false
  | _ => true

def notLpHead : List Tok → Bool
  | .lp :: _ => false
  | _ => true

def notSlashHead : List Tok → Bool
  | .slash :: _ => false
  | _ => true

theorem prefix_call_args (f i r) (h : notRpHead r = true) :
    parsePrefix false (f+1) (.ident i :: .lp :: r) = parseCallArgs false f i (skipWs r) := by
  rw [parsePrefix]
  intro r' hr; rw [hr] at h; cases h

theorem prefix_path (f i r) (h : notLpHead r = true) :
    parsePrefix false (f+1) (.ident i :: r) = parsePath false f i r := by
  rw [parsePrefix]
  all_goals intros; subst r; cases h

theorem paren_close (f ts e r r') (h : parseExpr false f 0 ts = .ok (e, r)) (hr : skipWs r = .rp :: r') :
    parseParen false (f+1) ts = .ok (e, r') := by
  simp only [parseParen, h, hr, ok_bind]; rfl

theorem paren_single (f ts e r r' r'') (h : parseExpr false f 0 ts = .ok (e, r))
    (hr : skipWs r = .comma :: r') (hr' : skipWs r' = .rp :: r'') :
    parseParen false (f+1) ts = .ok (.list (.cons e .nil), r'') := by
  simp only [parseParen, h, hr, hr', ok_bind]; rfl

theorem paren_items (f ts e r r' items r3) (h : parseExpr false f 0 ts = .ok (e, r))
    (hr : skipWs r = .comma :: r') (hr' : notRpHead (skipWs r') = true)
    (hi : parseItems false f (.cons e .nil) (skipWs r') = .ok (items, r3)) :
    parseParen false (f+1) ts = .ok (.list items, r3) := by
  simp only [parseParen, h, hr, ok_bind]
  split
  · rename_i hs; rw [hs] at hr'; cases hr'
  · rw [hi]; rfl

theorem items_last (f acc ts e r r') (h : parseExpr false f 0 ts = .ok (e, r))
    (hr : skipWs r = .rp :: r') :
    parseItems false (f+1) acc ts = .ok (acc.snoc e, r') := by
  simp [parseItems, h, hr]; rfl

theorem items_more (f acc ts e r r') (h : parseExpr false f 0 ts = .ok (e, r))
    (hr : skipWs r = .comma :: r') :
    parseItems false (f+1) acc ts = parseItems false f (acc.snoc e) (skipWs r') := by
  simp [parseItems, h, hr]

theorem listExpr_single (f r e r1 r2 r3) (h : parseExpr false f 0 (skipWs r) = .ok (e, r1))
    (h1 : skipWs r1 = .comma :: r2) (h2 : skipWs r2 = .rp :: r3) :
    parseListExpr false (f+1) (.lp :: r) = .ok (.list (.cons e .nil), r3) := by
  simp only [parseListExpr, h, h1, h2, ok_bind]; rfl

theorem listExpr_items (f r e r1 r2 items r4) (h : parseExpr false f 0 (skipWs r) = .ok (e, r1))
    (h1 : skipWs r1 = .comma :: r2) (h2 : notRpHead (skipWs r2) = true)
    (hi : parseItems false f (.cons e .nil) (skipWs r2) = .ok (items, r4)) :
    parseListExpr false (f+1) (.lp :: r) = .ok (.list items, r4) := by
  simp only [parseListExpr, h, h1, ok_bind]
  split
  · rename_i hs; rw [hs] at h2; cases h2
  · rw [hi]; rfl

def notNamedStart : List Tok → Bool
  | .ident _ :: .eqs :: _ => false
  | _ => true

theorem callArgs_named (f i n r e r1) (h : parseExpr false f 0 r = .ok (e, r1)) :
    parseCallArgs false (f+1) i (.ident n :: .eqs :: r)
      = parseNamedRest false f i (.cons (.named n e) .nil) r1 := by
  simp [parseCallArgs, h]

theorem callArgs_pos (f i ts) (hn : notNamedStart ts = true) :
    parseCallArgs false (f+1) i ts =
      (do
        let (e, r1) ← parseExpr false f 0 ts
        match skipWs r1 with
        | .rp :: r2 => finishCall false i (.cons e .nil) r2
        | .comma :: r2 =>
            (match skipWs r2 with
             | .rp :: r3 => finishCall false i (.cons e .nil) r3
             | r3 => do
                 let (items, r4) ← parseItems false f (.cons e .nil) r3
                 finishCall false i items r4)
        | r2 => .error (failAt false r2)) := by
  rw [parseCallArgs]
  · rfl
  · intro n r hts
    subst hts
    simp [notNamedStart] at hn

theorem callArgs_single (f i ts e r1 r2) (hn : notNamedStart ts = true)
    (h : parseExpr false f 0 ts = .ok (e, r1)) (h1 : skipWs r1 = .rp :: r2) :
    parseCallArgs false (f+1) i ts = finishCall false i (.cons e .nil) r2 := by
  rw [callArgs_pos f i ts hn]; simp only [h, h1, ok_bind]

theorem callArgs_items (f i ts e r1 r2 items r4) (hn : notNamedStart ts = true)
    (h : parseExpr false f 0 ts = .ok (e, r1)) (h1 : skipWs r1 = .comma :: r2)
    (h2 : notRpHead (skipWs r2) = true)
    (hi : parseItems false f (.cons e .nil) (skipWs r2) = .ok (items, r4)) :
    parseCallArgs false (f+1) i ts = finishCall false i items r4 := by
  rw [callArgs_pos f i ts hn]
  simp only [h, h1, ok_bind]
  split
  · rename_i hs; rw [hs] at h2; cases h2
  · rw [hi]; rfl

theorem namedRest_end (f i acc ts r) (h : skipWs ts = .rp :: r) :
    parseNamedRest false (f+1) i acc ts = finishCall false i acc r := by
  simp [parseNamedRest, h]

theorem namedRest_more (f i acc ts r n r' e r1) (h : skipWs ts = .comma :: r)
    (h' : skipWs r = .ident n :: .eqs :: r') (he : parseExpr false f 0 r' = .ok (e, r1)) :
    parseNamedRest false (f+1) i acc ts = parseNamedRest false f i (acc.snoc (.named n e)) r1 := by
  simp [parseNamedRest, h, h', he]

theorem path_end (f i ts) (h : notSlashHead ts = true) :
    parsePath false (f+1) i ts = .ok (.ident i, ts) := by
  rw [parsePath]
  all_goals intros; subst ts; cases h

theorem path_seg (f i j r tail r') (h : parsePath false f j r = .ok (tail, r')) :
    parsePath false (f+1) i (.slash :: .ident j :: r) = liftOutcome (pathCons i tail) r' := by
  simp [parsePath, h]

theorem path_any_none (f i r r') (h : skipWs r = .rp :: r') :
    parsePath false (f+1) i (.slash :: .any :: .lp :: r) = .ok (.coll (.ident i) .any .none, r') := by
  simp [parsePath, h]; rfl

theorem path_any_lam (f i r lam r2 r3) (hs : notRpHead (skipWs r) = true)
    (h : parseLambda false f (skipWs r) = .ok (lam, r2)) (h3 : skipWs r2 = .rp :: r3) :
    parsePath false (f+1) i (.slash :: .any :: .lp :: r) = .ok (.coll (.ident i) .any lam, r3) := by
  rw [parsePath]
  split
  · rename_i hr; rw [hr] at hs; cases hs
  · simp only [h, h3, expectRp, ok_bind]; rfl

theorem path_all_lam (f i r lam r2 r3)
    (h : parseLambda false f (skipWs r) = .ok (lam, r2)) (h3 : skipWs r2 = .rp :: r3) :
    parsePath false (f+1) i (.slash :: .all :: .lp :: r) = .ok (.coll (.ident i) .all lam, r3) := by
  simp [parsePath, h, h3, expectRp]; rfl

theorem lambda_step (f v r r' body r'') (h : skipWs r = .colon :: r')
    (hb : parseExpr false f 0 (skipWs r') = .ok (body, r'')) :
    parseLambda false (f+1) (.ident v :: r) = .ok (.some v body, r'') := by
  simp [parseLambda, h, hb]; rfl

theorem skipWs_ws (b : Bool) (ts : List Tok) (h : noWs ts = true) : skipWs (ws? b ++ ts) = ts := by
  cases b
  · cases ts with
    | nil => rfl
    | cons t r => cases t <;> first | rfl | cases h
  · rfl

theorem noWs_of_headStart (ts : List Tok) (h : headStart ts = true) : noWs ts = true := by
  cases ts with
  | nil => rfl
  | cons t r => cases t <;> first | rfl | cases h

theorem notRp_of_headStart (ts : List Tok) (h : headStart ts = true) : notRpHead ts = true := by
  cases ts with
  | nil => rfl
  | cons t r => cases t <;> first | rfl | cases h

theorem headStart_append (a b : List Tok) (h : headStart a = true) : headStart (a ++ b) = true := by
  cases a with
  | nil => simp [headStart] at h
  | cons t r => simpa [headStart] using h

theorem skipWs_start (b : Bool) (A X : List Tok) (h : headStart A = true) :
    skipWs (ws? b ++ (A ++ X)) = A ++ X :=
  skipWs_ws b _ (noWs_of_headStart _ (headStart_append A X h))

@[simp] theorem headStart_paren (sty : Style) (ts : List Tok) : headStart (paren sty ts) = true := by
  simp [paren, headStart, startTok]

theorem headStart_printList (sty : Style) (mode : Mode) : (xs : Exprs) → headStart (printList sty mode xs) = true
  | .nil => by simp [printList, headStart, startTok]
  | .cons a .nil => by simp [printList, headStart, startTok]
  | .cons a (.cons b t) => by simp [printList]

theorem headStart_operand_of {sty : Style} {mode : Mode} {e : Expr}
    (h : headStart (printToks sty mode e) = true) (pl : Nat) (s : Bool) :
    headStart (operand sty mode pl s e) = true := by
  rw [operand]; split
  · rfl
  · exact h

theorem headStart_printToks (sty : Style) (mode : Mode) : (e : Expr) → headStart (printToks sty mode e) = true
  | .ident _ | .lit _ _ | .unary .not_ _ | .unary .neg _ | .named _ _ | .call _ .nil
  | .call _ (.cons _ .nil) | .call _ (.cons _ (.cons _ _)) => by simp only [printToks]; rfl
  | .attr o n => by
      rw [printToks]; exact headStart_append _ _ (headStart_printToks sty mode o)
  | .list xs => by rw [printToks]; exact headStart_printList sty mode xs
  | .binop o l r => by
      rw [printToks, List.append_assoc]
      exact headStart_append _ _ (headStart_operand_of (headStart_printToks sty mode l) _ _)
  | .compare o l r => by
      cases o <;> simp only [printToks, List.append_assoc] <;>
        exact headStart_append _ _ (headStart_operand_of (headStart_printToks sty mode l) _ _)
  | .boolop o l r => by
      rw [printToks, List.append_assoc]
      exact headStart_append _ _ (headStart_operand_of (headStart_printToks sty mode l) _ _)
  | .coll ow op .none => by
      rw [printToks, List.append_assoc, List.append_assoc]
      exact headStart_append _ _ (headStart_printToks sty mode ow)
  | .coll ow op (.some v b) => by
      rw [printToks, List.append_assoc]
      exact headStart_append _ _ (headStart_printToks sty mode ow)

theorem printToks_length_pos (sty : Style) (mode : Mode) (e : Expr) : 1 ≤ (printToks sty mode e).length := by
  have h := headStart_printToks sty mode e
  cases hp : printToks sty mode e with
  | nil => rw [hp] at h; simp [headStart] at h
  | cons t r => simp

def segToks : List Str → List Tok
  | [] => []
  | n :: ns => .slash :: .ident ⟨n, []⟩ :: segToks ns

def buildPath (i : Ident) (names : List Str) : Expr :=
  names.foldl (fun o n => .attr o n) (.ident i)

theorem segToks_append (a b : List Str) : segToks (a ++ b) = segToks a ++ segToks b := by
  induction a with
  | nil => rfl
  | cons n ns ih => simp [segToks, ih]

theorem segToks_length (a : List Str) : (segToks a).length = 2 * a.length := by
  induction a with
  | nil => rfl
  | cons n ns ih => simp [segToks, ih]; omega

theorem buildPath_snoc (i : Ident) (names : List Str) (n : Str) :
    buildPath i (names ++ [n]) = .attr (buildPath i names) n := by
  simp [buildPath, List.foldl_append]

theorem rootNs_foldl (o : Expr) (names : List Str) :
    rootNs (names.foldl (fun o n => Expr.attr o n) o) = rootNs o := by
  induction names generalizing o with
  | nil => rfl
  | cons n ns ih => simp [List.foldl, ih, rootNs]

theorem rootNs_buildPath (i : Ident) (names : List Str) : rootNs (buildPath i names) = i.ns := by
  simp [buildPath, rootNs_foldl, rootNs]

theorem pathOk_decomp (sty : Style) (mode : Mode) (e : Expr) (h : pathOk e = true) :
    ∃ i names, e = buildPath i names ∧ printToks sty mode e = .ident i :: segToks names ∧
      (names.length ≤ 1 ∨ i.ns = []) := by
  fun_induction pathOk e with
  | case1 i => exact ⟨i, [], rfl, by simp [printToks, segToks], Or.inl (by simp)⟩
  | case2 i n => exact ⟨i, [n], rfl, by simp [printToks, segToks], Or.inl (by simp)⟩
  | case3 o n n2 ih =>
      simp only [Bool.and_eq_true, beq_iff_eq] at h
      obtain ⟨i, names, he, hp, _⟩ := ih h.2
      refine ⟨i, names ++ [n2], ?_, ?_, Or.inr ?_⟩
      · rw [buildPath_snoc, ← he]
      · rw [printToks, hp, segToks_append]; simp [segToks]
      · have := rootNs_buildPath i names
        rw [← he] at this
        simpa [rootNs, h.1] using this.symm
  | case4 => cases h

theorem explodePath_buildPath (j : Ident) (names : List Str) :
    explodePath (buildPath j names) = some (j.name :: names) := by
  simp [buildPath, explodePath_foldl, explodePath]

/-- the result of the innermost `parsePath`: the path itself or a collection lambda on it -/
def wrap : Option (CollOp × OptLam) → Expr → Expr
  | none, e => e
  | some (op, lam), e => .coll e op lam

theorem buildPath_cons_attr (j : Ident) (n : Str) (ns : List Str) :
    ∃ X l, buildPath j (n :: ns) = .attr X l := by
  have key : ∀ (ns : List Str) (o : Expr) (n : Str),
      ∃ X l, ns.foldl (fun o n => Expr.attr o n) (.attr o n) = .attr X l := by
    intro ns
    induction ns with
    | nil => intro o n; exact ⟨o, n, rfl⟩
    | cons n2 ns ih => intro o n; exact ih (.attr o n) n2
  exact key ns (.ident j) n

theorem pathCons_build (w : Option (CollOp × OptLam)) (i : Ident) (n : Str) (ns : List Str)
    (h : ns = [] ∨ i.ns = []) :
    pathCons i (wrap w (buildPath ⟨n, []⟩ ns)) = .ok (wrap w (buildPath i (n :: ns))) := by
  cases ns with
  | nil => cases w with
    | none => rfl
    | some p => rfl
  | cons n2 ns2 =>
    have hi : i = ⟨i.name, []⟩ := by
      cases i with
      | mk nm nss => rcases h with h | h
                     · cases h
                     · simp at h; simp [h]
    obtain ⟨X, l, hX⟩ := buildPath_cons_attr ⟨n, []⟩ n2 ns2
    have hex := explodePath_buildPath ⟨n, []⟩ (n2 :: ns2)
    have hre : rebuildPath (i.name :: n :: n2 :: ns2) = some (buildPath i (n :: n2 :: ns2)) := by
      conv => rhs; rw [hi]
      rfl
    rw [hX] at hex
    cases w with
    | none =>
      simp only [wrap]
      rw [hX]
      simp only [pathCons, hex, hre]
    | some p =>
      obtain ⟨op, lam⟩ := p
      simp only [wrap]
      rw [hX]
      simp only [pathCons, hex, hre]

theorem parsePath_segs (w : Option (CollOp × OptLam)) (T rest' : List Tok) (N : Nat)
    (hin : ∀ j f, N ≤ f → parsePath false f j T = .ok (wrap w (.ident j), rest')) :
    ∀ (names : List Str) (i : Ident), (names.length ≤ 1 ∨ i.ns = []) →
      ∀ f, N + names.length ≤ f →
        parsePath false f i (segToks names ++ T) = .ok (wrap w (buildPath i names), rest') := by
  intro names
  induction names with
  | nil => intro i _ f hf; simpa [segToks, buildPath] using hin i f (by simpa using hf)
  | cons n ns ih =>
    intro i hi f hf
    obtain ⟨f', rfl⟩ : ∃ f', f = f' + 1 := ⟨f - 1, by simp at hf; omega⟩
    have h1 := ih ⟨n, []⟩ (Or.inr rfl) f' (by simp at hf; omega)
    simp only [segToks, List.cons_append]
    rw [path_seg _ _ _ _ _ _ h1, pathCons_build w i n ns]
    · rfl
    · rcases hi with hi | hi
      · left; cases ns with
        | nil => rfl
        | cons _ _ => simp at hi
      · exact Or.inr hi

theorem joinDotsS_eq (l : List Str) : spellIdent.joinDotsS l = joinDots l := by
  induction l with
  | nil => rfl
  | cons x rest ih =>
    cases rest with
    | nil => rfl
    | cons y r => simp only [spellIdent.joinDotsS, joinDots, ih]

theorem spellIdent_eq (f : Ident) : spellIdent f = f.fullName := by
  simp [spellIdent, Ident.fullName, joinDotsS_eq]

theorem functionCall_of_callOk (f : Ident) (args : Exprs) (h : callOk f args.length = true) :
    functionCall f args = .ok (.call f args) := by
  by_cases hv : f.ns = [] ∨ f.ns = ["geo".toList]
  · unfold callOk at h
    rw [if_pos hv, spellIdent_eq] at h
    cases hn : arity f.fullName with
    | none => rw [hn] at h; simp at h
    | some p =>
      obtain ⟨lo, hi⟩ := p
      rw [hn] at h
      simp at h
      exact C11.accept f args lo hi hv hn h.1 h.2
  · exact C11.other_namespace_any_arity f args hv

theorem finishCall_ok (f : Ident) (args : Exprs) (rest : List Tok) (hf : followOk rest = true)
    (h : functionCall f args = .ok (.call f args)) :
    finishCall false f args rest = .ok (.call f args, rest) := by
  cases rest with
  | nil => simp [finishCall, h, liftOutcome]
  | cons t r =>
    have : isFollow t = true := by simpa [followOk] using hf
    simp [finishCall, this, h, liftOutcome]

/-- `acc` extended by `xs` through repeated `snoc` (what `parseItems` / `parseNamedRest` build) -/
def appendExprs : Exprs → Exprs → Exprs
  | acc, .nil => acc
  | acc, .cons a t => appendExprs (acc.snoc a) t

theorem appendExprs_cons (h : Expr) : (xs t : Exprs) →
    appendExprs (.cons h t) xs = .cons h (appendExprs t xs)
  | .nil, t => rfl
  | .cons a xs, t => by
      simp only [appendExprs, Exprs.snoc]
      exact appendExprs_cons h xs (t.snoc a)

theorem appendExprs_nil : (xs : Exprs) → appendExprs .nil xs = xs
  | .nil => rfl
  | .cons a xs => by
      simp only [appendExprs, Exprs.snoc]
      rw [appendExprs_cons, appendExprs_nil xs]

theorem appendExprs_single (e : Expr) (xs : Exprs) : appendExprs (.cons e .nil) xs = .cons e xs := by
  rw [appendExprs_cons, appendExprs_nil]

def isBin : Expr → Bool
  | .binop _ _ _ | .compare _ _ _ | .boolop _ _ _ => true
  | _ => false

/-- the core statement: if the operator loop, started after `e` in front of `rest`, yields `R` for all
    large enough fuel, then so does `parseExpr` on the rendering of `e` followed by `rest` -/
def Core (sty : Style) (mode : Mode) (e : Expr) : Prop :=
  ∀ (m : Nat) (rest : List Tok) (R : Expr × List Tok) (N : Nat), 1 ≤ N →
    (isBin e = true → m ≤ level e) →
    stops (level e + 1) rest = true →
    followOk rest = true →
    (∀ f, N ≤ f → parseLoop false f m e rest = .ok R) →
    ∀ f, N + 4 * (printToks sty mode e).length ≤ f →
      parseExpr false f m (printToks sty mode e ++ rest) = .ok R

/-- prefix-level statement for trees whose top is not a binary operator -/
def Pre (sty : Style) (mode : Mode) (e : Expr) : Prop :=
  ∀ (rest : List Tok), stops (level e + 1) rest = true → followOk rest = true →
    ∀ f, 4 * (printToks sty mode e).length ≤ f + 1 →
      parsePrefix false f (printToks sty mode e ++ rest) = .ok (e, rest)

theorem core_of_pre {sty mode e} (h : Pre sty mode e) : Core sty mode e := by
  intro m rest R N hN _ hst hfo hloop f hf
  have hpos := printToks_length_pos sty mode e
  obtain ⟨f', rfl⟩ : ∃ f', f = f' + 1 := ⟨f - 1, by omega⟩
  rw [parseExpr_step _ _ _ _ _ (h rest hst hfo f' (by omega))]
  exact hloop f' (by omega)

theorem stops_mono {m m' : Nat} {ts : List Tok} (h : stops m ts = true) (hm : m ≤ m') : stops m' ts = true := by
  cases ts with
  | nil => rfl
  | cons t r => cases t <;> simp [stops] at h ⊢ <;> omega

@[simp] theorem length_ws (b : Bool) : (ws? b).length ≤ 1 := by cases b <;> simp [ws?]

def closer : List Tok → Bool
  | .ws :: _ | .rp :: _ | .comma :: _ => true
  | _ => false

@[simp] theorem closer_ws_rp (b : Bool) (r : List Tok) : closer (ws? b ++ .rp :: r) = true := by
  cases b <;> rfl
@[simp] theorem closer_ws_comma (b : Bool) (r : List Tok) : closer (ws? b ++ .comma :: r) = true := by
  cases b <;> rfl

theorem stops_of_closer {ts : List Tok} (h : closer ts = true) (m : Nat) : stops m ts = true := by
  cases ts with
  | nil => rfl
  | cons t r => cases t <;> first | rfl | cases h

theorem followOk_of_closer {ts : List Tok} (h : closer ts = true) : followOk ts = true := by
  cases ts with
  | nil => rfl
  | cons t r => cases t <;> first | rfl | cases h

theorem core_zero {sty mode a} (h : Core sty mode a) (rest : List Tok) (hc : closer rest = true) :
    ∀ f, 1 + 4 * (printToks sty mode a).length ≤ f →
      parseExpr false f 0 (printToks sty mode a ++ rest) = .ok (a, rest) :=
  h 0 rest (a, rest) 1 (Nat.le_refl 1) (fun _ => Nat.zero_le _) (stops_of_closer hc _)
    (followOk_of_closer hc) (loop_stop _ _ _ (stops_of_closer hc _))

theorem operand_core {sty mode e} (he : Core sty mode e) (pl : Nat) (strict : Bool)
    (m : Nat) (rest : List Tok) (R : Expr × List Tok) (N : Nat) (hN : 1 ≤ N)
    (hfo : followOk rest = true)
    (hnp : needsParen mode pl strict e = false →
      (isBin e = true → m ≤ level e) ∧ stops (level e + 1) rest = true)
    (hloop : ∀ f, N ≤ f → parseLoop false f m e rest = .ok R) :
    ∀ f, N + 4 * (operand sty mode pl strict e).length ≤ f →
      parseExpr false f m (operand sty mode pl strict e ++ rest) = .ok R := by
  rw [operand]
  cases hp : needsParen mode pl strict e with
  | false =>
    simp only [Bool.false_eq_true, if_false]
    exact he m rest R N hN (hnp hp).1 (hnp hp).2 hfo hloop
  | true =>
    simp only [if_true]
    intro f hf
    simp only [paren, List.length_append, List.length_cons, List.length_nil] at hf
    obtain ⟨f1, rfl⟩ : ∃ f', f = f' + 3 := ⟨f - 3, by omega⟩
    have hpre : parsePrefix false (f1+2) (paren sty (printToks sty mode e) ++ rest) = .ok (e, rest) := by
      simp only [paren, List.append_assoc, List.cons_append, List.nil_append]
      rw [prefix_lp, skipWs_start _ _ _ (headStart_printToks ..)]
      exact paren_close _ _ _ _ _ (core_zero he _ (closer_ws_rp _ rest) f1 (by omega)) (skipWs_ws _ _ rfl)
    rw [parseExpr_step _ _ _ _ _ hpre]
    exact hloop _ (by omega)


theorem level_le_nine (e : Expr) : level e ≤ 9 := by
  unfold level; split <;> omega

theorem needsParen_false_left {mode L e} (hL : L ≤ 9) (h : needsParen mode L false e = false) : L ≤ level e := by
  cases mode <;> simp [needsParen] at h <;> omega

theorem needsParen_false_right {mode L e} (hL : L ≤ 8) (h : needsParen mode L true e = false) : L < level e := by
  cases mode <;> simp [needsParen] at h <;> omega

@[simp] theorem level_binop (o l r) : level (.binop o l r) = o.lvl := by cases o <;> rfl
@[simp] theorem level_boolop (o l r) : level (.boolop o l r) = o.lvl := by cases o <;> rfl
@[simp] theorem level_compare (o l r) : level (.compare o l r) = o.lvl := by cases o <;> rfl

theorem printToks_compare (sty : Style) (mode : Mode) {o : CmpOp} (ho : o ≠ .in_) (l r : Expr) :
    printToks sty mode (.compare o l r) =
      operand sty mode (level (.compare o l r)) false l ++ .cmp o ::
        operand sty mode (level (.compare o l r)) true r := by
  cases o <;> first
    | exact absurd rfl ho
    | simp only [printToks, List.append_assoc, List.cons_append, List.nil_append]

/-- a left-associative binary operator `t` on row `L ≤ 8` building `mk l r`: the left operand is read
    up to `t` (which stops every tighter loop), the loop takes `t` and reads the right operand one
    level up, so that an operator of the same row ends it -/
theorem core_binary {sty mode} (t : Tok) (mk : Expr → Expr → Expr) (L : Nat) (l r : Expr)
    (hl : Core sty mode l) (hr : Core sty mode r) (hL : L ≤ 8)
    (hfolt : isFollow t = true)
    (hstt : ∀ k ts, L < k → stops k (t :: ts) = true)
    (hstep : ∀ f m lhs ts rhs r', m ≤ L → parseExpr false f (L+1) ts = .ok (rhs, r') →
        parseLoop false (f+1) m lhs (t :: ts) = parseLoop false f m (mk lhs rhs) r')
    (hlev : level (mk l r) = L) (hbin : isBin (mk l r) = true)
    (hp : printToks sty mode (mk l r) = operand sty mode L false l ++ t :: operand sty mode L true r) :
    Core sty mode (mk l r) := by
  intro m rest R N hN hm hst hfo hloop f hf
  rw [hlev] at hm hst
  have hm := hm hbin
  rw [hp] at hf ⊢
  simp only [List.length_append, List.length_cons] at hf
  rw [List.append_assoc, List.cons_append]
  have hright : ∀ f, 1 + 4 * (operand sty mode L true r).length ≤ f →
      parseExpr false f (L+1) (operand sty mode L true r ++ rest) = .ok (r, rest) := by
    apply operand_core hr L true (L+1) rest (r, rest) 1 (Nat.le_refl 1) hfo
    · intro hnp
      have := needsParen_false_right hL hnp
      exact ⟨fun _ => this, stops_mono hst (by omega)⟩
    · exact loop_stop _ _ _ hst
  apply operand_core hl L false m (t :: (operand sty mode L true r ++ rest)) R
    (N + 4 * (operand sty mode L true r).length + 2) (by omega) (by simpa [followOk] using hfolt)
  · intro hnp
    have := needsParen_false_left (by omega) hnp
    exact ⟨fun _ => by omega, hstt _ _ (by omega)⟩
  · intro f hf
    obtain ⟨f', rfl⟩ : ∃ f', f = f' + 1 := ⟨f - 1, by omega⟩
    rw [hstep f' m l _ r rest hm (hright f' (by omega))]
    exact hloop f' (by omega)
  · omega

theorem core_binop {sty mode} (o : ArithOp) (l r : Expr) (hl : Core sty mode l) (hr : Core sty mode r) :
    Core sty mode (.binop o l r) :=
  core_binary (.arith o) (.binop o) o.lvl l r hl hr (by cases o <;> decide) rfl
    (fun _ _ hk => decide_eq_true hk) (fun f m lhs ts rhs r' => loop_arith f m lhs o ts rhs r')
    (level_binop o l r) rfl
    (by rw [printToks, level_binop, List.append_assoc]; rfl)

theorem core_boolop {sty mode} (o : BoolOp) (l r : Expr) (hl : Core sty mode l) (hr : Core sty mode r) :
    Core sty mode (.boolop o l r) :=
  core_binary (.bool o) (.boolop o) o.lvl l r hl hr (by cases o <;> decide) rfl
    (fun _ _ hk => decide_eq_true hk) (fun f m lhs ts rhs r' => loop_bool f m lhs o ts rhs r')
    (level_boolop o l r) rfl
    (by rw [printToks, level_boolop, List.append_assoc]; rfl)

theorem core_compare {sty mode} (o : CmpOp) (ho : o ≠ .in_) (l r : Expr) (hl : Core sty mode l) (hr : Core sty mode r) :
    Core sty mode (.compare o l r) :=
  core_binary (.cmp o) (.compare o) o.lvl l r hl hr
    (by cases o <;> first | exact absurd rfl ho | decide) rfl
    (fun _ _ hk => decide_eq_true hk) (fun f m lhs ts rhs r' => loop_cmp f m lhs o ts rhs r' ho)
    (level_compare o l r) rfl
    (by rw [printToks_compare sty mode ho, level_compare])


theorem notLp_of_followOk {ts : List Tok} (h : followOk ts = true) : notLpHead ts = true := by
  cases ts with
  | nil => rfl
  | cons t r => cases t <;> first | rfl | cases h

theorem notSlash_of_followOk {ts : List Tok} (h : followOk ts = true) : notSlashHead ts = true := by
  cases ts with
  | nil => rfl
  | cons t r => cases t <;> first | rfl | cases h

theorem pre_lit {sty mode} (k : LitKind) (v : Str) : Pre sty mode (.lit k v) := by
  intro rest _ _ f hf
  simp only [printToks, List.length_cons, List.length_nil] at hf
  obtain ⟨f', rfl⟩ : ∃ f', f = f' + 1 := ⟨f - 1, by omega⟩
  simp [printToks, prefix_lit]

/-- a path in front of tokens `T` which `parsePath`, arrived at the last identifier `j`, reads as
    `wrap w (.ident j)` (nothing more, or a collection lambda): the whole is read as `wrap w` of the path -/
theorem path_then {sty mode} (w : Option (CollOp × OptLam)) (ow : Expr) (how : pathOk ow = true)
    (T rest : List Tok) (N : Nat) (hT : notLpHead T = true)
    (hin : ∀ j f, N ≤ f → parsePath false f j T = .ok (wrap w (.ident j), rest)) :
    ∀ f, N + (printToks sty mode ow).length ≤ f →
      parsePrefix false f (printToks sty mode ow ++ T) = .ok (wrap w ow, rest) := by
  intro f hf
  obtain ⟨i, names, he, hp, hns⟩ := pathOk_decomp sty mode ow how
  rw [hp] at hf ⊢
  simp only [List.length_cons, segToks_length] at hf
  obtain ⟨f', rfl⟩ : ∃ f', f = f' + 1 := ⟨f - 1, by omega⟩
  rw [List.cons_append, prefix_path, parsePath_segs w T rest N hin names i hns f' (by omega), he]
  cases names with
  | nil => exact hT
  | cons n ns => rfl

theorem pre_path {sty mode} (e : Expr) (he : pathOk e = true) : Pre sty mode e := by
  intro rest _ hfo f hf
  have := printToks_length_pos sty mode e
  exact path_then none e he rest rest 1 (notLp_of_followOk hfo)
    (fun j f hf => by
      obtain ⟨f', rfl⟩ : ∃ f', f = f' + 1 := ⟨f - 1, by omega⟩
      exact path_end _ _ _ (notSlash_of_followOk hfo)) f (by omega)

theorem isBin_level {e : Expr} (h : isBin e = true) : level e ≤ 6 ∨ level e = 8 := by
  cases e <;> simp [isBin] at h
  case binop o l r => cases o <;> simp [ArithOp.lvl]
  case compare o l r => cases o <;> simp [CmpOp.lvl]
  case boolop o l r => cases o <;> simp [BoolOp.lvl]

theorem headStart_operand (sty : Style) (mode : Mode) (pl : Nat) (s : Bool) (e : Expr) :
    headStart (operand sty mode pl s e) = true :=
  headStart_operand_of (headStart_printToks sty mode e) pl s

theorem unary_operand {sty mode e} (he : Core sty mode e) (rest : List Tok)
    (hst : stops 8 rest = true) (hfo : followOk rest = true) :
    ∀ f, 1 + 4 * (operand sty mode 7 false e).length ≤ f →
      parseExpr false f 8 (operand sty mode 7 false e ++ rest) = .ok (e, rest) := by
  apply operand_core he 7 false 8 rest (e, rest) 1 (Nat.le_refl 1) hfo
  · intro hnp
    have h7 := needsParen_false_left (by omega) hnp
    refine ⟨fun hb => ?_, stops_mono hst (by omega)⟩
    have := isBin_level hb
    omega
  · exact loop_stop _ _ _ hst

theorem pre_not {sty mode e} (he : Core sty mode e) : Pre sty mode (.unary .not_ e) := by
  intro rest hst hfo f hf
  rw [printToks] at hf ⊢
  simp only [List.length_append, List.length_cons, List.length_nil] at hf
  obtain ⟨f', rfl⟩ : ∃ f', f = f' + 1 := ⟨f - 1, by omega⟩
  simp only [List.cons_append, List.nil_append]
  exact prefix_not _ _ _ _ (unary_operand he rest hst hfo f' (by omega))

theorem pre_neg {sty mode e} (he : Core sty mode e) : Pre sty mode (.unary .neg e) := by
  intro rest hst hfo f hf
  rw [printToks] at hf ⊢
  simp only [List.length_append, List.length_cons, List.length_nil] at hf
  obtain ⟨f', rfl⟩ : ∃ f', f = f' + 1 := ⟨f - 1, by omega⟩
  simp only [List.append_assoc, List.cons_append, List.nil_append]
  apply prefix_uminus
  rw [skipWs_start _ _ _ (headStart_operand ..)]
  exact unary_operand he rest hst hfo f' (by omega)


def ItemsP (sty : Style) (mode : Mode) (xs : Exprs) : Prop :=
  ∀ (acc : Exprs) (rest : List Tok) (f : Nat), 4 * (printArgs sty mode xs).length + 2 ≤ f →
    parseItems false f acc (printArgs sty mode xs ++ (ws? sty.insideParens ++ .rp :: rest))
      = .ok (appendExprs acc xs, rest)

theorem printArgs_cons2 (sty : Style) (mode : Mode) (a b : Expr) (t : Exprs) :
    printArgs sty mode (.cons a (.cons b t))
      = printToks sty mode a ++ (commaToks sty ++ printArgs sty mode (.cons b t)) := by
  simp [printArgs]

theorem headStart_printArgs (sty : Style) (mode : Mode) (b : Expr) (t : Exprs) :
    headStart (printArgs sty mode (.cons b t)) = true := by
  cases t with
  | nil => simpa [printArgs] using headStart_printToks sty mode b
  | cons c t' =>
    rw [printArgs_cons2]; exact headStart_append _ _ (headStart_printToks sty mode b)

def argsTail (sty : Style) (mode : Mode) : Exprs → List Tok
  | .nil => []
  | .cons b t => commaToks sty ++ printArgs sty mode (.cons b t)

theorem printArgs_cons (sty : Style) (mode : Mode) (a : Expr) : (t : Exprs) →
    printArgs sty mode (.cons a t) = printToks sty mode a ++ argsTail sty mode t
  | .nil => by simp only [printArgs, argsTail, List.append_nil]
  | .cons b t => printArgs_cons2 sty mode a b t

theorem length_argsTail (sty : Style) (mode : Mode) (b : Expr) (t : Exprs) :
    (argsTail sty mode (.cons b t)).length
      = (commaToks sty).length + (printArgs sty mode (.cons b t)).length := List.length_append

@[simp] theorem closer_argsTail (sty : Style) (mode : Mode) (t : Exprs) (b : Bool) (rest : List Tok) :
    closer (argsTail sty mode t ++ (ws? b ++ .rp :: rest)) = true := by
  cases t <;> simp [argsTail, commaToks]

theorem items_cons {sty mode a t} (ha : Core sty mode a) (ht : 1 ≤ t.length → ItemsP sty mode t) :
    ItemsP sty mode (.cons a t) := by
  intro acc rest f hf
  rw [printArgs_cons, List.length_append] at hf
  obtain ⟨f', rfl⟩ : ∃ f', f = f' + 1 := ⟨f - 1, by omega⟩
  rw [printArgs_cons, List.append_assoc]
  have h1 := core_zero ha _ (closer_argsTail sty mode t sty.insideParens rest) f' (by omega)
  cases t with
  | nil => exact items_last _ _ _ _ _ _ h1 (skipWs_ws _ _ rfl)
  | cons b t =>
    simp only [argsTail, commaToks, List.length_append, List.length_cons, List.length_nil] at hf
    simp only [argsTail, commaToks, List.append_assoc, List.cons_append, List.nil_append] at h1 ⊢
    rw [items_more _ _ _ _ _ _ h1 (skipWs_ws _ _ rfl), skipWs_start _ _ _ (headStart_printArgs ..)]
    exact ht (Nat.le_add_left 1 _) (acc.snoc a) rest f' (by omega)

/-- in front of `, b, …)` with the first item `a` read: the comma, no closing parenthesis behind it,
    and `parseItems` reads the rest — what `parseParen`, `parseListExpr` and `parseCallArgs` ask for -/
theorem tail_many {sty mode b t} (ht : ItemsP sty mode (.cons b t)) (a : Expr) (rest : List Tok)
    (f : Nat) (hf : 4 * (printArgs sty mode (.cons b t)).length + 2 ≤ f) :
    ∃ r', skipWs (argsTail sty mode (.cons b t) ++ (ws? sty.insideParens ++ .rp :: rest)) = .comma :: r' ∧
      notRpHead (skipWs r') = true ∧
      parseItems false f (.cons a .nil) (skipWs r') = .ok (.cons a (.cons b t), rest) := by
  refine ⟨ws? sty.afterComma ++ (printArgs sty mode (.cons b t) ++ (ws? sty.insideParens ++ .rp :: rest)),
    ?_, ?_, ?_⟩
  · simp only [argsTail, commaToks, List.append_assoc, List.cons_append, List.nil_append]
    exact skipWs_ws _ _ rfl
  · rw [skipWs_start _ _ _ (headStart_printArgs ..)]
    exact notRp_of_headStart _ (headStart_append _ _ (headStart_printArgs ..))
  · rw [skipWs_start _ _ _ (headStart_printArgs ..), ht (.cons a .nil) rest f hf, appendExprs_single]

def ListP (sty : Style) (mode : Mode) (xs : Exprs) : Prop :=
  ∀ (rest : List Tok) (f : Nat), 4 * (printList sty mode xs).length ≤ f →
    parseListExpr false f (printList sty mode xs ++ rest) = .ok (.list xs, rest)

theorem listP_one {sty mode a} (ha : Core sty mode a) : ListP sty mode (.cons a .nil) := by
  intro rest f hf
  simp only [printList, List.length_append, List.length_cons, List.length_nil] at hf
  obtain ⟨f', rfl⟩ : ∃ f', f = f' + 1 := ⟨f - 1, by omega⟩
  simp only [printList, List.append_assoc, List.cons_append, List.nil_append]
  apply listExpr_single (r1 := ws? sty.beforeComma ++ .comma :: (ws? sty.insideParens ++ .rp :: rest))
  · rw [skipWs_start _ _ _ (headStart_printToks ..)]
    exact core_zero ha _ (by simp) f' (by omega)
  · exact skipWs_ws _ _ rfl
  · exact skipWs_ws _ _ rfl

theorem listP_many {sty mode a b t} (ha : Core sty mode a) (ht : ItemsP sty mode (.cons b t)) :
    ListP sty mode (.cons a (.cons b t)) := by
  intro rest f hf
  simp only [printList, paren, printArgs_cons, List.length_append, List.length_cons, List.length_nil] at hf
  obtain ⟨f', rfl⟩ : ∃ f', f = f' + 1 := ⟨f - 1, by omega⟩
  have hl := length_argsTail sty mode b t
  obtain ⟨r', h2, h3, h4⟩ := tail_many ht a rest f' (by omega)
  simp only [printList, paren, printArgs_cons, List.append_assoc, List.cons_append, List.nil_append]
  exact listExpr_items _ _ _ _ _ _ _
    (by rw [skipWs_start _ _ _ (headStart_printToks ..)]
        exact core_zero ha _ (closer_argsTail ..) f' (by omega)) h2 h3 h4

theorem pre_list_one {sty mode a} (ha : Core sty mode a) : Pre sty mode (.list (.cons a .nil)) := by
  intro rest _ _ f hf
  simp only [printToks, printList, List.length_append, List.length_cons, List.length_nil] at hf
  obtain ⟨f', rfl⟩ : ∃ f', f = f' + 2 := ⟨f - 2, by omega⟩
  simp only [printToks, printList, List.append_assoc, List.cons_append, List.nil_append]
  rw [prefix_lp, skipWs_start _ _ _ (headStart_printToks ..)]
  exact paren_single _ _ _ _ _ _ (core_zero ha _ (by simp) f' (by omega)) (skipWs_ws _ _ rfl)
    (skipWs_ws _ _ rfl)

theorem pre_list_many {sty mode a b t} (ha : Core sty mode a) (ht : ItemsP sty mode (.cons b t)) :
    Pre sty mode (.list (.cons a (.cons b t))) := by
  intro rest _ _ f hf
  simp only [printToks, printList, paren, printArgs_cons, List.length_append, List.length_cons,
    List.length_nil] at hf
  obtain ⟨f', rfl⟩ : ∃ f', f = f' + 2 := ⟨f - 2, by omega⟩
  have hl := length_argsTail sty mode b t
  obtain ⟨r', h2, h3, h4⟩ := tail_many ht a rest f' (by omega)
  simp only [printToks, printList, paren, printArgs_cons, List.append_assoc, List.cons_append,
    List.nil_append]
  rw [prefix_lp, skipWs_start _ _ _ (headStart_printToks ..)]
  exact paren_items _ _ _ _ _ _ _ (core_zero ha _ (closer_argsTail ..) f' (by omega)) h2 h3 h4

theorem core_in {sty mode l xs} (hl : Core sty mode l) (hx : ListP sty mode xs) :
    Core sty mode (.compare .in_ l (.list xs)) := by
  intro m rest R N hN hm _ _ hloop f hf
  rw [printToks] at hf ⊢
  have hm8 : m ≤ 8 := hm rfl
  simp only [printToks, List.length_append, List.length_cons, List.length_nil] at hf
  simp only [printToks, List.append_assoc, List.cons_append, List.nil_append]
  apply operand_core hl 8 false m _ R (N + 4 * (printList sty mode xs).length + 1) (by omega) rfl
  · intro hnp
    have := needsParen_false_left (by omega) hnp
    refine ⟨fun _ => by omega, ?_⟩
    have h8 : CmpOp.in_.lvl < level l + 1 := by simp only [CmpOp.lvl]; omega
    simpa [stops] using h8
  · intro f hf
    obtain ⟨f', rfl⟩ : ∃ f', f = f' + 1 := ⟨f - 1, by omega⟩
    rw [loop_in _ _ _ _ _ _ hm8 (hx rest f' (by omega))]
    exact hloop f' (by omega)
  · omega


/-- a positional argument cannot look like the start of a named parameter (semantic argument: the
    parser would read `IDENT =` as the bare identifier) -/
theorem notNamed_of_core {sty mode a} (ha : Core sty mode a) (rest : List Tok) (hc : closer rest = true) :
    notNamedStart (printToks sty mode a ++ rest) = true := by
  unfold notNamedStart
  split
  · rename_i n r2 hts
    have h1 := core_zero ha rest hc (1 + 4 * (printToks sty mode a).length + 3) (by omega)
    rw [hts, parseExpr_step _ _ _ _ _ (by rw [prefix_path _ _ _ rfl]; exact path_end _ _ _ rfl),
      loop_stop _ _ _ rfl _ (by omega)] at h1
    injection h1 with h1
    injection h1 with _ h1
    rw [← h1] at hc
    cases hc
  · rfl

theorem notRp_ws (b : Bool) (X : List Tok) (h : headStart X = true) : notRpHead (ws? b ++ X) = true := by
  cases b
  · exact notRp_of_headStart _ h
  · rfl

theorem pre_call_nil {sty mode} (fn : Ident) (hc : callOk fn 0 = true) : Pre sty mode (.call fn .nil) := by
  intro rest _ hfo f hf
  simp only [printToks, List.length_cons, List.length_nil] at hf
  obtain ⟨f', rfl⟩ : ∃ f', f = f' + 1 := ⟨f - 1, by omega⟩
  simp only [printToks, List.cons_append, List.nil_append]
  rw [prefix_call_nil]
  exact finishCall_ok _ _ _ hfo (functionCall_of_callOk fn .nil hc)

theorem printToks_call (sty : Style) (mode : Mode) (fn : Ident) (a : Expr) : (t : Exprs) →
    printToks sty mode (.call fn (.cons a t)) = .ident fn :: paren sty (printArgs sty mode (.cons a t))
  | .nil => by simp only [printToks, printArgs, List.cons_append, List.nil_append]
  | .cons b t => by simp only [printToks, List.cons_append, List.nil_append]

theorem pre_call_pos {sty mode a t} (fn : Ident) (ha : Core sty mode a)
    (ht : 1 ≤ t.length → ItemsP sty mode t) (hc : callOk fn (Exprs.length (.cons a t)) = true) :
    Pre sty mode (.call fn (.cons a t)) := by
  intro rest _ hfo f hf
  rw [printToks_call, printArgs_cons] at hf ⊢
  simp only [paren, List.length_append, List.length_cons, List.length_nil] at hf
  obtain ⟨f', rfl⟩ : ∃ f', f = f' + 2 := ⟨f - 2, by omega⟩
  simp only [paren, List.append_assoc, List.cons_append, List.nil_append]
  have hcl := closer_argsTail sty mode t sty.insideParens rest
  have h1 := core_zero ha _ hcl f' (by omega)
  rw [prefix_call_args _ _ _ (notRp_ws _ _ (headStart_append _ _ (headStart_printToks ..))),
    skipWs_start _ _ _ (headStart_printToks ..)]
  cases t with
  | nil => rw [callArgs_single _ _ _ _ _ _ (notNamed_of_core ha _ hcl) h1 (skipWs_ws _ _ rfl)]
           exact finishCall_ok _ _ _ hfo (functionCall_of_callOk fn _ hc)
  | cons b t =>
    have hl := length_argsTail sty mode b t
    obtain ⟨r', h2, h3, h4⟩ := tail_many (ht (Nat.le_add_left 1 _)) a rest f' (by omega)
    rw [callArgs_items _ _ _ _ _ _ _ _ (notNamed_of_core ha _ hcl) h1 h2 h3 h4]
    exact finishCall_ok _ _ _ hfo (functionCall_of_callOk fn _ hc)


def NamedP (sty : Style) (mode : Mode) (xs : Exprs) : Prop :=
  ∀ (i : Ident) (acc : Exprs) (rest : List Tok), followOk rest = true →
    functionCall i (appendExprs acc xs) = .ok (.call i (appendExprs acc xs)) →
    ∀ f, 4 * (printArgs sty mode xs).length + 2 ≤ f →
      parseNamedRest false f i acc
        (commaToks sty ++ (printArgs sty mode xs ++ (ws? sty.insideParens ++ .rp :: rest)))
        = .ok (.call i (appendExprs acc xs), rest)

/-- behind a named parameter: the further ones behind their comma, or the closing parenthesis -/
theorem named_tail {sty mode t} (ht : t ≠ .nil → NamedP sty mode t) (i : Ident) (acc : Exprs)
    (rest : List Tok) (hfo : followOk rest = true)
    (hcall : functionCall i (appendExprs acc t) = .ok (.call i (appendExprs acc t)))
    (f : Nat) (hf : 4 * (argsTail sty mode t).length + 2 ≤ f) :
    parseNamedRest false f i acc (argsTail sty mode t ++ (ws? sty.insideParens ++ .rp :: rest))
      = .ok (.call i (appendExprs acc t), rest) := by
  cases t with
  | nil =>
    obtain ⟨f', rfl⟩ : ∃ f', f = f' + 1 := ⟨f - 1, by omega⟩
    rw [argsTail, List.nil_append, namedRest_end _ _ _ _ _ (skipWs_ws _ _ rfl)]
    exact finishCall_ok _ _ _ hfo hcall
  | cons b t =>
    rw [length_argsTail] at hf
    rw [argsTail, List.append_assoc]
    exact ht nofun i acc rest hfo hcall f (by omega)

theorem named_cons {sty mode e t} (n : Ident) (he : Core sty mode e)
    (ht : t ≠ .nil → NamedP sty mode t) : NamedP sty mode (.cons (.named n e) t) := by
  intro i acc rest hfo hcall f hf
  rw [printArgs_cons, printToks] at hf ⊢
  simp only [List.length_append, List.length_cons, List.length_nil] at hf
  obtain ⟨f', rfl⟩ : ∃ f', f = f' + 2 := ⟨f - 2, by omega⟩
  simp only [commaToks, List.append_assoc, List.cons_append, List.nil_append]
  rw [namedRest_more _ _ _ _ _ _ _ _ _ (skipWs_ws _ _ rfl) (skipWs_ws _ _ rfl)
    (core_zero he _ (closer_argsTail sty mode t sty.insideParens rest) (f'+1) (by omega))]
  exact named_tail ht i (acc.snoc (.named n e)) rest hfo hcall (f'+1) (by omega)

theorem pre_call_named {sty mode e t} (fn n : Ident) (he : Core sty mode e)
    (ht : t ≠ .nil → NamedP sty mode t)
    (hc : callOk fn (Exprs.length (.cons (.named n e) t)) = true) :
    Pre sty mode (.call fn (.cons (.named n e) t)) := by
  intro rest _ hfo f hf
  rw [printToks_call, printArgs_cons, printToks] at hf ⊢
  simp only [paren, List.length_append, List.length_cons, List.length_nil] at hf
  obtain ⟨f', rfl⟩ : ∃ f', f = f' + 3 := ⟨f - 3, by omega⟩
  simp only [paren, List.append_assoc, List.cons_append, List.nil_append]
  rw [prefix_call_args _ _ _ (notRp_ws _ _ rfl), skipWs_ws _ _ rfl,
    callArgs_named _ _ _ _ _ _
      (core_zero he _ (closer_argsTail sty mode t sty.insideParens rest) (f'+1) (by omega))]
  have := named_tail ht fn (.cons (.named n e) .nil) rest hfo
    (by rw [appendExprs_single]; exact functionCall_of_callOk fn _ hc) (f'+1) (by omega)
  rwa [appendExprs_single] at this


theorem pre_coll_none {sty mode} (ow : Expr) (how : pathOk ow = true) :
    Pre sty mode (.coll ow .any .none) := by
  intro rest _ _ f hf
  rw [printToks] at hf ⊢
  simp only [List.length_append, List.length_cons, List.length_nil] at hf
  simp only [if_true, List.append_assoc, List.cons_append, List.nil_append]
  exact path_then (some (.any, .none)) ow how _ rest 1 rfl
    (fun j f hf => by
      obtain ⟨f', rfl⟩ : ∃ f', f = f' + 1 := ⟨f - 1, by omega⟩
      exact path_any_none _ _ _ _ (skipWs_ws sty.insideParens (.rp :: rest) rfl)) f (by omega)

theorem lambda_ok {sty mode b} (hb : Core sty mode b) (v : Ident) (rest : List Tok) :
    ∀ f, 2 + 4 * (printToks sty mode b).length ≤ f →
      parseLambda false f (.ident v :: (ws? sty.beforeColon ++ .colon :: (ws? sty.afterColon ++
        (printToks sty mode b ++ (ws? sty.insideParens ++ .rp :: rest)))))
      = .ok (.some v b, ws? sty.insideParens ++ .rp :: rest) := by
  intro f hf
  obtain ⟨f', rfl⟩ : ∃ f', f = f' + 1 := ⟨f - 1, by omega⟩
  apply lambda_step _ _ _ _ _ _ (skipWs_ws _ _ rfl)
  rw [skipWs_start _ _ _ (headStart_printToks ..)]
  exact core_zero hb _ (by simp) f' (by omega)

theorem pre_coll_some {sty mode b} (ow : Expr) (op : CollOp) (v : Ident) (how : pathOk ow = true)
    (hb : Core sty mode b) : Pre sty mode (.coll ow op (.some v b)) := by
  intro rest _ _ f hf
  rw [printToks] at hf ⊢
  simp only [paren, List.length_append, List.length_cons, List.length_nil] at hf
  simp only [paren, List.append_assoc, List.cons_append, List.nil_append]
  refine path_then (some (op, .some v b)) ow how _ rest (3 + 4 * (printToks sty mode b).length) rfl
    (fun j f hf => ?_) f (by omega)
  obtain ⟨f', rfl⟩ : ∃ f', f = f' + 1 := ⟨f - 1, by omega⟩
  have hl := lambda_ok hb v rest f' (by omega)
  cases op with
  | any =>
    simp only [if_true]
    refine path_any_lam _ _ _ _ _ _ ?_ ?_ (skipWs_ws sty.insideParens (.rp :: rest) rfl)
    · rw [skipWs_ws _ _ rfl]; rfl
    · rw [skipWs_ws _ _ rfl]; exact hl
  | all =>
    simp only [reduceCtorEq, if_false]
    refine path_all_lam _ _ _ _ _ _ ?_ (skipWs_ws sty.insideParens (.rp :: rest) rfl)
    rw [skipWs_ws _ _ rfl]; exact hl


/-- what the recursion provides for a call argument that is a named parameter -/
def PayloadCore (sty : Style) (mode : Mode) : Expr → Prop
  | .named _ e => printable e = true → Core sty mode e
  | _ => True

theorem _root_.OQ.C13.printable_compare {o : CmpOp} {l r : Expr} (h : printable (.compare o l r) = true) :
    printable l = true ∧ printable r = true := by
  cases o with
  | in_ =>
    cases r with
    | list xs => exact Bool.and_eq_true_iff.1 h
    | _ => cases (Bool.and_eq_true_iff.1 h).2
  | _ => exact Bool.and_eq_true_iff.1 h

theorem _root_.OQ.Spec.printableNamed_cons {n : Ident} {e : Expr} {t : Exprs}
    (h : printableNamed (.cons (.named n e) t) = true) :
    printable e = true ∧ (t ≠ .nil → printableNamed t = true) := by
  cases t with
  | nil => exact ⟨h, fun hne => absurd rfl hne⟩
  | cons b t => exact ⟨(Bool.and_eq_true_iff.1 h).1, fun _ => (Bool.and_eq_true_iff.1 h).2⟩

theorem named_any {sty mode} (a : Expr) (t : Exprs) (hp : PayloadCore sty mode a)
    (ht : printableNamed t = true → NamedP sty mode t) (h : printableNamed (.cons a t) = true) :
    NamedP sty mode (.cons a t) := by
  cases a with
  | named n e =>
    have h' := printableNamed_cons h
    exact named_cons n (hp h'.1) (fun hne => ht (h'.2 hne))
  | _ => cases h

theorem call_any {sty mode} (fn : Ident) (a : Expr) (t : Exprs)
    (hpos : printable a = true → Core sty mode a) (hp : PayloadCore sty mode a)
    (hitems : printableArgs t = true → 1 ≤ t.length → ItemsP sty mode t)
    (hnamed : printableNamed t = true → NamedP sty mode t)
    (h : printable (.call fn (.cons a t)) = true) : Core sty mode (.call fn (.cons a t)) := by
  obtain ⟨hc, h⟩ := Bool.and_eq_true_iff.mp h
  rcases Bool.or_eq_true_iff.mp h with h | h
  · have h' := Bool.and_eq_true_iff.mp h
    exact core_of_pre (pre_call_pos fn (hpos h'.1) (hitems h'.2) hc)
  · cases a with
    | named n e =>
      have h' := printableNamed_cons h
      exact core_of_pre (pre_call_named fn n (hp h'.1) (fun hne => hnamed (h'.2 hne)) hc)
    | _ => cases h

variable (sty : Style) (mode : Mode)

mutual
theorem core : (e : Expr) → printable e = true → Core sty mode e
  | .ident i, _ => core_of_pre (pre_path _ rfl)
  | .attr o n, h => core_of_pre (pre_path _ h)
  | .lit k v, _ => core_of_pre (pre_lit k v)
  | .list .nil, h => by cases h
  | .list (.cons a .nil), h =>
      have h' := Bool.and_eq_true_iff.mp (Bool.and_eq_true_iff.mp h).2
      core_of_pre (pre_list_one (core a h'.1))
  | .list (.cons a (.cons b t)), h =>
      have h' := Bool.and_eq_true_iff.mp (Bool.and_eq_true_iff.mp h).2
      core_of_pre (pre_list_many (core a h'.1) (coreItems (.cons b t) h'.2 (Nat.le_add_left 1 _)))
  | .binop o l r, h =>
      have h' := Bool.and_eq_true_iff.mp h
      core_binop o l r (core l h'.1) (core r h'.2)
  | .boolop o l r, h =>
      have h' := Bool.and_eq_true_iff.mp h
      core_boolop o l r (core l h'.1) (core r h'.2)
  | .compare .eq l r, h | .compare .ne l r, h | .compare .lt l r, h | .compare .le l r, h
  | .compare .gt l r, h | .compare .ge l r, h =>
      have h' := Bool.and_eq_true_iff.mp h
      core_compare _ (by decide) l r (core l h'.1) (core r h'.2)
  | .compare .in_ l (.list xs), h =>
      have h' := Bool.and_eq_true_iff.mp h
      have hx := Bool.and_eq_true_iff.mp h'.2
      core_in (core l h'.1) (coreList xs hx.2 (of_decide_eq_true hx.1))
  | .compare .in_ _ (.ident _), h | .compare .in_ _ (.attr _ _), h | .compare .in_ _ (.lit _ _), h
  | .compare .in_ _ (.binop _ _ _), h | .compare .in_ _ (.compare _ _ _), h
  | .compare .in_ _ (.boolop _ _ _), h | .compare .in_ _ (.unary _ _), h | .compare .in_ _ (.named _ _), h
  | .compare .in_ _ (.call _ _), h | .compare .in_ _ (.coll _ _ _), h => by
      cases (Bool.and_eq_true_iff.mp h).2
  | .unary .not_ e, h => core_of_pre (pre_not (core e h))
  | .unary .neg e, h => core_of_pre (pre_neg (core e h))
  | .named _ _, h => by cases h
  | .call fn .nil, h =>
      core_of_pre (pre_call_nil fn (Bool.and_eq_true_iff.mp h).1)
  | .call fn (.cons a t), h =>
      call_any fn a t (fun hp => core a hp) (corePayload a) (fun h1 h2 => coreItems t h1 h2)
        (fun h1 => coreNamed t h1) h
  | .coll ow .any .none, h => core_of_pre (pre_coll_none ow (Bool.and_eq_true_iff.mp h).1)
  | .coll ow .all .none, h => by cases (Bool.and_eq_true_iff.mp h).2
  | .coll ow op (.some v b), h =>
      have h' := Bool.and_eq_true_iff.mp h
      core_of_pre (pre_coll_some ow op v h'.1 (core b h'.2))
theorem corePayload : (a : Expr) → PayloadCore sty mode a
  | .named _ e => fun hp => core e hp
  | .ident _ | .attr _ _ | .lit _ _ | .list _ | .binop _ _ _ | .compare _ _ _ | .boolop _ _ _
  | .unary _ _ | .call _ _ | .coll _ _ _ => trivial
theorem coreItems : (xs : Exprs) → printableArgs xs = true → 1 ≤ xs.length → ItemsP sty mode xs
  | .nil, _, h => by cases h
  | .cons a t, h, _ =>
      have h' := Bool.and_eq_true_iff.mp h
      items_cons (core a h'.1) (coreItems t h'.2)
theorem coreList : (xs : Exprs) → printableArgs xs = true → 1 ≤ xs.length → ListP sty mode xs
  | .nil, _, h => by cases h
  | .cons a .nil, h, _ => listP_one (core a (Bool.and_eq_true_iff.mp h).1)
  | .cons a (.cons b t), h, _ =>
      have h' := Bool.and_eq_true_iff.mp h
      listP_many (core a h'.1) (coreItems (.cons b t) h'.2 (Nat.le_add_left 1 _))
theorem coreNamed : (xs : Exprs) → printableNamed xs = true → NamedP sty mode xs
  | .nil, h => by cases h
  | .cons a t, h => named_any a t (corePayload a) (fun h1 => coreNamed t h1) h
end

theorem parseExpr_printToks (e : Expr) (h : printable e = true) (f : Nat)
    (hf : parseFuel (printToks sty mode e) ≤ f) :
    parseExpr false f 0 (printToks sty mode e) = .ok (e, []) := by
  have hc := core sty mode e h 0 [] (e, []) 1 (Nat.le_refl 1) (fun _ => Nat.zero_le _) rfl rfl
    (loop_stop _ _ _ rfl) f (by simp only [parseFuel] at hf; omega)
  rwa [List.append_nil] at hc


end OQ.Pratt
