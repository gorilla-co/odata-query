/- For Props/C04.lean: relation paths over a schema. Django's reversed path relates the same pairs of rows as the forward one, and
   along a to-one path `navTo` finds what `rowsVia` does, given that the referenced keys are unique (`IdsOk`, `KeysOk`). -/
import ODataVerif.Model.OrmRel
import ODataVerif.Spec.OrmRelSem
namespace OQ.RelSound
open Spec

theorem rel_some {sch : Schema} {t n : Str} {rel : RelDef} (h : sch.rel t n = some rel) :
    rel ∈ sch ∧ rel.src = t ∧ rel.name = n := by
  unfold Schema.rel at h
  have h1 := List.mem_of_find?_eq_some h
  have h2 := List.find?_some h
  simp at h2
  exact ⟨h1, h2.1, h2.2⟩

theorem mem_related_toOne {db : DB} {rel : RelDef} {r : Row} {fk key : Str} (hk : rel.kind = .toOne fk key) (x : Row) :
    x ∈ relatedRows db rel r ↔ ∃ k, r.int fk = some k ∧ x ∈ db.table rel.dst ∧ x.int key = some k := by
  unfold relatedRows
  rw [hk]
  cases h : r.int fk <;> simp [h]

theorem mem_related_toMany {db : DB} {rel : RelDef} {r : Row} {cfk key : Str} (hk : rel.kind = .toMany cfk key) (x : Row) :
    x ∈ relatedRows db rel r ↔ ∃ k, r.int key = some k ∧ x ∈ db.table rel.dst ∧ x.int cfk = some k := by
  unfold relatedRows
  rw [hk]
  cases h : r.int key <;> simp [h]

theorem mem_related_m2m {db : DB} {rel : RelDef} {r : Row} {link sc dc : Str} (hk : rel.kind = .m2m link sc dc) (x : Row) :
    x ∈ relatedRows db rel r ↔ ∃ k i, idOf r = some k ∧ x ∈ db.table rel.dst ∧ idOf x = some i ∧
      ∃ l, l ∈ db.table link ∧ l.int sc = some k ∧ l.int dc = some i := by
  unfold relatedRows
  rw [hk]
  cases h : idOf r with
  | none => simp
  | some k =>
    simp only [List.mem_filter]
    cases hx : idOf x with
    | none => simp
    | some i =>
      simp
      intro _
      constructor
      · rintro ⟨l, ⟨h1, h2⟩, h3⟩; exact ⟨l, h1, h2, h3⟩
      · rintro ⟨l, h1, h2, h3⟩; exact ⟨l, ⟨h1, h2⟩, h3⟩

theorem related_sub {db : DB} {rel : RelDef} {r x : Row} (h : x ∈ relatedRows db rel r) : x ∈ db.table rel.dst := by
  cases hk : rel.kind with
  | toOne fk key => rw [mem_related_toOne hk] at h; obtain ⟨_, _, h, _⟩ := h; exact h
  | toMany fk key => rw [mem_related_toMany hk] at h; obtain ⟨_, _, h, _⟩ := h; exact h
  | m2m l s d => rw [mem_related_m2m hk] at h; obtain ⟨_, _, _, h, _⟩ := h; exact h

theorem inverseOf_some {sch : Schema} {rel inv : RelDef} (h : inverseOf sch rel = some inv) :
    inv ∈ sch ∧ inv.src = rel.dst ∧ inv.dst = rel.src ∧
    (match rel.kind, inv.kind with
     | .toOne fk key, .toMany cfk key' => fk = cfk ∧ key = key'
     | .toMany cfk key', .toOne fk key => fk = cfk ∧ key = key'
     | .m2m l s d, .m2m l' s' d' => l = l' ∧ s = d' ∧ d = s'
     | _, _ => False) := by
  unfold inverseOf at h
  have h1 := List.mem_of_find?_eq_some h
  have h2 := List.find?_some h
  simp only [Bool.and_eq_true, beq_iff_eq] at h2
  refine ⟨h1, h2.1.1, h2.1.2, ?_⟩
  have h3 := h2.2
  cases hk : rel.kind <;> cases hk' : inv.kind <;> simp [hk, hk'] at h3 ⊢ <;> simp [h3]

theorem related_symm {sch : Schema} {db : DB} {rel inv : RelDef} (hi : inverseOf sch rel = some inv) (r y : Row)
    (hr : r ∈ db.table rel.src) (hy : y ∈ db.table rel.dst) :
    y ∈ relatedRows db rel r ↔ r ∈ relatedRows db inv y := by
  obtain ⟨_, hsrc, hdst, hk⟩ := inverseOf_some hi
  cases hk1 : rel.kind with
  | toOne fk key =>
    cases hk2 : inv.kind with
    | toMany cfk key' =>
      rw [hk1, hk2] at hk; simp at hk; obtain ⟨rfl, rfl⟩ := hk
      rw [mem_related_toOne hk1, mem_related_toMany hk2, hdst]
      constructor
      · rintro ⟨k, h1, _, h3⟩; exact ⟨k, h3, hr, h1⟩
      · rintro ⟨k, h1, _, h3⟩; exact ⟨k, h3, hy, h1⟩
    | _ => rw [hk1, hk2] at hk; simp at hk
  | toMany cfk key' =>
    cases hk2 : inv.kind with
    | toOne fk key =>
      rw [hk1, hk2] at hk; simp at hk; obtain ⟨rfl, rfl⟩ := hk
      rw [mem_related_toMany hk1, mem_related_toOne hk2, hdst]
      constructor
      · rintro ⟨k, h1, _, h3⟩; exact ⟨k, h3, hr, h1⟩
      · rintro ⟨k, h1, _, h3⟩; exact ⟨k, h3, hy, h1⟩
    | _ => rw [hk1, hk2] at hk; simp at hk
  | m2m l s d =>
    cases hk2 : inv.kind with
    | m2m l' s' d' =>
      rw [hk1, hk2] at hk; simp at hk; obtain ⟨rfl, rfl, rfl⟩ := hk
      rw [mem_related_m2m hk1, mem_related_m2m hk2, hdst]
      constructor
      · rintro ⟨k, i, h1, _, h3, x, hx, hx1, hx2⟩; exact ⟨i, k, h3, hr, h1, x, hx, hx2, hx1⟩
      · rintro ⟨k, i, h1, _, h3, x, hx, hx1, hx2⟩; exact ⟨i, k, h3, hy, h1, x, hx, hx2, hx1⟩
    | _ => rw [hk1, hk2] at hk; simp at hk


/-- the table a relation path leads to -/
def tblVia (sch : Schema) : Str → List Str → Option Str
  | t, [] => some t
  | t, s :: rest =>
      match sch.rel t s with
      | some rel => tblVia sch rel.dst rest
      | none => none

theorem tblVia_append (sch : Schema) (t : Str) (p q : List Str) :
    tblVia sch t (p ++ q) = (tblVia sch t p).bind (fun t' => tblVia sch t' q) := by
  induction p generalizing t with
  | nil => simp [tblVia]
  | cons s rest ih =>
    simp only [List.cons_append, tblVia]
    cases sch.rel t s with
    | none => simp
    | some rel => simp [ih]

theorem rowsVia_append (sch : Schema) (db : DB) (t t' : Str) (c : Row) (p q : List Str) (h : tblVia sch t p = some t') :
    rowsVia sch db t c (p ++ q) = (rowsVia sch db t c p).flatMap (fun x => rowsVia sch db t' x q) := by
  induction p generalizing t c with
  | nil => simp [tblVia] at h; subst h; simp [rowsVia]
  | cons s rest ih =>
    simp only [List.cons_append, rowsVia]
    simp only [tblVia] at h
    cases hr : sch.rel t s with
    | none => simp [hr] at h
    | some rel =>
      simp only [hr] at h
      simp only [List.flatMap_assoc]
      congr 1
      funext x
      exact ih rel.dst x h

theorem rowsVia_single (sch : Schema) (db : DB) (t n : Str) (c : Row) (rel : RelDef) (h : sch.rel t n = some rel) :
    rowsVia sch db t c [n] = relatedRows db rel c := by
  simp [rowsVia, h]

theorem rowsVia_sub (sch : Schema) (db : DB) (t t' : Str) (c x : Row) (p : List Str) (h : tblVia sch t p = some t')
    (hc : c ∈ db.table t) (hx : x ∈ rowsVia sch db t c p) : x ∈ db.table t' := by
  induction p generalizing t c with
  | nil => simp [tblVia] at h; subst h; simp [rowsVia] at hx; subst hx; exact hc
  | cons s rest ih =>
    simp only [tblVia] at h
    simp only [rowsVia] at hx
    cases hr : sch.rel t s with
    | none => simp [hr] at h
    | some rel =>
      simp only [hr] at h hx
      rw [List.mem_flatMap] at hx
      obtain ⟨y, hy, hx⟩ := hx
      exact ih rel.dst y h (related_sub hy) hx

theorem reachesBack_eq (sch : Schema) (db : DB) (t : Str) (c : Row) (p : List Str) (pk : Int) :
    reachesBack sch db t c p pk = (rowsVia sch db t c p).any (fun x => idOf x == some pk) := by
  induction p generalizing t c with
  | nil => simp [reachesBack, rowsVia]
  | cons s rest ih =>
    simp only [reachesBack, rowsVia]
    cases hr : sch.rel t s with
    | none => simp
    | some rel =>
      simp only [List.any_flatMap]
      congr 1
      funext x
      exact ih rel.dst x

/-- schema hypothesis in propositional form: a relation is found under its own (source, name) -/
def SchOk (sch : Schema) : Prop := ∀ r, r ∈ sch → sch.rel r.src r.name = some r

theorem reverse_tbl (sch : Schema) (hs : SchOk sch) (root : Str) (segs back : List Str) (child : Str)
    (h : reverseRelationship sch root segs = some (back, child)) :
    tblVia sch root segs = some child ∧ tblVia sch child back = some root := by
  induction segs generalizing root back with
  | nil => simp [reverseRelationship] at h; obtain ⟨rfl, rfl⟩ := h; simp [tblVia]
  | cons s rest ih =>
    simp only [reverseRelationship] at h
    cases hr : sch.rel root s with
    | none => simp [hr] at h
    | some rel =>
      simp only [hr] at h
      cases hi : inverseOf sch rel with
      | none => simp [hi] at h
      | some inv =>
        cases hrec : reverseRelationship sch rel.dst rest with
        | none => simp [hi, hrec] at h
        | some bf =>
          obtain ⟨back', final⟩ := bf
          simp [hi, hrec] at h
          obtain ⟨rfl, rfl⟩ := h
          obtain ⟨h1, h2⟩ := ih rel.dst back' hrec
          obtain ⟨hm, hsrc, hdst, _⟩ := inverseOf_some hi
          obtain ⟨_, hrs, _⟩ := rel_some hr
          refine ⟨by simp [tblVia, hr, h1], ?_⟩
          rw [tblVia_append, h2]
          have := hs inv hm
          rw [hsrc] at this
          simp [tblVia, this, hdst, hrs]

/-- the forward path and Django's back path relate the same pairs of rows -/
theorem reverse_symm (sch : Schema) (db : DB) (hs : SchOk sch) (root : Str) (segs back : List Str) (child : Str)
    (h : reverseRelationship sch root segs = some (back, child)) (r c : Row)
    (hr : r ∈ db.table root) (hc : c ∈ db.table child) :
    c ∈ rowsVia sch db root r segs ↔ r ∈ rowsVia sch db child c back := by
  induction segs generalizing root back r with
  | nil =>
    simp [reverseRelationship] at h; obtain ⟨rfl, rfl⟩ := h
    simp [rowsVia, eq_comm]
  | cons s rest ih =>
    simp only [reverseRelationship] at h
    cases hrel : sch.rel root s with
    | none => simp [hrel] at h
    | some rel =>
      simp only [hrel] at h
      cases hi : inverseOf sch rel with
      | none => simp [hi] at h
      | some inv =>
        cases hrec : reverseRelationship sch rel.dst rest with
        | none => simp [hi, hrec] at h
        | some bf =>
          obtain ⟨back', final⟩ := bf
          simp [hi, hrec] at h
          obtain ⟨rfl, rfl⟩ := h
          obtain ⟨h1, h2⟩ := reverse_tbl sch hs rel.dst rest back' final hrec
          obtain ⟨hm, hsrc, hdst, _⟩ := inverseOf_some hi
          obtain ⟨_, hrs, _⟩ := rel_some hrel
          have hinv : sch.rel rel.dst inv.name = some inv := by
            have := hs inv hm
            rwa [hsrc] at this
          have e1 : rowsVia sch db root r (s :: rest) =
              (relatedRows db rel r).flatMap (fun r' => rowsVia sch db rel.dst r' rest) := by
            simp only [rowsVia, hrel]
          rw [rowsVia_append sch db final rel.dst c back' [inv.name] h2, e1]
          simp only [rowsVia_single sch db rel.dst inv.name _ inv hinv, List.mem_flatMap]
          constructor
          · rintro ⟨y, hy, hcy⟩
            have hyt := related_sub hy
            refine ⟨y, (ih rel.dst back' hrec y hyt).1 hcy, ?_⟩
            exact (related_symm hi r y (hrs ▸ hr) hyt).1 hy
          · rintro ⟨y, hy, hry⟩
            have hyt := rowsVia_sub sch db final rel.dst c y back' h2 hc hy
            exact ⟨y, (related_symm hi r y (hrs ▸ hr) hyt).2 hry, (ih rel.dst back' hrec y hyt).2 hy⟩


/-- database hypothesis in propositional form: every row has an id, ids are unique within a table (Django identifies the
    outer row of a correlated sub-query by `OuterRef("pk")`, whatever key the relations reference) -/
structure IdsOk (db : DB) : Prop where
  hasId : ∀ t r, r ∈ db.table t → ∃ k, idOf r = some k
  uniq : ∀ t k, ((db.table t).filter (fun x => idOf x == some k)).length ≤ 1

theorem eq_of_length_le_one {α} {l : List α} (h : l.length ≤ 1) {a b : α} (ha : a ∈ l) (hb : b ∈ l) : a = b := by
  match l, h with
  | [], _ => simp at ha
  | [x], _ => simp at ha hb; rw [ha, hb]
  | _ :: _ :: _, h => simp at h

theorem ids_uniq {db : DB} (h : IdsOk db) {t : Str} {r r' : Row} (hr : r ∈ db.table t) (hr' : r' ∈ db.table t)
    (he : idOf r = idOf r') : r = r' := by
  obtain ⟨k, hk⟩ := h.hasId t r hr
  apply eq_of_length_le_one (h.uniq t k)
  · simp [hr, hk]
  · simp [hr', ← he, hk]

theorem reverse_reaches' (sch : Schema) (db : DB) (hs : SchOk sch) (hd : IdsOk db)
    (root : Str) (segs back : List Str) (child : Str) (h : reverseRelationship sch root segs = some (back, child))
    (r c : Row) (pk : Int) (hr : r ∈ db.table root) (hc : c ∈ db.table child) (hpk : idOf r = some pk) :
    reachesBack sch db child c back pk = (rowsVia sch db root r segs).contains c := by
  rw [reachesBack_eq, Bool.eq_iff_iff, List.contains_iff_mem, reverse_symm sch db hs root segs back child h r c hr hc,
    List.any_eq_true]
  obtain ⟨_, h2⟩ := reverse_tbl sch hs root segs back child h
  constructor
  · rintro ⟨x, hx, hid⟩
    have hxt := rowsVia_sub sch db child root c x back h2 hc hx
    have : x = r := ids_uniq hd hxt hr (by rw [hpk]; simpa using hid)
    rwa [← this]
  · intro hx
    exact ⟨r, hx, by simp [hpk]⟩

/-- the table a TO-ONE path leads to -/
def toOneVia (sch : Schema) : Str → List Str → Option Str
  | t, [] => some t
  | t, s :: rest =>
      match sch.rel t s with
      | some rel =>
          (match rel.kind with
           | .toOne _ _ => toOneVia sch rel.dst rest
           | _ => none)
      | none => none

theorem navTo_fst (sch : Schema) (db : DB) (t : Str) (ro : Option Row) (p : List Str) :
    (navTo sch db t ro p).map Prod.fst = toOneVia sch t p := by
  induction p generalizing t ro with
  | nil => simp [navTo, toOneVia]
  | cons s rest ih =>
    simp only [navTo, toOneVia]
    cases sch.rel t s with
    | none => simp
    | some rel =>
      simp only
      cases rel.kind with
      | toOne fk key => simp only; exact ih _ _
      | toMany _ _ => simp
      | m2m _ _ _ => simp

theorem toOneVia_tblVia (sch : Schema) (t t' : Str) (p : List Str) (h : toOneVia sch t p = some t') :
    tblVia sch t p = some t' := by
  induction p generalizing t with
  | nil => simpa [toOneVia, tblVia] using h
  | cons s rest ih =>
    simp only [toOneVia] at h
    simp only [tblVia]
    cases hr : sch.rel t s with
    | none => simp [hr] at h
    | some rel =>
      simp only [hr] at h
      cases hk : rel.kind with
      | toOne fk key => simp only [hk] at h; exact ih _ h
      | toMany _ _ => simp [hk] at h
      | m2m _ _ _ => simp [hk] at h

theorem navTo_none (sch : Schema) (db : DB) (t t' : Str) (p : List Str) (row : Option Row)
    (h : navTo sch db t none p = some (t', row)) : row = none := by
  induction p generalizing t with
  | nil => simp [navTo] at h; exact h.2.symm
  | cons s rest ih =>
    simp only [navTo] at h
    cases hr : sch.rel t s with
    | none => simp [hr] at h
    | some rel =>
      simp only [hr] at h
      cases hk : rel.kind with
      | toOne fk key => simp only [hk] at h; exact ih _ h
      | toMany _ _ => simp [hk] at h
      | m2m _ _ _ => simp [hk] at h

/-- key hypothesis in propositional form: the key a to-one relation references (the primary key "id" or a natural key) is
    unique among the rows of the target table that have it (rows whose key is NULL are related to nothing) -/
def KeysOk (sch : Schema) (db : DB) : Prop :=
  ∀ rel fk key, rel ∈ sch → rel.kind = .toOne fk key → ∀ k,
    ((db.table rel.dst).filter (fun x => x.int key == some k)).length ≤ 1

theorem related_toOne_le {sch : Schema} {db : DB} (hu : KeysOk sch db) {rel : RelDef} (hm : rel ∈ sch) {fk key : Str}
    (hk : rel.kind = .toOne fk key) (r : Row) :
    (relatedRows db rel r).length ≤ 1 := by
  simp only [relatedRows, hk]
  split
  · exact hu rel fk key hm hk _
  · simp

theorem eq_head?_toList {α} {l : List α} (h : l.length ≤ 1) : l = l.head?.toList := by
  match l, h with
  | [], _ => rfl
  | [x], _ => rfl
  | _ :: _ :: _, h => simp at h

/-- along a to-one path the rows reached are the row `navTo` finds (or none) — THE place where uniqueness of the referenced
    keys is used: `navTo` takes the first related row, `rowsVia` all of them -/
theorem navTo_rowsVia (sch : Schema) (db : DB) (hu : KeysOk sch db) (t t' : Str) (r : Row) (p : List Str) (row : Option Row)
    (h : navTo sch db t (some r) p = some (t', row)) : rowsVia sch db t r p = row.toList := by
  induction p generalizing t r with
  | nil => simp [navTo] at h; simp [rowsVia, ← h.2]
  | cons s rest ih =>
    simp only [navTo] at h
    simp only [rowsVia]
    cases hr : sch.rel t s with
    | none => simp [hr] at h
    | some rel =>
      simp only [hr] at h ⊢
      cases hk : rel.kind with
      | toOne fk key =>
        simp only [hk] at h
        rw [eq_head?_toList (related_toOne_le hu (rel_some hr).1 hk r)]
        cases hh : (relatedRows db rel r).head? with
        | none =>
          rw [hh] at h
          simp [navTo_none sch db _ _ _ _ h]
        | some y =>
          rw [hh] at h
          simp [ih _ _ h]
      | toMany _ _ => simp [hk] at h
      | m2m _ _ _ => simp [hk] at h

theorem collRows_rows (sch : Schema) (db : DB) (hu : KeysOk sch db) (t tm : Str) (r : Row) (path : List Str) (coll : Str)
    (row : Option Row) (rel : RelDef) (hn : navTo sch db t (some r) path = some (tm, row)) (hr : sch.rel tm coll = some rel)
    (h2 : tblVia sch t path = some tm) :
    row.elim [] (relatedRows db rel) = rowsVia sch db t r (path ++ [coll]) := by
  rw [rowsVia_append sch db t tm r path [coll] h2, navTo_rowsVia sch db hu t tm r path row hn]
  cases row <;> simp [rowsVia_single sch db tm coll _ rel hr]

theorem collRows_some (sch : Schema) (db : DB) (hu : KeysOk sch db) (t t' : Str) (r : Row) (path : List Str) (coll : Str)
    (rows : List Row) (h : collRows sch db t r path coll = some (t', rows)) :
    ∃ tm rel, toOneVia sch t path = some tm ∧ sch.rel tm coll = some rel ∧ t' = rel.dst ∧
      rows = rowsVia sch db t r (path ++ [coll]) ∧ tblVia sch t (path ++ [coll]) = some t' := by
  unfold collRows at h
  cases hn : navTo sch db t (some r) path with
  | none => simp [hn] at h
  | some p =>
    obtain ⟨tm, row⟩ := p
    simp only [hn] at h
    have h1 : toOneVia sch t path = some tm := by rw [← navTo_fst sch db t (some r) path, hn]; rfl
    cases hr : sch.rel tm coll with
    | none => simp [hr] at h
    | some rel =>
      simp only [hr] at h
      have h2 := toOneVia_tblVia sch t tm path h1
      have hrows := collRows_rows sch db hu t tm r path coll row rel hn hr h2
      have h3 : tblVia sch t (path ++ [coll]) = some rel.dst := by
        rw [tblVia_append, h2]; simp [tblVia, hr]
      have key : some (rel.dst, row.elim [] (relatedRows db rel)) = some (t', rows) →
          ∃ tm rel, toOneVia sch t path = some tm ∧ sch.rel tm coll = some rel ∧ t' = rel.dst ∧
            rows = rowsVia sch db t r (path ++ [coll]) ∧ tblVia sch t (path ++ [coll]) = some t' := by
        intro he
        simp only [Option.some.injEq, Prod.mk.injEq] at he
        exact ⟨tm, rel, h1, hr, he.1.symm, by rw [← he.2, hrows], he.1 ▸ h3⟩
      cases hk : rel.kind with
      | toOne fk key => simp [hk] at h
      | toMany _ _ =>
        simp only [hk] at h
        apply key
        cases row <;> exact h
      | m2m _ _ _ =>
        simp only [hk] at h
        apply key
        cases row <;> exact h

/-- the expressions both visitors (and the specification) treat as scalar leaves -/
def isLeafShape : Expr → Bool
  | .boolop _ _ _ => false
  | .unary .not_ _ => false
  | .coll _ _ _ => false
  | _ => true

theorem djPlan_leaf (sch : Schema) (kindOf : Str → Option ColK) (fuel : Nat) (root : Str) (e : Expr) (h : isLeafShape e = true) :
    djPlan sch kindOf (fuel + 1) root e =
      match relLeaf kindOf none e with
      | some b => pure (.leaf b)
      | none => .error .unsupported := by
  cases e with
  | boolop => cases h
  | coll => cases h
  | unary o x =>
    cases o with
    | not_ => cases h
    | neg => rfl
  | _ => rfl

theorem saPlanAux_leaf (sch : Schema) (kindOf : Str → Option ColK) (fuel : Nat) (root : Str) (e : Expr) (h : isLeafShape e = true) :
    saPlanAux sch kindOf (fuel + 1) root e =
      match relLeaf kindOf none e with
      | some b => pure (leafJoins b, .leaf b)
      | none => .error .unsupported := by
  cases e with
  | boolop => cases h
  | coll => cases h
  | unary o x =>
    cases o with
    | not_ => cases h
    | neg => rfl
  | _ => rfl

theorem relLeaf_coll (kindOf : Str → Option ColK) (var : Option Str) (ow : Expr) (op : CollOp) (l : OptLam) :
    relLeaf kindOf var (.coll ow op l) = none := by
  simp [relLeaf]

theorem ownerOf_none (ow : Expr) (path : List Str) (coll : Str) (h : ownerOf none ow = some (path, coll)) :
    pathSegs ow = some (path ++ [coll]) := by
  unfold ownerOf at h
  cases hs : pathSegs ow with
  | none => simp [hs] at h
  | some segs =>
    simp only [hs] at h
    cases hr : segs.reverse with
    | nil => simp [hr] at h
    | cons c rp =>
      simp only [hr] at h
      simp only [Option.some.injEq, Prod.mk.injEq] at h
      have : segs = (c :: rp).reverse := by rw [← hr, List.reverse_reverse]
      rw [this, ← h.1, ← h.2]; simp


/-- the table the collection `path/coll` of `t` ranges over: `path` is a to-one path of the schema and `coll` a to-many /
    many-to-many relation of the table it reaches -/
def collTarget (sch : Schema) (t : Str) (path : List Str) (coll : Str) : Option Str :=
  match toOneVia sch t path with
  | some tm =>
      (match sch.rel tm coll with
       | some rel =>
           (match rel.kind with
            | .toOne _ _ => none
            | _ => some rel.dst)
       | none => none)
  | none => none

/-- STATIC well-formedness of a relational filter over a schema: every lambda owner is a collection of the schema -/
def relTyped (sch : Schema) : Str → RCond → Bool
  | _, .scalar _ => true
  | t, .and x y => relTyped sch t x && relTyped sch t y
  | t, .or x y => relTyped sch t x && relTyped sch t y
  | t, .not x => relTyped sch t x
  | t, .nonEmpty path coll => (collTarget sch t path coll).isSome
  | t, .any path coll body =>
      (match collTarget sch t path coll with
       | some t' => relTyped sch t' body
       | none => false)
  | t, .all path coll body =>
      (match collTarget sch t path coll with
       | some t' => relTyped sch t' body
       | none => false)

theorem collRows_fst (sch : Schema) (db : DB) (t : Str) (r : Row) (path : List Str) (coll : Str) :
    (collRows sch db t r path coll).map Prod.fst = collTarget sch t path coll := by
  unfold collRows collTarget
  rw [← navTo_fst sch db t (some r) path]
  cases navTo sch db t (some r) path with
  | none => rfl
  | some p =>
    obtain ⟨tm, row⟩ := p
    simp only [Option.map_some]
    cases sch.rel tm coll with
    | none => rfl
    | some rel =>
      simp only
      cases rel.kind <;> rfl

end OQ.RelSound
