/-
  The keyword literals and the quoted rules (string, geography, duration): the rule reads its own
  value, re-spelled, as that value.
-/
import ODataVerif.Lemmas.AcceptedBase
namespace OQ.AcceptedLex
open OQ.LexRender OQ.Spec OQ.CaseMap
set_option linter.unusedSimpArgs false

theorem scanWord_trim {w cs v r : Str} (h : scanWord E w cs = some (v, r)) :
    cs = v ++ r ∧ kw E w cs = some (v, r) ∧ scanWord E w v = some (v, []) := by
  unfold scanWord at h
  split at h
  · rename_i m r' hk
    split at h <;> simp only [Option.some.injEq, Prod.mk.injEq, reduceCtorEq] at h
    obtain ⟨rfl, rfl⟩ := h
    obtain ⟨hd, -, hf⟩ := kw_ps hk
    have := hf []
    rw [List.append_nil] at this
    exact ⟨hd, hk, by simp [scanWord, this, notIdentCont_nil]⟩
  · simp at h

inductive Body : Str → Prop
  | nil : Body []
  | qq {b : Str} : Body b → Body ('\'' :: '\'' :: b)
  | ch {c : Char} {b : Str} : c ≠ '\'' → Body b → Body (c :: b)

theorem strBody_body {t b r : Str} (h : strBody t = some (b, r)) : t = b ++ '\'' :: r ∧ Body b := by
  fun_induction strBody t generalizing b r with
  | case1 => cases h
  | case2 t b' r' heq ih =>
    obtain ⟨rfl, rfl⟩ := Prod.mk.inj (Option.some.inj h)
    obtain ⟨rfl, hb⟩ := ih heq
    exact ⟨rfl, .qq hb⟩
  | case3 t heq =>
    obtain ⟨rfl, rfl⟩ := Prod.mk.inj (Option.some.inj h)
    exact ⟨rfl, .nil⟩
  | case4 t hne =>
    obtain ⟨rfl, rfl⟩ := Prod.mk.inj (Option.some.inj h)
    exact ⟨rfl, .nil⟩
  | case5 c t h1 h2 b' r' heq ih =>
    obtain ⟨rfl, rfl⟩ := Prod.mk.inj (Option.some.inj h)
    obtain ⟨rfl, hb⟩ := ih heq
    exact ⟨rfl, .ch (fun e => h2 e) hb⟩
  | case6 c t h1 h2 heq => cases h
theorem body_fwd {b : Str} (h : Body b) : strBody (b ++ ['\'']) = some (b, []) := by
  induction h with
  | nil => exact strBody_q [] (by simp)
  | qq hb ih => simp only [List.cons_append]; rw [strBody_qq, ih]
  | ch hc hb ih => simp only [List.cons_append]; rw [strBody_c _ _ hc, ih]

theorem body_quote {b : Str} (h : Body b) : quoteStr (unescape b) = b := by
  induction h with
  | nil => rfl
  | qq hb ih => simp only [unescape, quoteStr, ih]
  | @ch c b hc hb ih =>
    have h1 : unescape (c :: b) = c :: unescape b := unescape_c c b (fun t' e => absurd e hc)
    rw [h1, quoteStr.eq_def]
    split
    · rename_i heq; cases heq
    · rename_i heq; simp at heq; exact absurd heq.1 hc
    · rename_i heq; simp at heq; obtain ⟨rfl, rfl⟩ := heq; rw [ih]

theorem scanString_trim {cs v r : Str} (h : scanString cs = some (v, r)) :
    cs = ('\'' :: quoteStr v ++ ['\'']) ++ r ∧ scanString ('\'' :: quoteStr v ++ ['\'']) = some (v, []) := by
  unfold scanString at h
  split at h
  · rename_i t
    simp only [Option.bind_eq_bind, Option.bind_eq_some_iff] at h
    obtain ⟨⟨b, r'⟩, hb, h⟩ := h
    simp only [Option.pure_def, Option.some.injEq, Prod.mk.injEq] at h
    obtain ⟨rfl, rfl⟩ := h
    obtain ⟨rfl, hB⟩ := strBody_body hb
    rw [body_quote hB]
    refine ⟨by simp, ?_⟩
    simp only [List.cons_append, scanString, Option.bind_eq_bind, body_fwd hB, Option.bind_some, Option.pure_def]
  · simp at h

theorem kw_geo (x : Str) : kw E "geography'".toList ("geography'".toList ++ x) = some ("geography'".toList, x) :=
  LitLex.kw_self _ _ (by decide +kernel)

theorem scanGeography_trim {cs v r : Str} (h : scanGeography E cs = some (v, r)) :
    scanGeography E ("geography'".toList ++ v ++ ['\'']) = some (v, []) := by
  unfold scanGeography at h
  simp only [Option.bind_eq_bind, Option.bind_eq_some_iff] at h
  obtain ⟨⟨m, r0⟩, hk, hb⟩ := h
  obtain ⟨-, hB⟩ := strBody_body hb
  rw [List.append_assoc]
  simp only [scanGeography, Option.bind_eq_bind, kw_geo, Option.bind_some, body_fwd hB]

/-- the DURATION rule between its prefix and its closing quote: sign, `P`, date part, time part -/
def durInner (r : Str) : Option (Str × Str) :=
  (kw E ['p'] (durSign r).2).bind fun q =>
    let y := durGroup E 'y' q.2
    let mo := durGroup E 'm' y.2
    let d := durGroup E 'd' mo.2
    let tp := durTime E d.2
    some ((durSign r).1 ++ q.1 ++ y.1 ++ mo.1 ++ d.1 ++ tp.1, tp.2)

theorem scanDuration_eq (cs : Str) : scanDuration E cs =
    (kw E "duration'".toList cs).bind fun p => (durInner p.2).bind fun x => durClose x.1 x.2 := by
  rw [LexRender.scanDuration_eq]
  cases kw E "duration'".toList cs with
  | none => rfl
  | some p =>
    simp only [Option.bind_some, durBody, durInner]
    cases kw E ['p'] (durSign p.2).2 <;> rfl

theorem quote_ci : ∀ p ∈ ['p', 'y', 'm', 'd', 't', 'h', 's'], ciChar E p '\'' = false := by decide +kernel

theorem durGroup_q (l : Char) (hl : ciChar E l '\'' = false) (w s : Str) :
    durGroup E l (s ++ '\'' :: w) = ((durGroup E l s).1, (durGroup E l s).2 ++ '\'' :: w) := by
  unfold durGroup
  rw [span1_ext _ _ _ LitLex.isDigit_quote]
  cases h : span1 E.isDigit s with
  | none => simp
  | some x =>
    obtain ⟨ds, r⟩ := x
    cases r with
    | nil => simp [hl]
    | cons c r => simp; split <;> simp

theorem durSeconds_q (w s : Str) :
    durSeconds E (s ++ '\'' :: w) = ((durSeconds E s).1, (durSeconds E s).2 ++ '\'' :: w) := by
  have hs : ciChar E 's' '\'' = false := quote_ci 's' (by decide)
  unfold durSeconds
  rw [span1_ext _ _ _ LitLex.isDigit_quote]
  cases h : span1 E.isDigit s with
  | none => simp
  | some x =>
    obtain ⟨ds, r⟩ := x
    cases r with
    | nil => simp [hs]
    | cons c r =>
      by_cases hc : c = '.'
      · subst hc
        simp only [ext_some, List.cons_append]
        rw [span1_ext _ _ _ LitLex.isDigit_quote]
        cases h2 : span1 E.isDigit r with
        | none => simp
        | some y =>
          obtain ⟨fs, r'⟩ := y
          cases r' with
          | nil => simp [hs]
          | cons c' r' => simp; split <;> simp
      · simp [hc]; split <;> simp

theorem durTime_q (w s : Str) : durTime E (s ++ '\'' :: w) = ((durTime E s).1, (durTime E s).2 ++ '\'' :: w) := by
  cases s with
  | nil => simp [durTime, quote_ci 't' (by decide)]
  | cons c t =>
    simp only [List.cons_append, durTime]
    split
    · simp only [durGroup_q 'h' (quote_ci _ (by decide)), durGroup_q 'm' (quote_ci _ (by decide)), durSeconds_q]
    · simp

theorem durSign_q (w s : Str) : durSign (s ++ '\'' :: w) = ((durSign s).1, (durSign s).2 ++ '\'' :: w) := by
  cases s with
  | nil => rfl
  | cons c t =>
    simp only [List.cons_append, durSign_cons]
    split
    · rfl
    · split <;> rfl

theorem durInner_q (w s : Str) : durInner (s ++ '\'' :: w) = ext (durInner s) ('\'' :: w) := by
  simp only [durInner, durSign_q]
  rw [kw_ext E '\'' w _ _ (by intro p hp; simp at hp; subst hp; exact quote_ci 'p' (by decide))]
  cases kw E ['p'] (durSign s).2 with
  | none => rfl
  | some x =>
    simp only [ext_some, Option.bind_some, durGroup_q 'y' (quote_ci _ (by decide)), durGroup_q 'm' (quote_ci _ (by decide)),
      durGroup_q 'd' (quote_ci _ (by decide)), durTime_q]

theorem durGroup_decomp (l : Char) (cs : Str) : cs = (durGroup E l cs).1 ++ (durGroup E l cs).2 := by
  unfold durGroup
  split
  · rename_i ds c r heq
    obtain ⟨e, -⟩ := span1_eq_some_iff.1 heq
    split
    · simp [e]
    · rfl
  · rfl

theorem durSeconds_decomp (cs : Str) : cs = (durSeconds E cs).1 ++ (durSeconds E cs).2 := by
  unfold durSeconds
  split
  · rename_i ds r heq
    obtain ⟨e, -⟩ := span1_eq_some_iff.1 heq
    split
    · rename_i fs c r' heq2
      obtain ⟨e2, -⟩ := span1_eq_some_iff.1 heq2
      split
      · simp [e, e2]
      · rfl
    · rfl
  · rename_i ds c r heq
    obtain ⟨e, -⟩ := span1_eq_some_iff.1 heq
    split
    · simp [e]
    · rfl
  · rfl

theorem durTime_decomp (cs : Str) : cs = (durTime E cs).1 ++ (durTime E cs).2 := by
  unfold durTime
  split
  · split
    · simp only [List.append_assoc, List.cons_append]
      rw [← durSeconds_decomp, ← durGroup_decomp, ← durGroup_decomp]
    · rfl
  · rfl

theorem durSign_decomp (cs : Str) : cs = (durSign cs).1 ++ (durSign cs).2 := by
  unfold durSign
  split <;> rfl

theorem durInner_decomp {cs B r : Str} (h : durInner cs = some (B, r)) : cs = B ++ r := by
  simp only [durInner, Option.bind_eq_some_iff, Option.some.injEq, Prod.mk.injEq] at h
  obtain ⟨⟨p, r1⟩, hk, rfl, rfl⟩ := h
  conv => lhs; rw [durSign_decomp cs, (kw_append hk).1]
  simp only [List.append_assoc]
  rw [← durTime_decomp, ← durGroup_decomp, ← durGroup_decomp, ← durGroup_decomp]

theorem kw_dur (x : Str) : kw E "duration'".toList ("duration'".toList ++ x) = some ("duration'".toList, x) :=
  LitLex.kw_self _ _ (by decide +kernel)

theorem scanDuration_inv {cs v r : Str} (h : scanDuration E cs = some (v, r)) :
    ∃ m0 B, cs = m0 ++ (B ++ '\'' :: r) ∧ durInner (B ++ '\'' :: r) = some (B, '\'' :: r) ∧ v = B.map durUpper := by
  rw [scanDuration_eq] at h
  simp only [Option.bind_eq_some_iff] at h
  obtain ⟨⟨m0, r0⟩, hk, ⟨B, r1⟩, hi, hc⟩ := h
  cases r1 with
  | nil => cases hc
  | cons c t =>
    rw [durClose_cons] at hc
    split at hc
    · subst c
      obtain ⟨rfl, rfl⟩ := Prod.mk.inj (Option.some.inj hc)
      obtain rfl := durInner_decomp hi
      exact ⟨m0, B, (kw_append hk).1, hi, rfl⟩
    · cases hc

theorem scanDuration_trim {cs v r : Str} (ha : cs.all LexImage.isAscii = true) (h : scanDuration E cs = some (v, r)) :
    scanDuration E ("duration'".toList ++ v ++ ['\'']) = some (v, []) := by
  obtain ⟨m0, B, hcs, hi, rfl⟩ := scanDuration_inv h
  have h1 : durInner B = some (B, []) := by
    have := durInner_q r B
    rw [hi] at this
    cases hB : durInner B with
    | none => rw [hB] at this; cases this
    | some z =>
      obtain ⟨B2, r2⟩ := z
      rw [hB] at this
      simp only [ext_some, Option.some.injEq, Prod.mk.injEq] at this
      obtain ⟨rfl, e⟩ := this
      have : r2 = [] := List.append_left_eq_self.1 e.symm
      rw [this]
  have hBa : B.all LexImage.isAscii = true := by
    rw [hcs] at ha
    simp only [List.all_append, Bool.and_eq_true] at ha
    exact ha.2.1
  -- ASCII: `durUpper` is `asciiUpper` on `B`
  have hup : B.map asciiUpper = B.map durUpper :=
    List.map_congr_left fun c hc => (LexImage.durUpper_ascii (List.all_eq_true.1 hBa c hc)).symm
  -- the body of the rule on `B'`, then on its upper-case form
  have h3 : durBody E (durSign (B ++ ['\''])).1 (durSign (B ++ ['\''])).2 = some (B.map durUpper, []) := by
    have := scanDuration_eq ("duration'".toList ++ (B ++ ['\'']))
    rw [LexRender.scanDuration_eq, kw_dur] at this
    simp only [Option.bind_some, durInner_q [] B, h1] at this
    exact this
  have h4 := durBody_tr caseMap_upper (tl := []) (Or.inl rfl) (durSign (B ++ ['\''])).1 (durSign (B ++ ['\''])).2
  have h5 := durSign_tr caseMap_upper (tl := []) (Or.inl rfl) (B ++ ['\''])
  have e1 : asciiUpper '\'' = '\'' := by decide
  rw [h3, List.append_nil] at h4
  simp only [List.map_append, List.map_cons, List.map_nil, List.append_nil, e1, hup] at h5
  rw [List.append_assoc, LexRender.scanDuration_eq, kw_dur, Option.bind_some, h5]
  exact h4

end OQ.AcceptedLex
