/- Lemmas/LexChars.lean — facts about the concrete character classes `pyCharEnv` used by Props/C13Text.lean:
   the delimiters are outside every scanner's alphabet; spaces, digits and letters are disjoint. -/
import ODataVerif.Lemmas.LexRender
import ODataVerif.Lemmas.Basics
namespace OQ.LexRender
open Spec

abbrev E := pyCharEnv

theorem beq_char_iff (c k : Char) : (c == k) = true ↔ c.toNat = k.toNat :=
  OQ.beq_char_iff c k

theorem beq_of_toNat_lt {c x : Char} (h : c.toNat < x.toNat) : (c == x) = false := by
  simp only [beq_eq_false_iff_ne, ne_eq, ← Char.toNat_inj]; omega

def disjointRanges (rs qs : List (Nat × Nat)) : Bool := rs.all fun r => qs.all fun q => Nat.blt r.2 q.1 || Nat.blt q.2 r.1

theorem inRanges_disjoint {rs qs : List (Nat × Nat)} (h : disjointRanges rs qs = true) {n : Nat}
    (h1 : inRanges rs n = true) : inRanges qs n = false := by
  cases h2 : inRanges qs n with
  | false => rfl
  | true =>
    simp only [inRanges, List.any_eq_true, Bool.and_eq_true, decide_eq_true_eq] at h1 h2
    obtain ⟨r, hr, hr1, hr2⟩ := h1
    obtain ⟨q, hq, hq1, hq2⟩ := h2
    have := List.all_eq_true.1 (List.all_eq_true.1 h r hr) q hq
    simp only [Bool.or_eq_true, Nat.blt_eq] at this
    omega

def spaceNat (n : Nat) : Prop :=
  (9 ≤ n ∧ n ≤ 13) ∨ (28 ≤ n ∧ n ≤ 32) ∨ n = 133 ∨ n = 160 ∨ n = 5760 ∨ (8192 ≤ n ∧ n ≤ 8202) ∨ n = 8232 ∨ n = 8233
    ∨ n = 8239 ∨ n = 8287 ∨ n = 12288

/-- `spaceNat` is the `\s` table row by row, its one-point rows written as equations -/
theorem isSpace_iff (c : Char) : E.isSpace c = true ↔ spaceNat c.toNat := by
  have pt : ∀ a n : Nat, (a ≤ n ∧ n ≤ a) ↔ n = a := by omega
  have pt2 : ∀ n : Nat, (8232 ≤ n ∧ n ≤ 8233) ↔ n = 8232 ∨ n = 8233 := by omega
  simp only [pyCharEnv, inRanges, CharTables.spaceRanges, spaceNat, List.any_cons, List.any_nil, Bool.or_false,
    Bool.or_eq_true, Bool.and_eq_true, decide_eq_true_eq, pt, pt2, or_assoc]

def letterNat (n : Nat) : Prop :=
  (65 ≤ n ∧ n ≤ 90) ∨ (97 ≤ n ∧ n ≤ 122) ∨ n = 304 ∨ n = 305 ∨ n = 383 ∨ n = 8490

/-- ASCII below `0` and from `:` to `z`, the `\s` characters, the non-ASCII twins of letters under `re.I` -/
def nonDigits : List (Nat × Nat) :=
  [(0, 47), (58, 122), (133, 133), (160, 160), (304, 305), (383, 383), (5760, 5760), (8192, 8202), (8232, 8233),
   (8239, 8239), (8287, 8287), (8490, 8490), (12288, 12288)]

theorem isDigit_imp (c : Char) (h : E.isDigit c = true) :
    ¬ spaceNat c.toNat ∧ ¬ letterNat c.toNat ∧ c.toNat ≠ 95 ∧ c.toNat ≠ 39 ∧ c.toNat ≠ 43 ∧ c.toNat ≠ 45 ∧ 48 ≤ c.toNat := by
  have := inRanges_disjoint (qs := nonDigits) (by decide +kernel) h
  simp only [inRanges, nonDigits, List.any_cons, List.any_nil, Bool.or_false, Bool.or_eq_false_iff,
    Bool.and_eq_false_iff, decide_eq_false_iff_not] at this
  simp only [spaceNat, letterNat]
  omega

theorem ciChar_imp (c p : Char) (hp : p ∈ ['d', 'g', 't', 'f', 'n', 'a']) (h : ciChar E p c = true) : letterNat c.toNat := by
  simp only [List.mem_cons, List.not_mem_nil, or_false] at hp
  rcases hp with rfl | rfl | rfl | rfl | rfl | rfl
  all_goals
    simp [ciChar, isAsciiLower, asciiUpper, pyCharEnv, CharTables.ciExtras] at h
    simp only [letterNat]
    rcases h with rfl | rfl <;> decide

theorem isIdentStart_imp (c : Char) (h : isIdentStart E c = true) : letterNat c.toNat ∨ c.toNat = 95 := by
  simp [isIdentStart, isAsciiLower, isAsciiUpper, pyCharEnv, CharTables.ciExtras, le_char_iff] at h
  simp only [letterNat]
  rcases h with ((rfl | h) | h) | h
  · right; decide
  all_goals omega

theorem letter_imp (c : Char) (h : letterNat c.toNat ∨ c.toNat = 95) :
    E.isDigit c = false ∧ E.isSpace c = false ∧ c ≠ '\'' ∧ c ≠ '+' ∧ c ≠ '-' := by
  refine ⟨?_, ?_, ?_, ?_, ?_⟩
  · cases hd : E.isDigit c with
    | false => rfl
    | true => have := isDigit_imp c hd; simp only [letterNat] at h this; omega
  · cases hs : E.isSpace c with
    | false => rfl
    | true => have := (isSpace_iff c).1 hs; simp only [letterNat, spaceNat] at h this; omega
  all_goals (rintro rfl; simp [letterNat] at h)

theorem space_imp (c : Char) (h : E.isSpace c = true) :
    E.isDigit c = false ∧ isIdentStart E c = false ∧ (∀ p ∈ ['d', 'g', 't', 'f', 'n', 'a'], ciChar E p c = false)
      ∧ c ≠ '\'' ∧ c ≠ '+' ∧ c ≠ '-' ∧ isHex E c = false ∧ inCharRange '0' '9' c = false := by
  have hs := (isSpace_iff c).1 h
  have hdg : E.isDigit c = false := by
    cases hd : E.isDigit c with
    | false => rfl
    | true => have := isDigit_imp c hd; exact absurd hs this.1
  refine ⟨hdg, ?_, ?_, ?_, ?_, ?_, ?_, ?_⟩
  · cases hi : isIdentStart E c with
    | false => rfl
    | true => have := isIdentStart_imp c hi; simp only [letterNat, spaceNat] at this hs; omega
  · intro p hp
    cases hi : ciChar E p c with
    | false => rfl
    | true => have := ciChar_imp c p hp hi; simp only [letterNat, spaceNat] at this hs; omega
  · rintro rfl; simp [spaceNat] at hs
  · rintro rfl; simp [spaceNat] at hs
  · rintro rfl; simp [spaceNat] at hs
  · simp only [isHex, hdg, inCharRange, le_char_iff, spaceNat] at hs ⊢
    simp; omega
  · simp only [inCharRange, le_char_iff, spaceNat] at hs ⊢
    simp; omega

def isPunct (c : Char) : Bool := inRanges [(0, 47), (58, 64)] c.toNat

theorem isPunct_le {c : Char} (h : isPunct c = true) : c.toNat ≤ 47 ∨ 58 ≤ c.toNat ∧ c.toNat ≤ 64 := by
  simpa [isPunct, inRanges] using h

theorem punct_digit {c : Char} (h : isPunct c = true) : E.isDigit c = false :=
  inRanges_disjoint (by decide +kernel) h

theorem punct_word {c : Char} (h : isPunct c = true) : E.isWord c = false :=
  inRanges_disjoint (by decide +kernel) h

theorem punct_identStart {c : Char} (h : isPunct c = true) : isIdentStart E c = false := by
  have hc := isPunct_le h
  have hx : ∀ p, E.ciExtra p c = false := fun p => ciExtra_ascii (by omega)
  simp [isIdentStart, isAsciiLower, isAsciiUpper, le_char_iff, hx, ← Char.toNat_inj]
  omega

/-- a pattern character matches itself, its upper-case form or a non-ASCII letter: apart from the quote, only
    characters that can start an identifier -/
theorem ciChar_notIdent {c p : Char} (hi : isIdentStart E c = false) (hp : p ∈ patChars) (hq : p = '\'' → c ≠ '\'') :
    ciChar E p c = false := by
  simp only [isIdentStart, Bool.or_eq_false_iff, List.any_eq_false] at hi
  obtain ⟨⟨⟨-, hl⟩, hu⟩, hx⟩ := hi
  rcases (by decide +kernel : ∀ p ∈ patChars, p = '\'' ∨ (p ∈ "abcdefghijklmnopqrstuvwxyz".toList ∧
      isAsciiLower p = true ∧ isAsciiUpper (asciiUpper p) = true)) p hp with rfl | ⟨hm, h1, h2⟩
  · simpa [ciChar, isAsciiLower] using hq rfl
  · have e1 : c ≠ p := by rintro rfl; rw [h1] at hl; cases hl
    have e2 : c ≠ asciiUpper p := by rintro rfl; rw [h2] at hu; cases hu
    simp [ciChar, h1, e1, e2, hx p hm]

theorem punct_ci {c : Char} (h : isPunct c = true) {p : Char} (hp : p ∈ patChars) (hq : p = '\'' → c ≠ '\'') :
    ciChar E p c = false := ciChar_notIdent (punct_identStart h) hp hq

/-- the ranges the scanners test lie inside the digits or inside the letters -/
theorem punct_range {c : Char} (h : isPunct c = true) {lo hi : Char} (hlo : 48 ≤ lo.toNat)
    (hhi : hi.toNat ≤ 57 ∨ 65 ≤ lo.toNat) : inCharRange lo hi c = false := by
  have hc := isPunct_le h
  simp only [inCharRange, le_char_iff, Bool.and_eq_false_iff, decide_eq_false_iff_not]
  omega

theorem punct_ne {c : Char} (h : isPunct c = true) {x : Char} (hx : isPunct x = false) : c ≠ x := by
  rintro rfl; rw [h] at hx; cases hx

theorem punct_hex {c : Char} (h : isPunct c = true) : isHex E c = false := by
  simp [isHex, punct_digit h, punct_range h (lo := 'a') (hi := 'f'), punct_range h (lo := 'A') (hi := 'F')]

theorem punct_headFacts {c : Char} (h : isPunct c = true) : HeadFacts E c where
  d := punct_ci h (by decide) (by simp)
  g := punct_ci h (by decide) (by simp)
  t := punct_ci h (by decide) (by simp)
  f := punct_ci h (by decide) (by simp)
  n := punct_ci h (by decide) (by simp)
  a := punct_ci h (by decide) (by simp)
  hex := punct_hex h
  r01 := punct_range h (by decide) (by decide)
  ne2 := punct_ne h (by decide)
  digit := punct_digit h
  ident := punct_identStart h

theorem punct_delim {c : Char} (h : isPunct c = true) (hdot : c ≠ '.') (hp : c ≠ '+') (hm : c ≠ '-') (hq : c ≠ '\'') :
    Delim E c where
  digit := punct_digit h
  word := punct_word h
  ci := fun p hp => punct_ci h hp fun _ => hq
  ne_dot := hdot
  ne_plus := hp
  ne_minus := hm
  ne_quote := hq
  hexl := punct_range h (by decide) (by decide)
  hexu := punct_range h (by decide) (by decide)
  r02 := punct_range h (by decide) (by decide)
  r01 := punct_range h (by decide) (by decide)
  r03 := punct_range h (by decide) (by decide)
  r05 := punct_range h (by decide) (by decide)
  ne0 := punct_ne h (by decide)
  ne1 := punct_ne h (by decide)
  ne2 := punct_ne h (by decide)
  ne3 := punct_ne h (by decide)

def isDelim (d : Char) : Bool := d == ' ' || d == '(' || d == ')' || d == ',' || d == '/' || d == ':' || d == '='

theorem delim_cases {d : Char} (h : isDelim d = true) :
    d = ' ' ∨ d = '(' ∨ d = ')' ∨ d = ',' ∨ d = '/' ∨ d = ':' ∨ d = '=' := by
  simpa [isDelim, or_assoc] using h

theorem delim_punct {d : Char} (h : isDelim d = true) : isPunct d = true := by
  rcases delim_cases h with rfl | rfl | rfl | rfl | rfl | rfl | rfl <;> decide

theorem word_dot : E.isWord '.' = false := punct_word (by decide)

theorem delim_of {d : Char} (h : isDelim d = true) : Delim E d := by
  refine punct_delim (delim_punct h) ?_ ?_ ?_ ?_
  all_goals rintro rfl; revert h; decide

theorem delim_identStart {d : Char} (h : isDelim d = true) : isIdentStart E d = false :=
  punct_identStart (delim_punct h)

theorem space_blank : E.isSpace ' ' = true := by decide +kernel

theorem delim_space {d : Char} (h : isDelim d = true) (hne : d ≠ ' ') : E.isSpace d = false := by
  rcases delim_cases h with rfl | rfl | rfl | rfl | rfl | rfl | rfl <;> first | exact absurd rfl hne | decide +kernel

end OQ.LexRender
