/- `normTok` changes nothing the adjacency condition looks at; a re-spelling (`Spec.Respell`)
   of a token list satisfying that condition is the text of a chain of pieces (for Props/C19Text.lean). -/
import ODataVerif.Lemmas.RespellChain
import ODataVerif.Lemmas.ParseNorm
namespace OQ.Respelling
open Spec LexRender CaseMap ParseNorm

/-- `L` is `ts` up to `normTok`, with WS tokens inserted after some unary minus tokens not already followed by one -/
inductive InsWs : List Tok → List Tok → Prop
  | nil : InsWs [] []
  | cons {t t' : Tok} {ts L : List Tok} : normTok t' = normTok t → InsWs ts L → InsWs (t :: ts) (t' :: L)
  | ins {ts L : List Tok} : (∀ r, ts ≠ .ws :: r) → InsWs ts L → InsWs (.uminus :: ts) (.uminus :: .ws :: L)

theorem beq_norm {x : Tok} (hx : ∀ k v, x ≠ .lit k v) (u : Tok) : (normTok u == x) = (u == x) := by
  rw [Bool.eq_iff_iff, beq_iff_eq, beq_iff_eq]
  refine ⟨normTok_eq_nonlit hx, ?_⟩
  rintro rfl
  cases u with
  | lit k v => exact absurd rfl (hx k v)
  | _ => rfl

/-- what does not look at the text of a literal does not see `normTok` -/
theorem normTok_irrel {β : Type} (f : Tok → β) (hf : ∀ k v w, f (.lit k v) = f (.lit k w)) (u : Tok) :
    f (normTok u) = f u := by
  cases u with
  | lit k v => rw [normTok_lit]; exact hf ..
  | _ => rfl

theorem closeT_norm (u : Tok) : closeT (normTok u) = closeT u := normTok_irrel closeT (fun _ _ _ => rfl) u

theorem identFollowT_norm (u : Tok) : identFollowT (normTok u) = identFollowT u :=
  normTok_irrel identFollowT (fun _ _ _ => rfl) u

theorem startT_norm (u : Tok) : startT (normTok u) = startT u := normTok_irrel startT (fun _ _ _ => rfl) u

/-- the sign of a Float text is not a letter -/
theorem unsigned_normTok (u : Tok) : isUnsignedNumber (normTok u) = isUnsignedNumber u := by
  cases u with
  | lit k v =>
    cases k <;> first | rfl | skip
    cases v with
    | nil => rfl
    | cons c w =>
      show (asciiLower c != '-' && asciiLower c != '+') = (c != '-' && c != '+')
      rw [Bool.eq_iff_iff]
      simp only [Bool.and_eq_true, bne_iff_ne, ne_eq, caseMap_lower.eqc '-' (by decide) c,
        caseMap_lower.eqc '+' (by decide) c]
  | _ => rfl

theorem adj_normTok (b : Bool) (t : Tok) (n : Option Tok) : adj b (normTok t) (n.map normTok) = adj b t n := by
  rw [normTok_irrel (adj b · (n.map normTok)) (fun _ _ _ => rfl) t]
  cases n with
  | none => rfl
  | some u =>
    have hws := beq_norm (x := .ws) nofun u
    have hlp := beq_norm (x := .lp) nofun u
    have hrp := beq_norm (x := .rp) nofun u
    have hcm := beq_norm (x := .comma) nofun u
    have hcl := beq_norm (x := .colon) nofun u
    cases t <;> simp only [Option.map, adj, closeT_norm, identFollowT_norm, startT_norm, unsigned_normTok,
      Option.some_beq_some, hws, hlp, hrp, hcm, hcl]

theorem adj_norm {b : Bool} {t' t : Tok} {n' n : Option Tok} (ht : normTok t' = normTok t)
    (hn : n'.map normTok = n.map normTok) : adj b t' n' = adj b t n := by
  rw [← adj_normTok b t', ← adj_normTok b t, ht, hn]

theorem insWs_head {ts L : List Tok} (h : InsWs ts L) : L.head?.map normTok = ts.head?.map normTok := by
  cases h with
  | nil => rfl
  | cons hn _ => exact congrArg some hn
  | ins _ _ => rfl


theorem spellTok_piece {t : Tok} {s : Str} (hsp : SpellTok E t s) (hne : t ≠ .uminus) (hok : isLI t = true → TokOk t) :
    ∃ t', PieceOk ⟨t', s⟩ ∧ normTok t' = normTok t := by
  cases t with
  | lit k v =>
    obtain ⟨p, hp, hn⟩ := spellLit_textOk hsp (hok rfl)
    exact ⟨.lit k p, hp, hn⟩
  | ident i =>
    cases hsp with
    | exact _ _ => exact ⟨.ident i, TextOk.ofTok (hok rfl), rfl⟩
  | arith o =>
    cases hsp with
    | arith _ w1 k w2 h1 h2 hk => exact ⟨.arith o, ⟨w1, k, w2, rfl, h1, h2, hk⟩, rfl⟩
    | exact _ he => simp [exactTok] at he
  | cmp o =>
    cases hsp with
    | cmp _ w1 k w2 h1 h2 hk => exact ⟨.cmp o, ⟨w1, k, w2, rfl, h1, h2, hk⟩, rfl⟩
    | exact _ he => simp [exactTok] at he
  | bool o =>
    cases hsp with
    | bool _ w1 k w2 h1 h2 hk => exact ⟨.bool o, ⟨w1, k, w2, rfl, h1, h2, hk⟩, rfl⟩
    | exact _ he => simp [exactTok] at he
  | not_ =>
    cases hsp with
    | not_ k w hk hw => exact ⟨.not_, ⟨k, w, rfl, hk, hw⟩, rfl⟩
    | exact _ he => simp [exactTok] at he
  | any =>
    cases hsp with
    | any _ hk => exact ⟨.any, hk, rfl⟩
    | exact _ he => simp [exactTok] at he
  | all =>
    cases hsp with
    | all _ hk => exact ⟨.all, hk, rfl⟩
    | exact _ he => simp [exactTok] at he
  | ws =>
    cases hsp with
    | ws _ hw => exact ⟨.ws, hw, rfl⟩
    | exact _ he => simp [exactTok] at he
  | uminus => exact absurd rfl hne
  | lp | rp | comma | slash | colon | eqs => cases hsp with | exact _ _ => refine ⟨_, ?_, rfl⟩; rfl

theorem isBlankRun_append {w w' : Str} (h : isBlankRun E w) (h' : isBlankRun E w') : isBlankRun E (w ++ w') :=
  ⟨fun e => h.1 (List.append_eq_nil_iff.1 e).1, by rw [List.all_append, h.2, h'.2]; rfl⟩

theorem pchain_cons {t' t : Tok} {s : Str} {ps : List Piece} {ts : List Tok} (hp : PieceOk ⟨t', s⟩)
    (hn : normTok t' = normTok t) (hs : t' = .uminus → ∀ u, nextTok ps = some u → isUnsignedNumber u = false)
    (ha : adj false t ts.head? = true) (hpc : pchainOk ps) (hins : InsWs ts (ps.map (·.tok))) :
    pchainOk (⟨t', s⟩ :: ps) ∧ InsWs (t :: ts) ((⟨t', s⟩ :: ps).map (·.tok)) := by
  refine ⟨⟨hp, ?_, hpc⟩, InsWs.cons hn hins⟩
  have hh : (nextTok ps).map normTok = ts.head?.map normTok := by
    rw [← insWs_head hins]; cases ps <;> rfl
  exact (adj_strict hs).trans ((adj_norm hn hh).trans ha)

theorem respell_pieces {ts : List Tok} {s : Str} (h : Respell E ts s) :
    chainOk false ts → ∃ ps, flat ps = s ∧ pchainOk ps ∧ InsWs ts (ps.map (·.tok)) := by
  induction h with
  | nil => intro _; exact ⟨[], rfl, trivial, InsWs.nil⟩
  | cons t ts s r hne hsp hr ih =>
    rintro ⟨hok, ha, hrest⟩
    obtain ⟨ps, rfl, hpc, hins⟩ := ih hrest
    obtain ⟨t', hp, hn⟩ := spellTok_piece hsp hne hok
    have hne' : t' ≠ .uminus := fun e => hne (normTok_eq_nonlit (t0 := .uminus) nofun (e ▸ hn).symm)
    exact ⟨⟨t', s⟩ :: ps, rfl, pchain_cons hp hn (fun e => absurd e hne') ha hpc hins⟩
  | minus ts r hu hr ih =>
    rintro ⟨-, ha, hrest⟩
    obtain ⟨ps, rfl, hpc, hins⟩ := ih hrest
    refine ⟨⟨.uminus, ['-']⟩ :: ps, rfl, pchain_cons rfl rfl ?_ ha hpc hins⟩
    -- the token after the minus is the given one up to `normTok`, so it is no unsigned number either
    intro _ q hq
    have hh := insWs_head hins
    cases ts with
    | nil => cases ps <;> cases hins; cases hq
    | cons u rest =>
      cases ps with
      | nil => cases hins
      | cons p ps' =>
        cases hq
        rw [← unsigned_normTok, show normTok p.tok = normTok u from Option.some.inj hh, unsigned_normTok]
        exact hu u rest rfl
  | minusBlank ts w r hw hr ih =>
    rintro ⟨-, ha, hrest⟩
    obtain ⟨ps, rfl, hpc, hins⟩ := ih hrest
    cases ts with
    | nil => cases ha
    | cons u rest =>
      cases ps with
      | nil => cases hins
      | cons q ps' =>
        obtain ⟨qt, qx⟩ := q
        have hq : normTok qt = normTok u := Option.some.inj (insWs_head hins)
        by_cases huw : u = .ws
        · -- the blank joins the whitespace the chain already starts with
          subst huw
          cases normTok_eq_nonlit (t0 := .ws) nofun hq
          exact ⟨⟨.uminus, ['-']⟩ :: ⟨.ws, w ++ qx⟩ :: ps', by simp [flat],
            ⟨rfl, rfl, isBlankRun_append hw hpc.1, hpc.2⟩, InsWs.cons rfl hins⟩
        · have hst : startT qt = true := by
            rw [← startT_norm, hq, startT_norm]
            simpa [adj, huw] using ha
          exact ⟨⟨.uminus, ['-']⟩ :: ⟨.ws, w⟩ :: ⟨qt, qx⟩ :: ps', by simp [flat],
            ⟨rfl, rfl, hw, by simp [adj, nextTok, hst], hpc⟩, InsWs.ins (fun r e => huw (List.cons.inj e).1) hins⟩

end OQ.Respelling
