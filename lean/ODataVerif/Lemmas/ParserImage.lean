/- Lemmas/ParserImage.lean — helper lemmas for Props/C10Image.lean: every successful result of every
   function of the fuelled mutual parser is in the image `Spec.printable` describes: `printable` and its
   companions for lists, arguments and lambdas are closed under the grammar actions (`image`, an instance of
   `ParseInv`). -/
import ODataVerif.Model.Parser
import ODataVerif.Spec.RefPrinter
import ODataVerif.Lemmas.ParseInduct
import ODataVerif.Lemmas.Pratt
set_option linter.unusedSimpArgs false
namespace OQ.ParserImage
open Spec

theorem pathOk_attr (o : Expr) (n : Str) (h : pathOk o = true) (hr : rootNs o = []) :
    pathOk (.attr o n) = true := by
  cases o <;> simp_all [pathOk, rootNs]

theorem pathOk_foldl (names : List Str) : ∀ o : Expr, pathOk o = true → rootNs o = [] →
    pathOk (names.foldl (fun o n => Expr.attr o n) o) = true := by
  induction names with
  | nil => intro o h _; exact h
  | cons n ns ih =>
    intro o h hr
    simp only [List.foldl_cons]
    exact ih _ (pathOk_attr o n h hr) (by simpa [rootNs] using hr)

/-- `_reverse_attributes` always rebuilds a path the printer accepts (the root loses its namespace) -/
theorem pathOk_rebuild (names : List Str) (e : Expr) (h : rebuildPath names = some e) : pathOk e = true := by
  cases names with
  | nil => simp [rebuildPath] at h
  | cons a rest =>
    simp only [rebuildPath, Option.some.injEq] at h
    subst h
    exact pathOk_foldl rest _ (by simp [pathOk]) (by simp [rootNs])

theorem printable_of_pathOk (e : Expr) (h : pathOk e = true) : printable e = true := by
  cases e <;> simp_all [pathOk, printable]

/-- the lambda part of `printable (.coll _ op lam)` -/
def lamOk (op : CollOp) : OptLam → Bool
  | .none => op == .any
  | .some _ b => printable b

theorem printable_coll (ow : Expr) (op : CollOp) (lam : OptLam) :
    printable (.coll ow op lam) = (pathOk ow && lamOk op lam) := by
  cases lam <;> simp [printable, lamOk]

/-- the action of `property_path_expr : IDENT "/" tail` keeps the tree printable -/
theorem pathCons_printable (i : Ident) (tail e : Expr) (ht : printable tail = true)
    (h : pathCons i tail = .ok e) : printable e = true := by
  unfold pathCons at h
  split at h
  · split at h
    · split at h
      · rename_i e' hre
        cases h
        exact printable_of_pathOk _ (pathOk_rebuild _ _ hre)
      · cases h
    · cases h
  · rename_i owner op lam
    rw [printable_coll, Bool.and_eq_true] at ht
    split at h
    · split at h
      · split at h
        · rename_i e' hre
          cases h
          rw [printable_coll, Bool.and_eq_true]
          exact ⟨pathOk_rebuild _ _ hre, ht.2⟩
        · cases h
      · cases h
    · cases h
      rw [printable_coll, Bool.and_eq_true]
      exact ⟨by simp [pathOk], ht.2⟩
    · cases h
  · cases h
    simp [printable, pathOk]
  · cases h

theorem callOk_of_functionCall (f : Ident) (args : Exprs) (e : Expr) (h : functionCall f args = .ok e) :
    e = .call f args ∧ callOk f args.length = true := by
  refine ⟨C11.accepted_is_call f args e h, ?_⟩
  by_cases hv : f.ns = [] ∨ f.ns = ["geo".toList]
  · obtain ⟨lo, hi, hn, hlo, hhi⟩ := (C11.accept_iff f args hv).mp ⟨e, h⟩
    unfold callOk
    rw [if_pos hv, Pratt.spellIdent_eq, hn]
    simp [hlo, hhi]
  · unfold callOk
    rw [if_neg hv]

/-- success is a predicate `P` of the value; nothing is claimed about errors -/
abbrev Img {α : Type} (P : α → Prop) (x : Except PErr (α × List Tok)) : Prop :=
  Res (fun a _ => P a) (fun _ => True) x

abbrev ImgP (x : Except PErr (Expr × List Tok)) : Prop := Img (fun e => printable e = true) x

theorem liftCall_img (f : Ident) (args : Exprs) (rest : List Tok)
    (ha : (printableArgs args || printableNamed args) = true) :
    ImgP (liftOutcome (functionCall f args) rest) := by
  cases hc : functionCall f args with
  | ok e =>
    obtain ⟨rfl, hok⟩ := callOk_of_functionCall f args e hc
    simp only [liftOutcome, Res_ok]
    simp only [printable, Bool.and_eq_true]
    exact ⟨hok, by simpa using ha⟩
  | lib _ => simp [liftOutcome]
  | notImplemented => simp [liftOutcome]
  | foreign _ => simp [liftOutcome]

theorem printableArgs_snoc : (acc : Exprs) → (e : Expr) →
    printableArgs (acc.snoc e) = (printableArgs acc && printable e)
  | .nil, e => by simp [Exprs.snoc, printableArgs]
  | .cons a t, e => by simp [Exprs.snoc, printableArgs, printableArgs_snoc t e, Bool.and_assoc]

theorem length_snoc : (acc : Exprs) → (e : Expr) → (acc.snoc e).length = acc.length + 1
  | .nil, e => rfl
  | .cons a t, e => by simp [Exprs.snoc, Exprs.length, length_snoc t e]

theorem printableNamed_snoc : (acc : Exprs) → (n : Ident) → (e : Expr) →
    printableNamed acc = true → printable e = true → printableNamed (acc.snoc (.named n e)) = true
  | .nil, _, _, h, _ => by cases h
  | .cons a t, n, e, h, he => by
      cases a with
      | named m b =>
        have h' := printableNamed_cons h
        cases t with
        | nil => exact Bool.and_eq_true_iff.mpr ⟨h'.1, he⟩
        | cons y t =>
          exact Bool.and_eq_true_iff.mpr ⟨h'.1, printableNamed_snoc (.cons y t) n e (h'.2 nofun) he⟩
      | _ => cases h

/-- what the right operand of `in` must be -/
def isListOk : Expr → Bool
  | .list xs => decide (xs.length ≥ 1) && printableArgs xs
  | _ => false

theorem printable_in (l r : Expr) (hl : printable l = true) (hr : isListOk r = true) :
    printable (.compare .in_ l r) = true := by
  cases r <;> simp_all [isListOk, printable]

theorem printable_cmp (o : CmpOp) (l r : Expr) (ho : o ≠ .in_) (hl : printable l = true)
    (hr : printable r = true) : printable (.compare o l r) = true := by
  cases o <;> simp_all [printable]

theorem printable_of_isListOk (e : Expr) (h : isListOk e = true) : printable e = true := by
  cases e <;> simp_all [isListOk, printable]

/-- a lambda was read (`all` needs one) and its body is printable -/
def lamPrintable : OptLam → Bool
  | .none => false
  | .some _ b => printable b

theorem lamOk_of_lamPrintable (op : CollOp) (lam : OptLam) (h : lamPrintable lam = true) :
    lamOk op lam = true := by
  cases lam <;> simp_all [lamPrintable, lamOk]

abbrev ItemsOk (xs : Exprs) : Prop := printableArgs xs = true ∧ 1 ≤ xs.length

theorem list_of_items (xs : Exprs) (h : ItemsOk xs) : isListOk (.list xs) = true := by
  simp [isListOk, h.1, h.2]

/-- `printable` on expressions and paths, a non-empty printable list on the right of `in`, printable items /
    named arguments, a lambda with a printable body -/
def image : ParseInv where
  K _ := True
  Q _ := True
  E e := printable e = true
  L e := isListOk e = true
  Items := ItemsOk
  Named xs := printableNamed xs = true
  Path e := printable e = true
  Lam lam := lamPrintable lam = true
  err _ _ := trivial
  lit _ _ _ := by simp [printable]
  unary _ _ h := by simpa [printable] using h
  boolop _ _ _ hl hr := by simp [printable, hl, hr]
  binop _ _ _ hl hr := by simp [printable, hl, hr]
  compare o l r ho hl hr := printable_cmp o l r ho hl hr
  isIn l r hl hr := printable_in l r hl hr
  list := list_of_items
  ofList := printable_of_isListOk
  one e he := ⟨by simp [printableArgs, he], by simp [Exprs.length]⟩
  snoc acc e ha he := ⟨by rw [printableArgs_snoc, ha.1, he]; rfl, by rw [length_snoc]; omega⟩
  named _ _ _ he := he
  namedSnoc acc n e _ := printableNamed_snoc acc n e
  call f args _ ha rest := liftCall_img f args rest (by
    rcases ha with rfl | h | h
    · rfl
    · simp [h.1]
    · simp [h])
  pathIdent _ _ := by simp [printable, pathOk]
  pathCons i tl _ ht rest := by
    cases hc : pathCons i tl with
    | ok e => exact pathCons_printable i tl e ht hc
    | _ => trivial
  pathAny _ _ := by simp [printable, pathOk]
  pathColl i op lam _ h := by rw [printable_coll, lamOk_of_lamPrintable _ _ h]; simp [pathOk]
  ofPath _ h := h
  lam _ _ _ h := by simpa [lamPrintable] using h

end OQ.ParserImage
