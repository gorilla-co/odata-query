/- Lemmas/LexRender.lean — helper lemmas for Props/C13Text.lean (character-level lexing of rendered OData tokens):
   no scanner of the lexer can tell `s.map φ ++ tl` from `s`, for `φ` a letter-case change (`CaseMap`) and `tl` empty or
   starting with a delimiter (`Delim`): the `_tr` lemmas; their two special cases `φ = id` and `tl = []` are what
   Props/C13Text.lean and Props/C19Text.lean use. -/
import ODataVerif.Model.Lexer
import ODataVerif.Spec.RefPrinter
import ODataVerif.Lemmas.Totality
namespace OQ.LexRender
open Spec

def ext {α : Type} (x : Option (α × List Char)) (tl : List Char) : Option (α × List Char) :=
  x.map (fun p => (p.1, p.2 ++ tl))

@[simp] theorem ext_none {α : Type} (tl : List Char) : ext (none : Option (α × List Char)) tl = none := rfl
@[simp] theorem ext_some {α : Type} (x : α × List Char) (tl : List Char) : ext (some x) tl = some (x.1, x.2 ++ tl) := rfl

section
variable (env : CharEnv)

theorem kw_ext (d : Char) (rest : List Char) : ∀ (w s : List Char), (∀ p ∈ w, ciChar env p d = false) →
    kw env w (s ++ d :: rest) = ext (kw env w s) (d :: rest)
  | [], s, _ => by simp [kw]
  | p :: ps, [], h => by simp [kw, h]
  | p :: ps, c :: cs, h => by
      simp only [kw, List.cons_append]
      split
      · rw [kw_ext d rest ps cs (fun q hq => h q (List.mem_cons_of_mem _ hq))]
        cases kw env ps cs with
        | none => simp
        | some x => simp
      · simp


/-- the characters that occur in the keyword patterns of the rules -/
def patChars : List Char := "abcdefghijklmnopqrstuvwxyz'".toList

/-- what the scanners need to know about a character `d` that delimits a literal or an identifier -/
structure Delim (d : Char) : Prop where
  digit : env.isDigit d = false
  word : env.isWord d = false
  ci : ∀ p ∈ patChars, ciChar env p d = false
  ne_dot : d ≠ '.'
  ne_plus : d ≠ '+'
  ne_minus : d ≠ '-'
  ne_quote : d ≠ '\''
  hexl : inCharRange 'a' 'f' d = false
  hexu : inCharRange 'A' 'F' d = false
  r02 : inCharRange '0' '2' d = false
  r01 : inCharRange '0' '1' d = false
  r03 : inCharRange '0' '3' d = false
  r05 : inCharRange '0' '5' d = false
  ne0 : d ≠ '0'
  ne1 : d ≠ '1'
  ne2 : d ≠ '2'
  ne3 : d ≠ '3'

/-- everything the rules ask about a first character -/
structure HeadFacts (c : Char) : Prop where
  d : ciChar env 'd' c = false
  g : ciChar env 'g' c = false
  t : ciChar env 't' c = false
  f : ciChar env 'f' c = false
  n : ciChar env 'n' c = false
  a : ciChar env 'a' c = false
  hex : isHex env c = false
  r01 : inCharRange '0' '1' c = false
  ne2 : c ≠ '2'
  digit : env.isDigit c = false
  ident : isIdentStart env c = false

variable {env}

theorem Delim.hex {d : Char} (hd : Delim env d) : isHex env d = false := by
  simp [isHex, hd.digit, hd.hexl, hd.hexu]

theorem Delim.cil {d : Char} (hd : Delim env d) (p : Char) (hp : p ∈ patChars := by decide) :
    ciChar env p d = false := hd.ci p hp

theorem Delim.kwl {d : Char} (hd : Delim env d) (w : List Char)
    (hw : ∀ p ∈ w, p ∈ patChars := by decide) : ∀ p ∈ w, ciChar env p d = false :=
  fun p hp => hd.ci p (hw p hp)

theorem Delim.beq {d : Char} (hd : Delim env d) :
    (d == '0') = false ∧ (d == '1') = false ∧ (d == '2') = false ∧ (d == '3') = false ∧ (d == '-') = false
    ∧ (d == '.') = false ∧ (d == '+') = false := by
  simp [hd.ne0, hd.ne1, hd.ne2, hd.ne3, hd.ne_minus, hd.ne_dot, hd.ne_plus]

end
end OQ.LexRender

namespace OQ.CaseMap
open LexRender

/-- a character map (letter-case change) that no scanner of the lexer can see -/
structure CaseMap (env : CharEnv) (φ : Char → Char) : Prop where
  space : ∀ c, env.isSpace (φ c) = env.isSpace c
  digit : ∀ c, env.isDigit (φ c) = env.isDigit c
  word : ∀ c, env.isWord (φ c) = env.isWord c
  ci : ∀ p ∈ patChars, ∀ c, ciChar env p (φ c) = ciChar env p c
  hex : ∀ c, isHex env (φ c) = isHex env c
  r02 : ∀ c, inCharRange '0' '2' (φ c) = inCharRange '0' '2' c
  r01 : ∀ c, inCharRange '0' '1' (φ c) = inCharRange '0' '1' c
  r03 : ∀ c, inCharRange '0' '3' (φ c) = inCharRange '0' '3' c
  r05 : ∀ c, inCharRange '0' '5' (φ c) = inCharRange '0' '5' c
  /-- the characters the rules compare with literally are fixed, and nothing else is mapped to them -/
  eqc : ∀ x ∈ ['0', '1', '2', '3', '+', '-', '.', '\'', ':'], ∀ c, φ c = x ↔ c = x
  durUp : ∀ c, durUpper (φ c) = durUpper c
  up : ∀ c, asciiUpper (φ c) = asciiUpper c
  low : ∀ c, asciiLower (φ c) = asciiLower c


variable {env : CharEnv} {φ : Char → Char}

def mapBoth (φ : Char → Char) (x : Option (Str × List Char)) : Option (Str × List Char) :=
  x.map fun p => (p.1.map φ, p.2.map φ)
/-- map the rest only (the value is case-normalised by the token action) -/
def mapRest {α : Type} (φ : Char → Char) (x : Option (α × List Char)) : Option (α × List Char) :=
  x.map fun p => (p.1, p.2.map φ)

@[simp] theorem mapBoth_none : mapBoth φ none = none := rfl
@[simp] theorem mapBoth_some (x : Str × List Char) : mapBoth φ (some x) = some (x.1.map φ, x.2.map φ) := rfl
@[simp] theorem mapRest_none {α : Type} : mapRest φ (none : Option (α × List Char)) = none := rfl
@[simp] theorem mapRest_some {α : Type} (x : α × List Char) : mapRest φ (some x) = some (x.1, x.2.map φ) := rfl

theorem CaseMap.fix (h : CaseMap env φ) {x : Char} (hx : x ∈ ['0', '1', '2', '3', '+', '-', '.', '\'', ':']) :
    φ x = x := (h.eqc x hx x).2 rfl

theorem CaseMap.ne (h : CaseMap env φ) {x c : Char} (hx : x ∈ ['0', '1', '2', '3', '+', '-', '.', '\'', ':'])
    (hc : c ≠ x) : φ c ≠ x := fun e => hc ((h.eqc x hx c).1 e)

theorem CaseMap.beq (h : CaseMap env φ) {x : Char} (hx : x ∈ ['0', '1', '2', '3', '+', '-', '.', '\'', ':']) (c : Char) :
    (φ c == x) = (c == x) := by
  by_cases hc : c = x
  · subst hc; rw [h.fix hx]
  · have e1 : (φ c == x) = false := by simpa using h.ne hx hc
    have e2 : (c == x) = false := by simpa using hc
    rw [e1, e2]

theorem map_durUpper (h : CaseMap env φ) (X : List Char) : (X.map φ).map durUpper = X.map durUpper := by
  simp [List.map_map, Function.comp_def, h.durUp]

theorem caseMap_id : CaseMap env id := by
  constructor <;> intros <;> first | rfl | exact Iff.rfl

end OQ.CaseMap

namespace OQ.LexRender
open Spec CaseMap
set_option linter.unusedSimpArgs false
variable {env : CharEnv} {φ : Char → Char} {tl : List Char}

theorem scanDatePart_short (s : List Char) (h : s.length < 10) : scanDatePart env s = none := by
  unfold scanDatePart
  split
  · simp at h; omega
  · rfl

theorem scanDatePart_ne4 {a0 a1 a2 a3 a4 a5 a6 a7 a8 a9 : Char} {r : List Char} (h : a4 ≠ '-') :
    scanDatePart env (a0 :: a1 :: a2 :: a3 :: a4 :: a5 :: a6 :: a7 :: a8 :: a9 :: r) = none := by
  unfold scanDatePart
  split
  · rename_i heq; simp at heq; exact absurd heq.2.2.2.2.1 h
  · rfl

theorem scanDatePart_ne7 {a0 a1 a2 a3 a4 a5 a6 a7 a8 a9 : Char} {r : List Char} (h : a7 ≠ '-') :
    scanDatePart env (a0 :: a1 :: a2 :: a3 :: a4 :: a5 :: a6 :: a7 :: a8 :: a9 :: r) = none := by
  unfold scanDatePart
  split
  · rename_i heq; simp at heq; exact absurd heq.2.2.2.2.2.2.2.1 h
  · rfl

theorem scanHourMinute_ne {a0 a1 a2 a3 a4 : Char} {r : List Char} (h : a2 ≠ ':') :
    scanHourMinute env (a0 :: a1 :: a2 :: a3 :: a4 :: r) = none := by
  unfold scanHourMinute
  split
  · rename_i heq; simp at heq; exact absurd heq.2.2.1 h
  · rfl

theorem scanHourMinute_short (s : List Char) (h : s.length < 5) : scanHourMinute env s = none := by
  unfold scanHourMinute
  split
  · simp at h; omega
  · rfl

theorem scanSeconds_single (a b : Char) (s : List Char) (h : a ≠ ':') :
    scanSeconds env (':' :: a :: b :: s) =
      if inCharRange '0' '5' a && env.isDigit b then
        some (':' :: a :: b :: (scanFraction env s).1, (scanFraction env s).2) else none := by
  unfold scanSeconds
  split
  · rename_i heq; simp at heq; exact absurd heq.1 h
  · rename_i hne heq; simp at heq
    obtain ⟨rfl, rfl, rfl⟩ := heq
    rfl
  · rename_i hne1 hne2; exact absurd rfl (hne2 _ _ _)

def AtDelim (env : CharEnv) (tl : List Char) : Prop := tl = [] ∨ ∃ d rest, tl = d :: rest ∧ Delim env d

/-- where a scanner's result goes when the text `s` becomes `s.map φ ++ tl` -/
def carry (φ : Char → Char) (tl : List Char) (x : Option (Str × List Char)) : Option (Str × List Char) :=
  x.map fun p => (p.1.map φ, p.2.map φ ++ tl)

@[simp] theorem carry_none : carry φ tl none = none := rfl
@[simp] theorem carry_some (x : Str × List Char) : carry φ tl (some x) = some (x.1.map φ, x.2.map φ ++ tl) := rfl

/-- where a result goes whose value the token action normalises, so that the case change is not seen in it -/
def carryRest (φ : Char → Char) (tl : List Char) (x : Option (Str × List Char)) : Option (Str × List Char) :=
  x.map fun p => (p.1, p.2.map φ ++ tl)

theorem carry_bind {x : Option (Str × List Char)} {F G : Str × List Char → Option (Str × List Char)}
    (h : ∀ p, F (p.1.map φ, p.2.map φ ++ tl) = carry φ tl (G p)) : (carry φ tl x).bind F = carry φ tl (x.bind G) := by
  cases x with
  | none => rfl
  | some p => exact h p

theorem AtDelim.nil : AtDelim env [] := Or.inl rfl
theorem AtDelim.cons {d : Char} (hd : Delim env d) (rest : List Char) : AtDelim env (d :: rest) := Or.inr ⟨d, rest, rfl, hd⟩

theorem AtDelim.stops {p : Char → Bool} (ht : AtDelim env tl) (hp : ∀ d, Delim env d → p d = false) : Stops p tl := by
  intro d rest e
  rcases ht with rfl | ⟨d', rest', rfl, hd⟩
  · cases e
  · cases e; exact hp d hd

theorem AtDelim.digit (ht : AtDelim env tl) : Stops env.isDigit tl := ht.stops fun _ hd => hd.digit
theorem AtDelim.hex (ht : AtDelim env tl) : Stops (isHex env) tl := ht.stops fun _ hd => hd.hex

/-- `kw` asks each pattern character's test only -/
theorem kw_tr : ∀ (w s : List Char), (∀ p ∈ w, ∀ c, ciChar env p (φ c) = ciChar env p c) →
    (∀ p ∈ w, Stops (ciChar env p) tl) → kw env w (s.map φ ++ tl) = carry φ tl (kw env w s)
  | [], s, _, _ => by simp [kw]
  | p :: ps, [], _, hs => by
      cases tl with
      | nil => rfl
      | cons d rest => simp [kw, hs p List.mem_cons_self d rest rfl]
  | p :: ps, c :: cs, hφ, hs => by
      simp only [kw, List.map_cons, List.cons_append, hφ p List.mem_cons_self]
      split
      · rw [kw_tr ps cs (fun q hq => hφ q (List.mem_cons_of_mem _ hq)) (fun q hq => hs q (List.mem_cons_of_mem _ hq))]
        cases kw env ps cs <;> rfl
      · rfl

theorem span_tr (p : Char → Bool) (hp : ∀ c, p (φ c) = p c) (hs : Stops p tl) : ∀ s : List Char,
    span p (s.map φ ++ tl) = ((span p s).1.map φ, (span p s).2.map φ ++ tl)
  | [] => by
      cases tl with
      | nil => rfl
      | cons d rest => simp [span, hs d rest rfl]
  | c :: cs => by
      simp only [span, List.map_cons, List.cons_append, hp]
      split
      · rw [span_tr p hp hs cs]; rfl
      · rfl

theorem span1_tr (p : Char → Bool) (hp : ∀ c, p (φ c) = p c) (hs : Stops p tl) (s : List Char) :
    span1 p (s.map φ ++ tl) = carry φ tl (span1 p s) := by
  unfold span1
  rw [span_tr p hp hs s]
  cases span p s with
  | mk a b => cases a <;> rfl

theorem takeN_tr (p : Char → Bool) (hp : ∀ c, p (φ c) = p c) (hs : Stops p tl) : ∀ (n : Nat) (s : List Char),
    takeN p n (s.map φ ++ tl) = carry φ tl (takeN p n s)
  | 0, s => by simp [takeN]
  | n + 1, [] => by
      cases tl with
      | nil => rfl
      | cons d rest =>
        simp [takeN, hs d rest rfl]
  | n + 1, c :: cs => by
      simp only [takeN, List.map_cons, List.cons_append, hp]
      split
      · rw [takeN_tr p hp hs n cs]
        cases takeN p n cs <;> rfl
      · rfl

theorem takeUpTo_tr (p : Char → Bool) (hp : ∀ c, p (φ c) = p c) (hs : Stops p tl) : ∀ (n : Nat) (s : List Char),
    takeUpTo p n (s.map φ ++ tl) = ((takeUpTo p n s).1.map φ, (takeUpTo p n s).2.map φ ++ tl)
  | 0, s => by simp [takeUpTo]
  | n + 1, [] => by
      cases tl with
      | nil => rfl
      | cons d rest =>
        simp [takeUpTo, hs d rest rfl]
  | n + 1, c :: cs => by
      simp only [takeUpTo, List.map_cons, List.cons_append, hp]
      split
      · rw [takeUpTo_tr p hp hs n cs]; rfl
      · rfl

/-! `scanDuration` with its pieces named: sign, date part, time part, closing quote -/

def durSign (r : List Char) : List Char × List Char :=
  match r with
  | '+' :: t => (['+'], t)
  | '-' :: t => (['-'], t)
  | _ => ([], r)

def durTime (env : CharEnv) (r : List Char) : List Char × List Char :=
  match r with
  | c :: t =>
      if ciChar env 't' c then
        (c :: (durGroup env 'h' t).1 ++ (durGroup env 'm' (durGroup env 'h' t).2).1
            ++ (durSeconds env (durGroup env 'm' (durGroup env 'h' t).2).2).1,
          (durSeconds env (durGroup env 'm' (durGroup env 'h' t).2).2).2)
      else ([], r)
  | [] => ([], r)

def durClose (v : List Char) : List Char → Option (Str × List Char)
  | '\'' :: r' => some (v.map durUpper, r')
  | _ => none

def durBody (env : CharEnv) (sg r : List Char) : Option (Str × List Char) :=
  (kw env ['p'] r).bind fun q =>
    let y := durGroup env 'y' q.2
    let mo := durGroup env 'm' y.2
    let d := durGroup env 'd' mo.2
    let tp := durTime env d.2
    durClose (sg ++ q.1 ++ y.1 ++ mo.1 ++ d.1 ++ tp.1) tp.2

theorem scanDuration_eq (cs : List Char) : scanDuration env cs =
    (kw env "duration'".toList cs).bind fun p => durBody env (durSign p.2).1 (durSign p.2).2 := by
  rfl

theorem durSign_cons (c : Char) (t : List Char) :
    durSign (c :: t) = if c = '+' then (['+'], t) else if c = '-' then (['-'], t) else ([], c :: t) := by
  by_cases h1 : c = '+'
  · subst h1; rfl
  by_cases h2 : c = '-'
  · subst h2; rfl
  rw [if_neg h1, if_neg h2]
  unfold durSign
  split
  · rename_i heq; cases heq; exact absurd rfl h1
  · rename_i heq; cases heq; exact absurd rfl h2
  · rfl

theorem durClose_cons (v : List Char) (c : Char) (t : List Char) :
    durClose v (c :: t) = if c = '\'' then some (v.map durUpper, t) else none := by
  by_cases h1 : c = '\''
  · subst h1; rfl
  rw [if_neg h1]
  unfold durClose
  split
  · rename_i heq; cases heq; exact absurd rfl h1
  · rfl

theorem dash_cons (c : Char) (t : List Char) : dash (c :: t) = if c = '-' then some t else none := by
  by_cases h : c = '-'
  · subst h; rfl
  rw [if_neg h]
  unfold dash
  split
  · rename_i heq; cases heq; exact absurd rfl h
  · rfl

theorem scanExponent_cons (e : Char) (r : List Char) : scanExponent env (e :: r) =
    if ciChar env 'e' e then (scanInteger env r).map fun p => (e :: p.1, p.2) else none := by
  simp only [scanExponent, scanInteger]
  split
  · split <;> simp only [Option.map_map] <;> rfl
  · rfl

/-- a date needs ten characters, none of them a delimiter -/
theorem scanDatePart_short_tail (ht : AtDelim env tl) (s : List Char) (hs : s.length < 10) :
    scanDatePart env (s ++ tl) = none := by
  rcases ht with rfl | ⟨d, rest, rfl, hd⟩
  · rw [List.append_nil]; exact scanDatePart_short s hs
  have hb := hd.beq
  unfold scanDatePart
  split
  · rename_i y1 y2 y3 y4 m1 m2 d1 d2 r heq
    rcases s with _ | ⟨a0, _ | ⟨a1, _ | ⟨a2, _ | ⟨a3, _ | ⟨a4, _ | ⟨a5, _ | ⟨a6, _ | ⟨a7, _ | ⟨a8, _ | ⟨a9, s⟩⟩⟩⟩⟩⟩⟩⟩⟩⟩
    all_goals simp [hd.ne_minus] at heq hs
    all_goals first | omega | simp [← heq, hd.digit, hd.r02, hd.r01, hb]
  · rfl

theorem scanHourMinute_short_tail (ht : AtDelim env tl) (hc : ∀ rest, tl ≠ ':' :: rest) (s : List Char) (hs : s.length < 5) :
    scanHourMinute env (s ++ tl) = none := by
  rcases ht with rfl | ⟨d, rest, rfl, hd⟩
  · rw [List.append_nil]; exact scanHourMinute_short s hs
  have hb := hd.beq
  have hc : d ≠ ':' := fun e => hc rest (by rw [e])
  unfold scanHourMinute
  split
  · rename_i h1 h2 m1 m2 r heq
    rcases s with _ | ⟨a0, _ | ⟨a1, _ | ⟨a2, _ | ⟨a3, _ | ⟨a4, s⟩⟩⟩⟩⟩
    all_goals simp [hc] at heq hs
    all_goals first | omega | simp [← heq, hd.digit, hd.r02, hd.r01, hd.r03, hd.r05, hb]
  · rfl

theorem scanSeconds_none {x : List Char}
    (h1 : ∀ a b r, x = ':' :: ':' :: a :: b :: r → (inCharRange '0' '5' a && env.isDigit b) = false)
    (h2 : ∀ a b r, x = ':' :: a :: b :: r → (inCharRange '0' '5' a && env.isDigit b) = false) :
    scanSeconds env x = none := by
  unfold scanSeconds
  split
  · rw [h1 _ _ _ rfl]; rfl
  · rw [h2 _ _ _ rfl]; rfl
  · rfl

/-- behind its colons a seconds group wants a `0`–`5` and a digit; a tail that starts with neither, nor with a colon,
    does not complete one -/
theorem scanSeconds_short (hc : ∀ r, tl ≠ ':' :: r) (h5 : Stops (inCharRange '0' '5') tl) (hd : Stops env.isDigit tl) :
    scanSeconds env tl = none ∧ scanSeconds env (':' :: tl) = none ∧ scanSeconds env (':' :: ':' :: tl) = none ∧
      (∀ x, scanSeconds env (':' :: ':' :: x :: tl) = none) ∧ ∀ x, x ≠ ':' → scanSeconds env (':' :: x :: tl) = none := by
  have c5 : inCharRange '0' '5' ':' = false := by decide
  refine ⟨scanSeconds_none ?_ ?_, scanSeconds_none ?_ ?_, scanSeconds_none ?_ ?_, fun x => scanSeconds_none ?_ ?_,
    fun x hx => scanSeconds_none ?_ ?_⟩
  all_goals intro a b r e
  · exact absurd e (hc _)
  · exact absurd e (hc _)
  · exact absurd (List.cons.inj e).2 (hc _)
  · rw [h5 a _ (List.cons.inj e).2]; rfl
  · rw [h5 a _ (List.cons.inj (List.cons.inj e).2).2]; rfl
  · rw [← (List.cons.inj (List.cons.inj e).2).1, c5]; rfl
  · rw [hd b _ (List.cons.inj (List.cons.inj (List.cons.inj e).2).2).2, Bool.and_false]
  · rw [← (List.cons.inj (List.cons.inj e).2).1, c5]; rfl
  · exact absurd (List.cons.inj (List.cons.inj e).2).1 hx
  · rw [hd b _ (List.cons.inj (List.cons.inj e).2).2, Bool.and_false]

section tr
variable (h : CaseMap env φ) (ht : AtDelim env tl)
include h ht

theorem kw_pat (w s : List Char) (hw : ∀ p ∈ w, p ∈ patChars) :
    kw env w (s.map φ ++ tl) = carry φ tl (kw env w s) :=
  kw_tr w s (fun p hp => h.ci p (hw p hp)) fun p hp => ht.stops fun _ hd => hd.ci p (hw p hp)

theorem durGroup_tr (l : Char) (hl : l ∈ patChars) (s : List Char) :
    durGroup env l (s.map φ ++ tl) = ((durGroup env l s).1.map φ, (durGroup env l s).2.map φ ++ tl) := by
  unfold durGroup
  rw [span1_tr _ h.digit ht.digit]
  cases span1 env.isDigit s with
  | none => rfl
  | some x =>
    obtain ⟨ds, r⟩ := x
    cases r with
    | nil =>
      rcases ht with rfl | ⟨d, rest, rfl, hd⟩
      · rfl
      · simp [hd.cil l hl]
    | cons c r => simp [h.ci l hl]; split <;> simp

theorem durSeconds_tr (s : List Char) :
    durSeconds env (s.map φ ++ tl) = ((durSeconds env s).1.map φ, (durSeconds env s).2.map φ ++ tl) := by
  unfold durSeconds
  rw [span1_tr _ h.digit ht.digit]
  cases span1 env.isDigit s with
  | none => rfl
  | some x =>
    obtain ⟨ds, r⟩ := x
    cases r with
    | nil =>
      rcases ht with rfl | ⟨d, rest, rfl, hd⟩
      · rfl
      · simp [hd.cil 's', hd.ne_dot]
    | cons c r =>
      by_cases hc : c = '.'
      · subst hc
        simp only [carry_some, List.map_cons, List.cons_append, h.fix (x := '.') (by decide)]
        rw [span1_tr _ h.digit ht.digit]
        cases span1 env.isDigit r with
        | none => rfl
        | some y =>
          obtain ⟨fs, r'⟩ := y
          cases r' with
          | nil =>
            rcases ht with rfl | ⟨d, rest, rfl, hd⟩
            · rfl
            · simp [hd.cil 's']
          | cons c' r' => simp [h.ci 's' (by decide)]; split <;> simp [h.fix (x := '.') (by decide)]
      · have hc' := h.ne (x := '.') (by decide) hc
        simp [hc, hc', h.ci 's' (by decide)]; split <;> simp

theorem durSign_tr (s : List Char) :
    durSign (s.map φ ++ tl) = ((durSign s).1.map φ, (durSign s).2.map φ ++ tl) := by
  rcases s with _ | ⟨c, s⟩
  · rcases ht with rfl | ⟨d, rest, rfl, hd⟩
    · rfl
    · rw [List.map_nil, List.nil_append, durSign_cons, if_neg hd.ne_plus, if_neg hd.ne_minus]; rfl
  · simp only [List.map_cons, List.cons_append, durSign_cons, h.eqc '+' (by decide) c, h.eqc '-' (by decide) c]
    split
    · simp only [List.map_cons, List.map_nil, h.fix (x := '+') (by decide)]
    · split
      · simp only [List.map_cons, List.map_nil, h.fix (x := '-') (by decide)]
      · rfl

theorem durTime_tr (s : List Char) :
    durTime env (s.map φ ++ tl) = ((durTime env s).1.map φ, (durTime env s).2.map φ ++ tl) := by
  rcases s with _ | ⟨c, s⟩
  · rcases ht with rfl | ⟨d, rest, rfl, hd⟩
    · rfl
    · simp [durTime, hd.cil 't']
  · simp only [List.map_cons, List.cons_append, durTime, h.ci 't' (by decide)]
    split
    · rw [durGroup_tr h ht 'h' (by decide), durGroup_tr h ht 'm' (by decide), durSeconds_tr h ht]
      simp only [List.map_cons, List.map_append]
    · rfl

theorem durClose_tr (v s : List Char) :
    durClose (v.map φ) (s.map φ ++ tl) = carryRest φ tl (durClose v s) := by
  rcases s with _ | ⟨c, s⟩
  · rcases ht with rfl | ⟨d, rest, rfl, hd⟩
    · rfl
    · rw [List.map_nil, List.nil_append, durClose_cons, if_neg hd.ne_quote]; rfl
  · simp only [List.map_cons, List.cons_append, durClose_cons, h.eqc '\'' (by decide) c, map_durUpper h]
    split <;> rfl

theorem durBody_tr (sg s : List Char) :
    durBody env (sg.map φ) (s.map φ ++ tl) = carryRest φ tl (durBody env sg s) := by
  unfold durBody
  rw [kw_pat h ht _ s (by decide)]
  cases kw env ['p'] s with
  | none => rfl
  | some q =>
    simp only [carry_some, Option.bind_some, durGroup_tr h ht 'y' (by decide), durGroup_tr h ht 'm' (by decide),
      durGroup_tr h ht 'd' (by decide), durTime_tr h ht, ← List.map_append, durClose_tr h ht]

theorem scanDuration_tr (s : List Char) :
    scanDuration env (s.map φ ++ tl) = carryRest φ tl (scanDuration env s) := by
  rw [scanDuration_eq, scanDuration_eq, kw_pat h ht _ s (by decide)]
  cases kw env "duration'".toList s with
  | none => rfl
  | some p => simp only [carry_some, Option.bind_some, durSign_tr h ht, durBody_tr h ht]

theorem dash_tr_bind (r : List Char) {F G : List Char → Option (Str × List Char)}
    (hFG : ∀ t, F (t.map φ ++ tl) = carry φ tl (G t)) :
    (dash (r.map φ ++ tl)).bind F = carry φ tl ((dash r).bind G) := by
  rcases r with _ | ⟨c, r⟩
  · rcases ht with rfl | ⟨d, rest, rfl, hd⟩
    · rfl
    · rw [List.map_nil, List.nil_append, dash_cons, if_neg hd.ne_minus]; rfl
  · simp only [List.map_cons, List.cons_append, dash_cons, h.eqc '-' (by decide) c]
    split
    · exact hFG r
    · rfl

theorem group_tr (n : Nat) {F G : Str → List Char → Option (Str × List Char)}
    (hFG : ∀ a t, F (a.map φ) (t.map φ ++ tl) = carry φ tl (G a t)) (s : List Char) :
    group env n (s.map φ ++ tl) F = carry φ tl (group env n s G) := by
  rw [group, takeN_tr _ h.hex ht.hex]
  exact carry_bind fun a => dash_tr_bind h ht _ (hFG a.1)

theorem scanGuid_tr (s : List Char) :
    scanGuid env (s.map φ ++ tl) = carry φ tl (scanGuid env s) := by
  rw [scanGuid_eq, scanGuid_eq]
  refine group_tr h ht 8 (fun a r => ?_) s
  refine group_tr h ht 4 (fun b r => ?_) r
  refine group_tr h ht 4 (fun c r => ?_) r
  refine group_tr h ht 4 (fun d r => ?_) r
  rw [takeN_tr _ h.hex ht.hex]
  refine carry_bind fun e => ?_
  simp only [carry_some, List.map_append, List.map_cons, h.fix (x := '-') (by decide)]

theorem scanInteger_tr (s : List Char) :
    scanInteger env (s.map φ ++ tl) = carry φ tl (scanInteger env s) := by
  have hsp := span1_tr env.isDigit h.digit ht.digit
  rcases s with _ | ⟨c, s⟩
  · rcases ht with rfl | ⟨d, rest, rfl, hd⟩
    · rfl
    · simp [scanInteger, hd.ne_plus, hd.ne_minus, span1, span, hd.digit]
  · by_cases h1 : c = '+'
    · subst h1
      simp only [List.map_cons, List.cons_append, h.fix (x := '+') (by decide), scanInteger, hsp]
      cases span1 env.isDigit s <;> simp [h.fix (x := '+') (by decide)]
    · by_cases h2 : c = '-'
      · subst h2
        simp only [List.map_cons, List.cons_append, h.fix (x := '-') (by decide), scanInteger, hsp]
        cases span1 env.isDigit s <;> simp [h.fix (x := '-') (by decide)]
      · have := hsp (c :: s)
        simp only [List.map_cons, List.cons_append] at this
        simp [scanInteger, h1, h2, h.ne (x := '+') (by decide) h1, h.ne (x := '-') (by decide) h2, this]

theorem scanExponent_tr (s : List Char) :
    scanExponent env (s.map φ ++ tl) = carry φ tl (scanExponent env s) := by
  rcases s with _ | ⟨e, s⟩
  · rcases ht with rfl | ⟨d, rest, rfl, hd⟩
    · rfl
    · simp [scanExponent, hd.cil 'e']
  · simp only [List.map_cons, List.cons_append, scanExponent_cons, h.ci 'e' (by decide), scanInteger_tr h ht]
    split
    · cases scanInteger env s <;> rfl
    · rfl

theorem scanDecimal_tr (s : List Char) :
    scanDecimal env (s.map φ ++ tl) = carry φ tl (scanDecimal env s) := by
  unfold scanDecimal
  simp only [Option.bind_eq_bind]
  rw [scanInteger_tr h ht]
  refine carry_bind fun x => ?_
  obtain ⟨i, r⟩ := x
  rcases r with _ | ⟨c, r⟩
  · rcases ht with rfl | ⟨d, rest, rfl, hd⟩
    · rfl
    · simp [hd.ne_dot, scanExponent, hd.cil 'e']
  · by_cases h1 : c = '.'
    · subst h1
      simp only [List.map_cons, List.cons_append, h.fix (x := '.') (by decide)]
      rw [span1_tr _ h.digit ht.digit]
      cases span1 env.isDigit r with
      | none => rfl
      | some y =>
        simp only [carry_some]
        rw [scanExponent_tr h ht]
        cases scanExponent env y.2 <;> simp [h.fix (x := '.') (by decide)]
    · have := scanExponent_tr h ht (c :: r)
      simp only [List.map_cons, List.cons_append] at this
      simp [h1, h.ne (x := '.') (by decide) h1, this]
      cases scanExponent env (c :: r) <;> simp

theorem scanFraction_tr (s : List Char) :
    scanFraction env (s.map φ ++ tl) = ((scanFraction env s).1.map φ, (scanFraction env s).2.map φ ++ tl) := by
  rcases s with _ | ⟨c, s⟩
  · rcases ht with rfl | ⟨d, rest, rfl, hd⟩
    · rfl
    · simp [scanFraction, hd.ne_dot]
  · by_cases hc : c = '.'
    · subst hc
      simp only [List.map_cons, List.cons_append, h.fix (x := '.') (by decide), scanFraction]
      rw [takeUpTo_tr _ h.digit ht.digit]
      generalize takeUpTo env.isDigit 12 s = x
      obtain ⟨a, b⟩ := x
      cases a <;> simp [h.fix (x := '.') (by decide)]
    · simp [scanFraction, hc, h.ne (x := '.') (by decide) hc]

theorem scanDatePart_tr (s : List Char) :
    scanDatePart env (s.map φ ++ tl) = carry φ tl (scanDatePart env s) := by
  have hd := h.fix (x := '-') (by decide)
  by_cases hs : s.length < 10
  · rw [scanDatePart_short s hs, scanDatePart_short_tail ht _ (by simpa using hs)]; rfl
  · rcases s with _ | ⟨a0, _ | ⟨a1, _ | ⟨a2, _ | ⟨a3, _ | ⟨a4, _ | ⟨a5, _ | ⟨a6, _ | ⟨a7, _ | ⟨a8, _ | ⟨a9, s⟩⟩⟩⟩⟩⟩⟩⟩⟩⟩
    all_goals simp at hs
    by_cases h4 : a4 = '-'
    · by_cases h7 : a7 = '-'
      · subst h4 h7
        simp only [List.map_cons, List.cons_append, hd, scanDatePart, h.digit, h.r02, h.r01, h.beq (x := '0') (by decide),
          h.beq (x := '1') (by decide), h.beq (x := '3') (by decide)]
        split <;> simp [hd]
      · simp only [List.map_cons, List.cons_append]
        rw [scanDatePart_ne7 h7, scanDatePart_ne7 (h.ne (x := '-') (by decide) h7)]; rfl
    · simp only [List.map_cons, List.cons_append]
      rw [scanDatePart_ne4 h4, scanDatePart_ne4 (h.ne (x := '-') (by decide) h4)]; rfl

theorem scanHourMinute_tr (hc : ∀ rest, tl ≠ ':' :: rest) (s : List Char) :
    scanHourMinute env (s.map φ ++ tl) = carry φ tl (scanHourMinute env s) := by
  have hd := h.fix (x := ':') (by decide)
  by_cases hs : s.length < 5
  · rw [scanHourMinute_short s hs, scanHourMinute_short_tail ht hc _ (by simpa using hs)]; rfl
  · rcases s with _ | ⟨a0, _ | ⟨a1, _ | ⟨a2, _ | ⟨a3, _ | ⟨a4, s⟩⟩⟩⟩⟩
    all_goals simp at hs
    by_cases h2 : a2 = ':'
    · subst h2
      simp only [List.map_cons, List.cons_append, hd, scanHourMinute, h.digit, h.r01, h.r03, h.r05, h.beq (x := '2') (by decide)]
      split <;> simp [hd]
    · simp only [List.map_cons, List.cons_append]
      rw [scanHourMinute_ne h2, scanHourMinute_ne (h.ne (x := ':') (by decide) h2)]; rfl

theorem scanOffset_tr (hc : ∀ rest, tl ≠ ':' :: rest) (s : List Char) :
    scanOffset env (s.map φ ++ tl) = ((scanOffset env s).1.map φ, (scanOffset env s).2.map φ ++ tl) := by
  rcases s with _ | ⟨c, s⟩
  · rcases ht with rfl | ⟨d, rest, rfl, hd⟩
    · rfl
    · simp [scanOffset, hd.cil 'z', hd.ne_plus, hd.ne_minus]
  · simp only [List.map_cons, List.cons_append, scanOffset, h.ci 'z' (by decide), h.beq (x := '+') (by decide),
      h.beq (x := '-') (by decide)]
    split
    · rfl
    · split
      · rw [scanHourMinute_tr h ht hc]
        cases scanHourMinute env s <;> rfl
      · rfl

theorem scanSeconds_tr (hc : ∀ rest, tl ≠ ':' :: rest) (s : List Char) :
    scanSeconds env (s.map φ ++ tl) = carry φ tl (scanSeconds env s) := by
  have hd := h.fix (x := ':') (by decide)
  obtain ⟨t0, t1, t2, t3, t4⟩ := scanSeconds_short hc (ht.stops fun _ hd => hd.r05) ht.digit
  obtain ⟨e0, e1, e2, e3, e4⟩ := scanSeconds_short (env := env) (tl := []) (fun _ e => nomatch e) (fun _ _ e => nomatch e)
    (fun _ _ e => nomatch e)
  rcases s with _ | ⟨c, s⟩
  · rw [List.map_nil, List.nil_append, t0, e0]; rfl
  by_cases h1 : c = ':'
  case neg => simp [scanSeconds, h1, h.ne (x := ':') (by decide) h1]
  subst h1
  rcases s with _ | ⟨a, s⟩
  · simp only [List.map_cons, List.map_nil, List.cons_append, List.nil_append, hd, t1, e1]; rfl
  by_cases h2 : a = ':'
  · subst h2
    rcases s with _ | ⟨a, _ | ⟨b, s⟩⟩
    · simp only [List.map_cons, List.map_nil, List.cons_append, List.nil_append, hd, t2, e2]; rfl
    · simp only [List.map_cons, List.map_nil, List.cons_append, List.nil_append, hd, t3, e3]; rfl
    · simp only [List.map_cons, List.cons_append, hd, scanSeconds, h.r05, h.digit]
      split
      · rw [scanFraction_tr h ht]; simp [hd]
      · rfl
  · have h2' := h.ne (x := ':') (by decide) h2
    rcases s with _ | ⟨b, s⟩
    · simp only [List.map_cons, List.map_nil, List.cons_append, List.nil_append, hd, t4 _ h2', e4 _ h2]; rfl
    · simp only [List.map_cons, List.cons_append, hd]
      rw [scanSeconds_single _ _ _ h2', scanSeconds_single _ _ _ h2]
      simp only [h.r05, h.digit]
      split
      · rw [scanFraction_tr h ht]; simp [hd]
      · rfl

theorem scanTime_tr (hc : ∀ rest, tl ≠ ':' :: rest) (s : List Char) :
    scanTime env (s.map φ ++ tl) = carry φ tl (scanTime env s) := by
  unfold scanTime
  simp only [Option.bind_eq_bind]
  rw [scanHourMinute_tr h ht hc]
  refine carry_bind fun x => ?_
  simp only []
  rw [scanSeconds_tr h ht hc]
  cases scanSeconds env x.2 <;> simp

theorem scanDateTime_tr (hc : ∀ rest, tl ≠ ':' :: rest) (s : List Char) :
    scanDateTime env (s.map φ ++ tl) = carryRest φ tl (scanDateTime env s) := by
  unfold scanDateTime
  simp only [Option.bind_eq_bind]
  rw [scanDatePart_tr h ht]
  cases scanDatePart env s with
  | none => rfl
  | some x =>
    obtain ⟨dt, r⟩ := x
    simp only [carry_some, Option.bind_some]
    cases r with
    | nil =>
      rcases ht with rfl | ⟨d, rest, rfl, hd⟩
      · rfl
      · simp [hd.cil 't']; rfl
    | cons t r =>
      simp only [List.map_cons, List.cons_append, h.ci 't' (by decide)]
      split
      · rw [scanHourMinute_tr h ht hc]
        cases scanHourMinute env r with
        | none => rfl
        | some y =>
          obtain ⟨hm, r2⟩ := y
          simp only [carry_some, Option.bind_some]
          rw [scanSeconds_tr h ht hc]
          cases scanSeconds env r2 <;>
            simp [carryRest, scanOffset_tr h ht hc, pure, List.map_map, Function.comp_def, h.up]
      · rfl

theorem notIdentCont_tr (hdot : tl ≠ [] → env.isWord '.' = false) (s : List Char) :
    notIdentCont env (s.map φ ++ tl) = notIdentCont env s := by
  have hw : notIdentCont env tl = true := by
    rcases ht with rfl | ⟨d, rest, rfl, hd⟩
    · rfl
    · simp [notIdentCont, hd.ne_dot, hd.word]
  rcases s with _ | ⟨c, s⟩
  · exact hw
  · by_cases h1 : c = '.'
    · subst h1
      rcases s with _ | ⟨c, s⟩
      · rcases ht with rfl | ⟨d, rest, rfl, hd⟩
        · simp [notIdentCont, h.fix (x := '.') (by decide)]
        · simp [notIdentCont, h.fix (x := '.') (by decide), hd.word, hdot (by simp)]
      · simp [notIdentCont, h.fix (x := '.') (by decide), h.word]
    · simp [notIdentCont, h1, h.ne (x := '.') (by decide) h1, h.word]

theorem scanWord_tr (hdot : tl ≠ [] → env.isWord '.' = false) (w : List Char)
    (hw : ∀ p ∈ w, p ∈ patChars) (s : List Char) :
    scanWord env w (s.map φ ++ tl) = carry φ tl (scanWord env w s) := by
  unfold scanWord
  rw [kw_pat h ht w s hw]
  cases kw env w s with
  | none => rfl
  | some x =>
    simp only [carry_some]
    rw [notIdentCont_tr h ht hdot]
    split <;> rfl

end tr

theorem strBody_ext (d : Char) (hd : d ≠ '\'') (rest : List Char) (s b : List Char)
    (h : strBody s = some (b, [])) : strBody (s ++ d :: rest) = some (b, d :: rest) := by
  fun_induction strBody s generalizing b with
  | case1 => simp at h
  | case2 t b' r' heq ih =>
      simp [heq] at h
      obtain ⟨rfl, rfl⟩ := h
      simp [strBody, ih _ heq]
  | case3 t heq => simp [heq] at h
  | case4 t hne =>
      simp at h
      obtain ⟨rfl, rfl⟩ := h
      simp [strBody, hd]
  | case5 c t hne1 hne2 b' r' heq ih =>
      simp [heq] at h
      obtain ⟨rfl, rfl⟩ := h
      have := ih _ heq
      rw [List.cons_append, strBody.eq_def]
      split
      · simp_all
      · rename_i heq2; simp at heq2; exact absurd heq2.1 hne2
      · rename_i heq2; simp at heq2; exact absurd heq2.1 hne2
      · rename_i heq2; simp at heq2; obtain ⟨rfl, rfl⟩ := heq2; simp [this]
  | case6 c t hne1 hne2 heq => simp [heq] at h


theorem identTail_ne (n : Nat) (c : Char) (X : List Char) (h : c ≠ '.') :
    identTail env (n+1) (c :: X) =
      if env.isWord c then (c :: (identTail env n X).1, (identTail env n X).2) else ([], c :: X) := by
  rw [identTail.eq_def]
  split
  · rename_i h1; omega
  · rename_i n' c' t' h1 h2; simp at h2; exact absurd h2.1 h
  · rename_i n' c' t' hne h1 h2
    simp at h1 h2
    obtain ⟨rfl, rfl⟩ := h2
    subst h1
    split <;> rfl
  · rename_i h1 h2; simp at h2

theorem identTail_ext {d : Char} (hd : Delim env d) (hdot : env.isWord '.' = false) (rest : List Char) (n : Nat) (s : List Char) :
    identTail env n (s ++ d :: rest) = ((identTail env n s).1, (identTail env n s).2 ++ d :: rest) := by
  fun_induction identTail env n s with
  | case1 cs => simp [identTail]
  | case2 n c t hw a b heq ih =>
      simp only [List.cons_append, identTail, hw, if_true]
      rw [ih, heq]
  | case3 n c t hw => simp [identTail, hw]
  | case4 n c t hne hw a b heq ih =>
      have hc : c ≠ '.' := by rintro rfl; simp [hdot] at hw
      simp only [List.cons_append]
      rw [identTail_ne _ _ _ hc, ih, heq]
      simp [hw]
  | case5 n c t hne hw =>
      by_cases hc : c = '.'
      · subst hc
        rcases t with _ | ⟨c1, t1⟩
        · simp [identTail, hd.word]
        · exact absurd rfl (hne _ _ rfl)
      · simp only [List.cons_append]
        rw [identTail_ne _ _ _ hc]
        simp [hw]
  | case6 n => simp [identTail, hd.word, hd.ne_dot]


theorem scanIdent_ext {d : Char} (hd : Delim env d) (hdot : env.isWord '.' = false) (hi : isIdentStart env d = false)
    (rest s : List Char) :
    scanIdent env (s ++ d :: rest) = ext (scanIdent env s) (d :: rest) := by
  rcases s with _ | ⟨c, s⟩
  · simp [scanIdent, hi]
  · simp only [List.cons_append, scanIdent]
    split
    · rw [identTail_ext hd hdot]; simp
    · simp



theorem ext_of {f : List Char → Option (Str × List Char)} {tl : List Char}
    (hf : ∀ s, f (s.map id ++ tl) = carry id tl (f s)) (s : List Char) : f (s ++ tl) = ext (f s) tl := by
  have := hf s
  rw [List.map_id] at this
  rw [this]; cases f s <;> simp [carry]

theorem ext_of_rest {f : List Char → Option (Str × List Char)} {tl : List Char}
    (hf : ∀ s, f (s.map id ++ tl) = carryRest id tl (f s)) (s : List Char) : f (s ++ tl) = ext (f s) tl := by
  have := hf s
  rw [List.map_id] at this
  rw [this]; cases f s <;> simp [carryRest]

theorem span1_ext (p : Char → Bool) (d : Char) (rest : List Char) (hd : p d = false) (s : List Char) :
    span1 p (s ++ d :: rest) = ext (span1 p s) (d :: rest) :=
  ext_of (span1_tr p (fun _ => rfl) fun _ _ e => by cases e; exact hd) s

end OQ.LexRender
