/-
  Identifiers: the text of an ASCII dotted identifier that is not a keyword literal lexes, alone, to
  the identifier token (`lexOne_ident_of`); what `scanIdent` returns has that shape (`scanIdent_shape`); `splitDots` / `spellIdent`.
-/
import ODataVerif.Lemmas.AcceptedBase
namespace OQ.AcceptedLex
open OQ.LexRender OQ.Spec OQ.CaseMap OQ.LitSpell
open OQ.LitLex (Tail nd DottedOk word_ne_dot tail_word tail_dot tail_app)
set_option linter.unusedSimpArgs false

theorem tail_chars {t : Str} (ht : Tail t) : (∀ x ∈ t, isWordA x = true ∨ x = '.') ∧ t.getLast? ≠ some '.' := by
  fun_induction Tail t with
  | case1 => simp
  | case2 c t ih =>
    obtain ⟨hw, ht'⟩ := ht
    obtain ⟨h1, h2⟩ := ih ht'
    refine ⟨?_, ?_⟩
    · intro x hx
      simp only [List.mem_cons] at hx
      rcases hx with rfl | rfl | hx
      · exact Or.inr rfl
      · exact Or.inl hw
      · exact h1 x hx
    · cases t with
      | nil => simpa using word_ne_dot hw
      | cons d t' => simpa [List.getLast?_cons_cons] using h2
  | case3 c t hne ih =>
    obtain ⟨hw, ht'⟩ := ht
    have hc := word_ne_dot hw
    obtain ⟨h1, h2⟩ := ih ht'
    refine ⟨?_, ?_⟩
    · intro x hx
      rcases List.mem_cons.1 hx with rfl | hx
      · exact Or.inl hw
      · exact h1 x hx
    · cases t with
      | nil => simpa using hc
      | cons d t' => simpa [List.getLast?_cons_cons] using h2
structure IdText (c : Char) (t0 : Str) : Prop where
  start : isStartA c = true
  tail : Tail t0
  nd : nd t0 ≤ 127

section identRules
variable {c : Char} {t0 : Str} (hX : IdText c t0)
include hX

theorem idText_word : isWordA c = true := by simp [isWordA, hX.start]

theorem idText_chars : ∀ x ∈ c :: t0, isWordA x = true ∨ x = '.' := by
  intro x hx
  rcases List.mem_cons.1 hx with rfl | hx
  · exact Or.inl (idText_word hX)
  · exact (tail_chars hX.tail).1 x hx

theorem idText_tail : Tail (c :: t0) := (tail_word (idText_word hX)).2 hX.tail

theorem idText_dotted : DottedOk (c :: t0) (nd t0 + 1) :=
  ⟨idText_tail hX, by simp [nd, List.filter_cons, word_ne_dot (idText_word hX)], ⟨c, t0, rfl, idText_word hX⟩, idText_chars hX⟩

theorem idText_ascii : (c :: t0).all isAscii = true := LitLex.dotted_ascii (idText_dotted hX)

end identRules

/-- the words that are literals / collection operators on their own, in any letter case -/
def litWords : List Str := ["true".toList, "false".toList, "null".toList, "any".toList, "all".toList]
def notLitWord (s : Str) : Prop := s.map asciiLower ∉ litWords

theorem lexOne_ident_of (c : Char) (t0 : Str) (hX : IdText c t0) (hres : notLitWord (c :: t0)) :
    lexOne E (c :: t0) = some (.ident (identOfText (c :: t0)), []) :=
  LitLex.lexOne_ident_of c t0 _ (idText_dotted hX) hX.start (Nat.succ_le_succ hX.nd) (by rw [lowerA_eq]; exact hres)

theorem joinDotsS_cons2 (x y : Str) (r : List Str) :
    spellIdent.joinDotsS (x :: y :: r) = x ++ '.' :: spellIdent.joinDotsS (y :: r) := by
  simp [spellIdent.joinDotsS]

theorem joinDotsS_consc (c : Char) (h : Str) (r : List Str) :
    spellIdent.joinDotsS ((c :: h) :: r) = c :: spellIdent.joinDotsS (h :: r) := by
  cases r with
  | nil => simp [spellIdent.joinDotsS]
  | cons y r => simp [joinDotsS_cons2]

theorem splitDots_spec (s : Str) :
    splitDots s ≠ [] ∧ (∀ p ∈ splitDots s, '.' ∉ p) ∧ spellIdent.joinDotsS (splitDots s) = s := by
  fun_induction splitDots s with
  | case1 => simp [spellIdent.joinDotsS]
  | case2 t ih =>
    obtain ⟨h1, h2, h3⟩ := ih
    obtain ⟨h, r, e⟩ := List.exists_cons_of_ne_nil h1
    refine ⟨by simp, ?_, ?_⟩
    · intro p hp
      rcases List.mem_cons.1 hp with rfl | hp
      · simp
      · exact h2 p hp
    · rw [e, joinDotsS_cons2, ← e, h3]; rfl
  | case3 c t hc h r heq ih =>
    rw [heq] at ih
    obtain ⟨-, h2, h3⟩ := ih
    refine ⟨by simp, ?_, by rw [joinDotsS_consc, h3]⟩
    intro p hp
    rcases List.mem_cons.1 hp with rfl | hp
    · intro hm
      rcases List.mem_cons.1 hm with e | hm
      · exact hc e.symm
      · exact h2 h List.mem_cons_self hm
    · exact h2 p (List.mem_cons_of_mem _ hp)
  | case4 c t hc heq ih => exact absurd heq ih.1
theorem dropLast_getLast (L : List Str) (h : L ≠ []) : L.dropLast ++ [L.getLast?.getD []] = L := by
  rw [List.getLast?_eq_some_getLast h]
  simp [List.dropLast_concat_getLast]

theorem spellIdent_identOfText (s : Str) : spellIdent (identOfText s) = s := by
  simp only [spellIdent, identOfText]
  rw [dropLast_getLast _ (splitDots_spec s).1, (splitDots_spec s).2.2]

theorem splitDots_nodot : ∀ s : Str, '.' ∉ s → splitDots s = [s] := LitValue.splitDots_nodot

theorem joinDotsS_snoc : ∀ (L : List Str) (n : Str), L ≠ [] →
    ∃ P, spellIdent.joinDotsS (L ++ [n]) = P ++ '.' :: n
  | [], n, h => absurd rfl h
  | [x], n, _ => ⟨x, by simp [spellIdent.joinDotsS]⟩
  | x :: y :: L, n, _ => by
    obtain ⟨P, hP⟩ := joinDotsS_snoc (y :: L) n (by simp)
    refine ⟨x ++ '.' :: P, ?_⟩
    have : (x :: y :: L) ++ [n] = x :: y :: (L ++ [n]) := rfl
    rw [this, joinDotsS_cons2]
    have : y :: (L ++ [n]) = (y :: L) ++ [n] := rfl
    rw [this, hP]; simp

theorem identOfText_name (s : Str) :
    '.' ∉ (identOfText s).name ∧ (∃ P, s = P ++ (identOfText s).name) ∧
    ((identOfText s).name = [] → s = [] ∨ s.getLast? = some '.') := by
  have hne := (splitDots_spec s).1
  have hj := spellIdent_identOfText s
  have hmem : (identOfText s).name ∈ splitDots s := by
    simp only [identOfText]
    cases hl : (splitDots s).getLast? with
    | none => simp [List.getLast?_eq_none_iff] at hl; exact absurd hl hne
    | some a => simpa using List.mem_of_getLast? hl
  refine ⟨(splitDots_spec s).2.1 _ hmem, ?_, ?_⟩
  · by_cases hns : (identOfText s).ns = []
    · refine ⟨[], ?_⟩
      simp only [spellIdent, hns, List.nil_append, spellIdent.joinDotsS] at hj
      simp [hj]
    · obtain ⟨P, hP⟩ := joinDotsS_snoc _ (identOfText s).name hns
      simp only [spellIdent] at hj
      rw [hP] at hj
      exact ⟨P ++ ['.'], by rw [List.append_assoc]; exact hj.symm⟩
  · intro he
    by_cases hns : (identOfText s).ns = []
    · left
      simp only [spellIdent, hns, he, List.nil_append, spellIdent.joinDotsS] at hj
      exact hj.symm
    · right
      obtain ⟨P, hP⟩ := joinDotsS_snoc _ (identOfText s).name hns
      simp only [spellIdent] at hj
      rw [hP, he] at hj
      rw [← hj]; simp

theorem identTail_shape (n : Nat) (t : Str) (ha : t.all isAscii = true) :
    t = (identTail E n t).1 ++ (identTail E n t).2 ∧ Tail (identTail E n t).1 ∧ nd (identTail E n t).1 ≤ n ∧
    (nd (identTail E n t).1 < n → notIdentCont E (identTail E n t).2 = true) := by
  fun_induction identTail E n t with
  | case1 cs => simp [Tail, nd]
  | case2 n c t hw a b heq ih =>
      simp only [List.all_cons, Bool.and_eq_true] at ha
      rw [heq] at ih
      obtain ⟨h1, h2, h3, h4⟩ := ih ha.2.2
      dsimp only at h1 h2 h3 h4 ⊢
      have hwA : isWordA c = true := word_ascii ha.2.1 hw
      have hcd := word_ne_dot hwA
      refine ⟨by rw [h1]; simp, tail_dot.2 ⟨hwA, h2⟩, ?_, ?_⟩
      · simp [nd, List.filter_cons, hcd] at h3 ⊢; omega
      · intro hlt
        apply h4
        simp [nd, List.filter_cons, hcd] at hlt ⊢; omega
  | case3 n c t hw =>
      refine ⟨rfl, trivial, by simp [nd], ?_⟩
      intro _
      simp [notIdentCont, hw]
  | case4 n c t hne hw a b heq ih =>
      simp only [List.all_cons, Bool.and_eq_true] at ha
      rw [heq] at ih
      obtain ⟨h1, h2, h3, h4⟩ := ih ha.2
      dsimp only at h1 h2 h3 h4 ⊢
      have hwA : isWordA c = true := word_ascii ha.1 hw
      have hcd := word_ne_dot hwA
      refine ⟨by rw [h1]; simp, (tail_word hwA).2 h2, ?_, ?_⟩
      · simp [nd, List.filter_cons, hcd] at h3 ⊢; omega
      · intro hlt
        apply h4
        simp [nd, List.filter_cons, hcd] at hlt ⊢; omega
  | case5 n c t hne hw =>
      refine ⟨rfl, trivial, by simp [nd], ?_⟩
      intro _
      rw [notIdentCont.eq_def]
      split
      · rename_i heq
        simp only [List.cons.injEq] at heq
        obtain ⟨rfl, rfl⟩ := heq
        exact (hne _ _ rfl rfl).elim
      · rename_i heq
        simp only [List.cons.injEq] at heq
        obtain ⟨rfl, rfl⟩ := heq
        simp [hw]
      · rename_i heq; cases heq
  | case6 n => simp [Tail, nd, notIdentCont]

theorem scanIdent_shape {cs r : Str} {i : Ident} (ha : cs.all isAscii = true) (h : scanIdent E cs = some (i, r)) :
    ∃ c t0, cs = (c :: t0) ++ r ∧ i = identOfText (c :: t0) ∧ IdText c t0 ∧ (nd t0 < 127 → notIdentCont E r = true) := by
  unfold scanIdent at h
  split at h
  · rename_i c t
    simp only [List.all_cons, Bool.and_eq_true] at ha
    split at h
    · rename_i hc
      obtain ⟨h1, h2, h3, h4⟩ := identTail_shape 127 t ha.2
      simp only [Option.some.injEq, Prod.mk.injEq] at h
      obtain ⟨rfl, rfl⟩ := h
      exact ⟨c, (identTail E 127 t).1, by rw [List.cons_append, ← h1], rfl, ⟨start_ascii ha.1 hc, h2, h3⟩, h4⟩
    · simp at h
  · simp at h

end OQ.AcceptedLex
