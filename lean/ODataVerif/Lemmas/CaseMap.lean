/- Lemmas/CaseMap.lean — the scanners of the lexer commute with a letter-case change `φ` of the input (`CaseMap env φ`:
   no character test of any rule can tell `φ c` from `c`), for Props/C19Text.lean: the case `tl = []` of the `_tr`
   lemmas of Lemmas/LexRender.lean, and the scanners of quoted text, which only this side needs. -/
import ODataVerif.Lemmas.LexRender
namespace OQ.CaseMap
open Spec LexRender

variable {env : CharEnv} {φ : Char → Char}

theorem map_of {f : List Char → Option (Str × List Char)} (hf : ∀ s, f (s.map φ ++ []) = carry φ [] (f s)) (s : List Char) :
    f (s.map φ) = mapBoth φ (f s) := by
  have := hf s
  rw [List.append_nil] at this
  rw [this]; cases f s <;> simp [carry]

theorem map_of_rest {f : List Char → Option (Str × List Char)} (hf : ∀ s, f (s.map φ ++ []) = carryRest φ [] (f s))
    (s : List Char) : f (s.map φ) = mapRest φ (f s) := by
  have := hf s
  rw [List.append_nil] at this
  rw [this]; cases f s <;> simp [carryRest]

theorem kw_map (h : CaseMap env φ) (w s : List Char) (hw : ∀ p ∈ w, p ∈ patChars) :
    kw env w (s.map φ) = mapBoth φ (kw env w s) :=
  map_of (fun s => kw_pat h AtDelim.nil w s hw) s

theorem span1_map (p : Char → Bool) (hp : ∀ c, p (φ c) = p c) (s : List Char) :
    span1 p (s.map φ) = mapBoth φ (span1 p s) :=
  map_of (span1_tr p hp fun _ _ e => by cases e) s

theorem scanDuration_map (h : CaseMap env φ) (s : List Char) :
    scanDuration env (s.map φ) = mapRest φ (scanDuration env s) :=
  map_of_rest (scanDuration_tr h AtDelim.nil) s

theorem strBody_qq (t : List Char) : strBody ('\'' :: '\'' :: t) =
    match strBody t with
    | some (b, r) => some ('\'' :: '\'' :: b, r)
    | none => some ([], '\'' :: t) := by rw [strBody]; rfl

theorem strBody_q (t : List Char) (h : ∀ t', t ≠ '\'' :: t') : strBody ('\'' :: t) = some ([], t) := by
  rw [strBody.eq_def]
  split
  · rename_i heq; simp at heq
  · rename_i heq; simp at heq; exact absurd heq (h _)
  · rename_i heq; simp at heq; rw [heq]
  · rename_i hx heq; simp at heq; exact absurd heq.1.symm hx

theorem strBody_c (c : Char) (t : List Char) (h : c ≠ '\'') : strBody (c :: t) =
    match strBody t with
    | some (b, r) => some (c :: b, r)
    | none => none := by
  rw [strBody.eq_def]
  split
  · rename_i heq; simp at heq
  · rename_i heq; simp at heq; exact absurd heq.1 h
  · rename_i heq; simp at heq; exact absurd heq.1 h
  · rename_i heq; simp at heq; obtain ⟨rfl, rfl⟩ := heq; rfl

theorem strBody_map (h : CaseMap env φ) : ∀ s : List Char, strBody (s.map φ) = mapBoth φ (strBody s)
  | [] => by simp [strBody]
  | c :: t => by
      have hq := h.fix (x := '\'') (by decide)
      by_cases hc : c = '\''
      · subst hc
        rw [List.map_cons, hq]
        cases t with
        | nil => rw [List.map_nil, strBody_q [] (by simp)]; simp
        | cons c2 t2 =>
          by_cases hc2 : c2 = '\''
          · subst hc2
            rw [List.map_cons, hq, strBody_qq, strBody_qq, strBody_map h t2]
            cases strBody t2 <;> simp [hq]
          · have hc2' := h.ne (x := '\'') (by decide) hc2
            rw [List.map_cons, strBody_q _ (by intro t' e; simp at e; exact hc2' e.1),
              strBody_q _ (by intro t' e; simp at e; exact hc2 e.1)]
            simp
      · have hc' := h.ne (x := '\'') (by decide) hc
        rw [List.map_cons, strBody_c _ _ hc', strBody_c _ _ hc, strBody_map h t]
        cases strBody t <;> simp

theorem unescape_c (c : Char) (t : List Char) (h : ∀ t', c = '\'' → t ≠ '\'' :: t') :
    unescape (c :: t) = c :: unescape t := by
  rw [unescape.eq_def]
  split
  · rename_i heq; simp at heq; exact absurd heq.2 (h _ heq.1)
  · rename_i heq; simp at heq; obtain ⟨rfl, rfl⟩ := heq; rfl
  · rename_i heq; simp at heq

theorem unescape_map (h : CaseMap env φ) : ∀ s : List Char, unescape (s.map φ) = (unescape s).map φ
  | [] => rfl
  | [c] => by
      rw [List.map_cons, List.map_nil, unescape_c _ _ (by simp), unescape_c _ _ (by simp)]; rfl
  | c :: c2 :: t => by
      have hq := h.fix (x := '\'') (by decide)
      by_cases hc : c = '\'' ∧ c2 = '\''
      · obtain ⟨rfl, rfl⟩ := hc
        simp only [List.map_cons, hq, unescape]
        rw [unescape_map h t]
      · have h1 : ∀ t', c = '\'' → c2 :: t ≠ '\'' :: t' := by
          intro t' e1 e2; simp at e2; exact hc ⟨e1, e2.1⟩
        have h2 : ∀ t', φ c = '\'' → (c2 :: t).map φ ≠ '\'' :: t' := by
          intro t' e1 e2
          simp at e2
          exact hc ⟨(h.eqc _ (by decide) c).1 e1, (h.eqc _ (by decide) c2).1 e2.1⟩
        rw [List.map_cons, unescape_c _ _ h2, unescape_c _ _ h1, unescape_map h (c2 :: t)]
        rfl

theorem scanString_map (h : CaseMap env φ) (s : List Char) : scanString (s.map φ) = mapBoth φ (scanString s) := by
  cases s with
  | nil => rfl
  | cons c t =>
    by_cases hc : c = '\''
    · subst hc
      simp only [List.map_cons, h.fix (x := '\'') (by decide), scanString, Option.bind_eq_bind, strBody_map h]
      cases strBody t with
      | none => rfl
      | some x => simp [unescape_map h, pure]
    · have hc' := h.ne (x := '\'') (by decide) hc
      simp [scanString, hc, hc']

theorem scanGeography_map (h : CaseMap env φ) (s : List Char) :
    scanGeography env (s.map φ) = mapBoth φ (scanGeography env s) := by
  simp only [scanGeography, Option.bind_eq_bind]
  rw [kw_map h "geography'".toList s (by decide)]
  cases kw env "geography'".toList s with
  | none => rfl
  | some x => simp [strBody_map h]

theorem map_asciiUpper (h : CaseMap env φ) (X : List Char) : (X.map φ).map asciiUpper = X.map asciiUpper := by
  simp [List.map_map, Function.comp_def, h.up]

theorem scanOp_map (h : CaseMap env φ) (w : List Char) (hw : ∀ p ∈ w, p ∈ patChars) (s : List Char) :
    scanOp env w (s.map φ) = (scanOp env w s).map (·.map φ) := by
  unfold scanOp
  simp only [Option.bind_eq_bind]
  rw [span1_map _ h.space]
  cases span1 env.isSpace s with
  | none => simp
  | some x =>
    simp only [mapBoth_some, Option.bind_some]
    rw [kw_map h w _ hw]
    cases kw env w x.2 with
    | none => simp
    | some y =>
      simp only [mapBoth_some, Option.bind_some]
      rw [span1_map _ h.space]
      cases span1 env.isSpace y.2 <;> simp [pure]



end OQ.CaseMap
