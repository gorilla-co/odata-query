/- Lemmas/LitLex.lean — the scanner model reads each well-formed spelling of Spec/LitSpell.lean as one token of its kind
   (kind half of Props/C06Value.lean). -/
import ODataVerif.Lemmas.LitValue
import ODataVerif.Lemmas.LexTok
import ODataVerif.Lemmas.LexImage
namespace OQ.LitLex
open OQ.LitSpell OQ.LitValue OQ.LexRender
set_option linter.unusedSimpArgs false
set_option linter.unusedVariables false

theorem lexOne_boundary {s : Str} {k : LitKind} {v : Str} (h : lexOne E s = some (.lit k v, [])) (rest : Str)
    (hb : boundary rest) : lexOne E (s ++ rest) = some (.lit k v, rest) := by
  rcases hb with rfl | ⟨c, t, rfl, hc⟩
  · simpa using h
  · refine lexOne_ext_lit t h ?_ ?_
    · rcases hc with rfl | rfl | rfl <;> decide
    · rcases hc with rfl | rfl | rfl <;> decide

section pick
variable {env : CharEnv} {cs v r : Str} {k : LitKind} {sc : Str → Option (Str × Str)} {f : Rule} {fs : List Rule}
  {x : Option (Tok × Str)}

theorem skip (h : f cs = none) (hfs : firstSome fs cs = x) : firstSome (f :: fs) cs = x := by
  simp only [firstSome, h, hfs]

/-- every scanner rule maps the result of its scanner: it fails when the scanner does -/
theorem fails {α β : Type} {o : Option α} {g : α → β} (h : o = none) : o.map g = none := h ▸ rfl

theorem hit (h : sc cs = some (v, r)) : firstSome (rLit k sc :: fs) cs = some (.lit k v, r) := by
  simp only [firstSome, rLit, h, Option.map_some]

theorem hitIdent {i : Ident} (h : scanIdent env cs = some (i, r)) : firstSome (rIdent env :: fs) cs = some (.ident i, r) := by
  simp only [firstSome, rIdent, h, Option.map_some]

theorem lexOne_duration (h1 : scanDuration env cs = some (v, r)) : lexOne env cs = some (.lit .duration v, r) :=
  (lexOne_eq env cs).trans <| hit h1
theorem lexOne_string (h1 : scanDuration env cs = none) (h2 : scanString cs = some (v, r)) :
    lexOne env cs = some (.lit .str v, r) :=
  (lexOne_eq env cs).trans <| skip (fails h1) <| hit h2
theorem lexOne_geo (h1 : scanDuration env cs = none) (h2 : scanString cs = none)
    (h3 : scanGeography env cs = some (v, r)) : lexOne env cs = some (.lit .geo v, r) :=
  (lexOne_eq env cs).trans <| skip (fails h1) <| skip (fails h2) <| hit h3
theorem lexOne_guid (h1 : scanDuration env cs = none) (h2 : scanString cs = none) (h3 : scanGeography env cs = none)
    (h4 : scanGuid env cs = some (v, r)) : lexOne env cs = some (.lit .guid v, r) :=
  (lexOne_eq env cs).trans <| skip (fails h1) <| skip (fails h2) <| skip (fails h3) <| hit h4
theorem lexOne_datetime (h1 : scanDuration env cs = none) (h2 : scanString cs = none) (h3 : scanGeography env cs = none)
    (h4 : scanGuid env cs = none) (h5 : scanDateTime env cs = some (v, r)) : lexOne env cs = some (.lit .datetime v, r) :=
  (lexOne_eq env cs).trans <| skip (fails h1) <| skip (fails h2) <| skip (fails h3) <| skip (fails h4) <| hit h5
theorem lexOne_date (h1 : scanDuration env cs = none) (h2 : scanString cs = none) (h3 : scanGeography env cs = none)
    (h4 : scanGuid env cs = none) (h5 : scanDateTime env cs = none) (h6 : scanDatePart env cs = some (v, r)) :
    lexOne env cs = some (.lit .date v, r) :=
  (lexOne_eq env cs).trans <| skip (fails h1) <| skip (fails h2) <| skip (fails h3) <| skip (fails h4) <|
    skip (fails h5) <| hit h6
theorem lexOne_time (h1 : scanDuration env cs = none) (h2 : scanString cs = none) (h3 : scanGeography env cs = none)
    (h4 : scanGuid env cs = none) (h5 : scanDateTime env cs = none) (h6 : scanDatePart env cs = none)
    (h7 : scanTime env cs = some (v, r)) : lexOne env cs = some (.lit .time v, r) :=
  (lexOne_eq env cs).trans <| skip (fails h1) <| skip (fails h2) <| skip (fails h3) <| skip (fails h4) <|
    skip (fails h5) <| skip (fails h6) <| hit h7
theorem lexOne_float (h1 : scanDuration env cs = none) (h2 : scanString cs = none)
    (h3 : scanGeography env cs = none) (h4 : scanGuid env cs = none) (h5 : scanDateTime env cs = none)
    (h6 : scanDatePart env cs = none) (h7 : scanTime env cs = none) (h8 : scanDecimal env cs = some (v, r)) :
    lexOne env cs = some (.lit .float v, r) :=
  (lexOne_eq env cs).trans <| skip (fails h1) <| skip (fails h2) <| skip (fails h3) <| skip (fails h4) <|
    skip (fails h5) <| skip (fails h6) <| skip (fails h7) <| hit h8
theorem lexOne_int (h1 : scanDuration env cs = none) (h2 : scanString cs = none) (h3 : scanGeography env cs = none)
    (h4 : scanGuid env cs = none) (h5 : scanDateTime env cs = none) (h6 : scanDatePart env cs = none)
    (h7 : scanTime env cs = none) (h8 : scanDecimal env cs = none) (h9 : scanInteger env cs = some (v, r)) :
    lexOne env cs = some (.lit .int v, r) :=
  (lexOne_eq env cs).trans <| skip (fails h1) <| skip (fails h2) <| skip (fails h3) <| skip (fails h4) <|
    skip (fails h5) <| skip (fails h6) <| skip (fails h7) <| skip (fails h8) <| hit h9
end pick


section generic
variable {env : CharEnv}

theorem span1_all (p : Char → Bool) (ds r : Str) (hne : ds ≠ []) (hd : ∀ c ∈ ds, p c = true)
    (hr : Stops p r) : span1 p (ds ++ r) = some (ds, r) :=
  span1_eq_some_iff.2 ⟨rfl, hne, hd, hr⟩

theorem takeUpTo_all' (p : Char → Bool) : ∀ (n : Nat) (a r : Str), a.length ≤ n → (∀ c ∈ a, p c = true) →
    Stops p r → takeUpTo p n (a ++ r) = (a, r)
  | 0, a, r, hl, _, _ => by
    have : a = [] := List.length_eq_zero_iff.1 (by omega)
    subst this; rfl
  | n + 1, [], [], _, _, _ => rfl
  | n + 1, [], c :: t, _, _, hr => by simp [takeUpTo, hr c t rfl]
  | n + 1, c :: a, r, hl, ha, hr => by
    simp only [List.cons_append, takeUpTo, ha c (by simp), if_true]
    rw [takeUpTo_all' p n a r (by simp at hl; omega) (fun x hx => ha x (List.mem_cons_of_mem _ hx)) hr]

theorem kw_self : ∀ (w r : Str), (∀ p ∈ w, ciChar env p p = true) → kw env w (w ++ r) = some (w, r)
  | [], r, _ => rfl
  | p :: w, r, h => by
    simp only [List.cons_append, kw, h p (by simp), if_true]
    rw [kw_self w r (fun q hq => h q (List.mem_cons_of_mem _ hq))]

theorem scanDuration_nokw {cs : Str} (h : kw env "duration'".toList cs = none) : scanDuration env cs = none := by
  simp only [scanDuration, h]; rfl

/-- a GUID has a `-` after its first eight characters and another after four more -/
theorem scanGuid_fewminus (cs : Str) (h : cs.count '-' ≤ 1) : scanGuid env cs = none := by
  cases hs : scanGuid env cs with
  | none => rfl
  | some x =>
    obtain ⟨⟨a, b, c, d, e, hv, -⟩, rfl⟩ := scanGuid_eq_some_iff.1 (show scanGuid env cs = some (x.1, x.2) from hs)
    simp only [hv, List.count_append, List.count_cons_self] at h
    omega

theorem scanGuid_nominus (cs : Str) (h : cs.all (· != '-') = true) : scanGuid env cs = none :=
  scanGuid_fewminus cs (by
    rw [List.count_eq_zero.2 fun hm => by simpa using List.all_eq_true.1 h _ hm]; exact Nat.zero_le _)

theorem scanDatePart_fewminus (cs : Str) (h : cs.count '-' ≤ 1) : scanDatePart env cs = none := by
  unfold scanDatePart
  split
  · simp [List.count_cons] at h; omega
  · rfl

theorem scanDateTime_nodate {cs : Str} (h : scanDatePart env cs = none) : scanDateTime env cs = none := by
  simp only [scanDateTime, h]; rfl

theorem scanHourMinute_nocolon (cs : Str) (h : cs.all (· != ':') = true) : scanHourMinute env cs = none := by
  unfold scanHourMinute
  split
  · simp at h
  · rfl

end generic

theorem map_fix {f : Char → Char} {l : Str} (h : ∀ c ∈ l, f c = c) : l.map f = l :=
  (List.map_congr_left h).trans (List.map_id l)

theorem dc_isDigit (n : Nat) : E.isDigit (digitChar n) = true := digitChar_ind (fun c => E.isDigit c = true) (by decide +kernel) n
def DigitHead (cs : Str) : Prop := ∃ n t, cs = digitChar n :: t

theorem digitHead_append {a : Str} (h : DigitHead a) (r : Str) : DigitHead (a ++ r) := by
  obtain ⟨n, t, rfl⟩ := h; exact ⟨n, t ++ r, rfl⟩

theorem digitHead_pad (w n : Nat) : DigitHead (pad (w + 1) n) := by
  obtain ⟨t, ht⟩ := pad_head w n; exact ⟨_, t, ht⟩

theorem pre3 {cs : Str} (h : DigitHead cs) : scanDuration E cs = none ∧ scanString cs = none ∧ scanGeography E cs = none := by
  obtain ⟨n, t, rfl⟩ := h
  obtain ⟨hd, hq, hg⟩ := digitChar_ind (fun c => ciChar E 'd' c = false ∧ c ≠ '\'' ∧ ciChar E 'g' c = false) (by decide +kernel) n
  exact ⟨scanDuration_head hd, scanString_head hq, scanGeography_head hg⟩

theorem scanExponent_nil : scanExponent E [] = none := rfl

theorem pad_digits (w n : Nat) : ∀ c ∈ pad w n, E.isDigit c = true := pad_all _ (by decide +kernel) w n

theorem count_pad (w n : Nat) : (pad w n).count '-' = 0 :=
  List.count_eq_zero.2 fun h => pad_all (· ≠ '-') (by decide) w n _ h rfl

theorem nocolon_pad (w n : Nat) : (pad w n).all (· != ':') = true :=
  List.all_eq_true.2 (pad_all (fun c => (c != ':') = true) (by decide) w n)

theorem span1_pad (w n : Nat) (r : Str) (hr : Stops E.isDigit r) :
    span1 E.isDigit (pad (w + 1) n ++ r) = some (pad (w + 1) n, r) :=
  span1_all E.isDigit _ r (pad_ne_nil w n) (pad_digits _ _) hr

/-- an unsigned number is read by the third branch of `scanInteger` -/
theorem scanInteger_digit {cs : Str} (h : DigitHead cs) : scanInteger E cs = span1 E.isDigit cs := by
  obtain ⟨n, t, rfl⟩ := h
  exact scanInteger_other (digitChar_ne_plus _) (digitChar_ne_minus _) _

/-- an optionally signed digit string, continued with at most one `-` and no `:`: the seven rules before DECIMAL fail -/
theorem number_pre (sg : Sign) (w n : Nat) (r : Str) (hm : r.count '-' ≤ 1) (hc : r.all (· != ':') = true) :
    let cs := sg.text ++ (pad (w + 1) n ++ r)
    scanDuration E cs = none ∧ scanString cs = none ∧ scanGeography E cs = none ∧ scanGuid E cs = none ∧
      scanDateTime E cs = none ∧ scanDatePart E cs = none ∧ scanTime E cs = none := by
  have hcol : (sg.text ++ (pad (w + 1) n ++ r)).all (· != ':') = true := by
    simp only [List.all_append, nocolon_pad, hc, Bool.and_true]; cases sg <;> rfl
  have ht : scanTime E (sg.text ++ (pad (w + 1) n ++ r)) = none := by
    simp only [scanTime, scanHourMinute_nocolon _ hcol]; rfl
  cases sg with
  | none =>
    have hcount : (pad (w + 1) n ++ r).count '-' ≤ 1 := by rwa [List.count_append, count_pad, Nat.zero_add]
    have hdp := scanDatePart_fewminus (env := E) _ hcount
    obtain ⟨p1, p2, p3⟩ := pre3 (digitHead_append (digitHead_pad w n) r)
    exact ⟨p1, p2, p3, scanGuid_fewminus _ hcount, scanDateTime_nodate hdp, hdp, ht⟩
  | plus =>
    have hf : HeadFacts E '+' := punct_headFacts (by decide)
    exact ⟨scanDuration_head hf.d, scanString_head (by decide), scanGeography_head hf.g, scanGuid_head hf.hex,
      scanDateTime_head hf.digit, scanDatePart_head hf.digit, ht⟩
  | minus =>
    have hf : HeadFacts E '-' := punct_headFacts (by decide)
    exact ⟨scanDuration_head hf.d, scanString_head (by decide), scanGeography_head hf.g, scanGuid_head hf.hex,
      scanDateTime_head hf.digit, scanDatePart_head hf.digit, ht⟩

theorem int_alone (w n : Nat) : lexOne E (pad (w + 1) n) = some (.lit .int (pad (w + 1) n), []) := by
  obtain ⟨p1, p2, p3, p4, p5, p6, p7⟩ := number_pre .none w n [] (Nat.zero_le 1) rfl
  have hint := (scanInteger_digit (digitHead_append (digitHead_pad w n) [])).trans (span1_pad w n [] (fun _ _ h => nomatch h))
  simp only [Sign.text, List.nil_append, List.append_nil] at p1 p2 p3 p4 p5 p6 p7 hint
  refine lexOne_int p1 p2 p3 p4 p5 p6 p7 ?_ hint
  simp only [scanDecimal, hint, scanExponent_nil]; rfl

theorem int_kind (w n : Nat) (h : n < 10 ^ (w + 1)) (rest : Str) (hb : boundary rest) :
    lexOne pyCharEnv (pad (w + 1) n ++ rest) = some (.lit .int (pad (w + 1) n), rest) :=
  lexOne_boundary (int_alone w n) rest hb


theorem isHex_minus : isHex E '-' = false := by decide +kernel
theorem isHex_colon : isHex E ':' = false := by decide +kernel
theorem isDigit_colon : E.isDigit ':' = false := by decide +kernel

theorem scanDatePart_iso (y m d : Nat) (h : validDate y m d) (r : Str) :
    scanDatePart E (isoDate y m d ++ r) = some (isoDate y m d, r) := by
  obtain ⟨h1, h2, h3, h4, h5, h6⟩ := h
  have := monthLen_le y m
  have hm : ∀ m, m < 13 → 1 ≤ m → ((digitChar (m / 10) == '0' && E.isDigit (digitChar m)) ||
      (digitChar (m / 10) == '1' && inCharRange '0' '2' (digitChar m))) = true := by decide +kernel
  have hd : ∀ d, d < 32 → 1 ≤ d → ((inCharRange '0' '2' (digitChar (d / 10)) && E.isDigit (digitChar d)) ||
      (digitChar (d / 10) == '3' && inCharRange '0' '1' (digitChar d))) = true := by decide +kernel
  have hm := hm m (by omega) h3
  have hd := hd d (by omega) h5
  simp only [dc_isDigit] at hm hd
  simp only [isoDate, pad4, pad2, List.cons_append, List.nil_append, scanDatePart, dc_isDigit, hm, hd, Bool.and_self, Bool.true_and, if_true]

theorem digitHead_iso (y m d : Nat) : DigitHead (isoDate y m d) := ⟨_, _, rfl⟩

/-- the fifth character of a date is its first `-` -/
theorem scanGuid_iso (y m d : Nat) (r : Str) : scanGuid E (isoDate y m d ++ r) = none := by
  rw [isoDate, List.append_assoc, List.append_assoc]
  exact scanGuid_stop (a := pad 4 y) (show 4 < 8 by decide) isHex_minus _

theorem date_alone (y m d : Nat) (h : validDate y m d) : lexOne E (isoDate y m d) = some (.lit .date (isoDate y m d), []) := by
  have hdp := scanDatePart_iso y m d h []
  have hg := scanGuid_iso y m d []
  rw [List.append_nil] at hdp hg
  obtain ⟨p1, p2, p3⟩ := pre3 (digitHead_iso y m d)
  refine lexOne_date p1 p2 p3 hg ?_ hdp
  simp only [scanDateTime, hdp]; rfl

theorem date_kind (y m d : Nat) (h : validDate y m d) (rest : Str) (hb : boundary rest) :
    lexOne pyCharEnv (isoDate y m d ++ rest) = some (.lit .date (isoDate y m d), rest) :=
  lexOne_boundary (date_alone y m d h) rest hb


theorem hourCond_ok : ∀ h, h < 24 → ((inCharRange '0' '1' (digitChar (h / 10)) && E.isDigit (digitChar h))
    || (digitChar (h / 10) == '2' && inCharRange '0' '3' (digitChar h))) = true := by decide +kernel
theorem minCond_ok : ∀ m, m < 60 → (inCharRange '0' '5' (digitChar (m / 10)) && E.isDigit (digitChar m)) = true := by
  decide +kernel

theorem scanHourMinute_clock (h mi : Nat) (hh : h < 24) (hmi : mi < 60) (r : Str) :
    scanHourMinute E (pad 2 h ++ ':' :: (pad 2 mi ++ r)) = some (pad 2 h ++ ':' :: pad 2 mi, r) := by
  have h1 := hourCond_ok h hh
  have h2 := minCond_ok mi hmi
  simp only [Bool.and_eq_true] at h2
  simp only [pad2, List.cons_append, List.nil_append, scanHourMinute, h1, h2.1, h2.2, Bool.and_self, if_true]

theorem fracText_digits (fs : List Nat) : ∀ c ∈ fracText fs, E.isDigit c = true := frac_all _ (by decide +kernel) fs

/-- what may follow the seconds: not a fraction, not a digit -/
def SecEnd (r : Str) : Prop := ∀ c t, r = c :: t → c ≠ '.' ∧ c ≠ ':' ∧ E.isDigit c = false

theorem scanFraction_none (r : Str) (hr : SecEnd r) : scanFraction E r = ([], r) := by
  unfold scanFraction
  split
  · exact absurd rfl (hr _ _ rfl).1
  · rfl

theorem scanFraction_frac (fs : List Nat) (hne : fs ≠ []) (hl : fs.length ≤ 12) (r : Str) (hr : SecEnd r) :
    scanFraction E ('.' :: (fracText fs ++ r)) = ('.' :: fracText fs, r) := by
  have h1 := takeUpTo_all' E.isDigit 12 (fracText fs) r (by rwa [fracText, List.length_map]) (fracText_digits fs)
    (fun c t e => (hr c t e).2.2)
  simp only [scanFraction, h1]
  cases fs with
  | nil => exact absurd rfl hne
  | cons a t => rfl

theorem scanSeconds_pad (s : Nat) (hs : s < 60) (r : Str) :
    scanSeconds E (':' :: (pad 2 s ++ r)) = some (':' :: (pad 2 s ++ (scanFraction E r).1), (scanFraction E r).2) := by
  have h2 := minCond_ok s hs
  show scanSeconds E (':' :: digitChar (s / 10) :: digitChar s :: r) = _
  unfold scanSeconds
  split
  · rename_i heq; exact absurd (List.cons.inj (List.cons.inj heq).2).1 (digitChar_ne_colon _)
  · rename_i heq
    obtain ⟨rfl, rfl, rfl⟩ : _ = digitChar (s / 10) ∧ _ = digitChar s ∧ _ = r := by simpa using heq.symm
    simp only [h2, if_true]; rfl
  · rename_i h1 h2; exact absurd rfl (h2 _ _ _)

theorem secsPart (sc : Secs) (hs : sc.ok) (hf : ∀ s fs, sc = .frac s fs → fs.length ≤ 12) (r : Str) (hr : SecEnd r) :
    scanSeconds E (sc.text ++ r) = some (sc.text, r) ∨ (sc = .none ∧ scanSeconds E r = none) := by
  cases sc with
  | none =>
    refine .inr ⟨rfl, ?_⟩
    unfold scanSeconds
    split
    · exact absurd rfl (hr _ _ rfl).2.1
    · exact absurd rfl (hr _ _ rfl).2.1
    · rfl
  | whole s =>
    simp only [Secs.text, List.cons_append]
    rw [scanSeconds_pad s hs r, scanFraction_none r hr, List.append_nil]
    exact .inl rfl
  | frac s fs =>
    obtain ⟨h1, h2, h3⟩ := hs
    simp only [Secs.text, List.cons_append, List.append_assoc]
    rw [scanSeconds_pad s h1, scanFraction_frac fs h2 (hf s fs rfl) r hr]
    exact .inl rfl

theorem digitHead_clock (h mi : Nat) (sc : Secs) : DigitHead (clockText h mi sc) := ⟨_, _, rfl⟩

theorem clockText_eq (h mi : Nat) (sc : Secs) : clockText h mi sc = pad 2 h ++ ':' :: (pad 2 mi ++ sc.text) :=
  List.append_assoc (pad 2 h) (':' :: pad 2 mi) sc.text

/-- a `:` in third place is not a year digit -/
theorem scanDatePart_colon (h1 h2 : Char) (t : Str) : scanDatePart E (h1 :: h2 :: ':' :: t) = none := by
  unfold scanDatePart
  split
  · rename_i heq
    simp only [List.cons.injEq] at heq
    obtain ⟨rfl, rfl, rfl, -⟩ := heq
    simp [isDigit_colon]
  · rfl

theorem time_alone (h mi : Nat) (sc : Secs) (hh : h < 24) (hmi : mi < 60) (hs : sc.ok) (hsec : sc ≠ .none)
    (hf : ∀ s fs, sc = .frac s fs → fs.length ≤ 12) :
    lexOne E (clockText h mi sc) = some (.lit .time (clockText h mi sc), []) := by
  obtain ⟨p1, p2, p3⟩ := pre3 (digitHead_clock h mi sc)
  rw [clockText_eq] at p1 p2 p3 ⊢
  have hdp : scanDatePart E (pad 2 h ++ ':' :: (pad 2 mi ++ sc.text)) = none := scanDatePart_colon _ _ _
  have h2 := (secsPart sc hs hf [] (fun _ _ h => nomatch h)).resolve_right fun h => hsec h.1
  rw [List.append_nil] at h2
  refine lexOne_time p1 p2 p3 (scanGuid_stop (a := pad 2 h) (show 2 < 8 by decide) isHex_colon _) (scanDateTime_nodate hdp) hdp ?_
  simp only [scanTime, scanHourMinute_clock h mi hh hmi sc.text, h2, Option.bind_eq_bind, Option.bind_some, Option.pure_def,
      List.append_assoc, List.cons_append]

/-- `hf`: the TIME rule's `\.\d{1,12}` reads at most twelve fraction digits -/
theorem time_kind (h mi : Nat) (sc : Secs) (hh : h < 24) (hmi : mi < 60) (hs : sc.ok) (hsec : sc ≠ .none)
    (hf : ∀ s fs, sc = .frac s fs → fs.length ≤ 12) (rest : Str) (hb : boundary rest) :
    lexOne pyCharEnv (clockText h mi sc ++ rest) = some (.lit .time (clockText h mi sc), rest) :=
  lexOne_boundary (time_alone h mi sc hh hmi hs hsec hf) rest hb


theorem secEnd_off (o : Off) : SecEnd o.text := by
  intro c t h
  cases o with
  | naive => cases h
  | z u => cases u <;> · obtain ⟨rfl, _⟩ := List.cons.inj h; exact ⟨by decide, by decide, by decide +kernel⟩
  | hm neg a b => cases neg <;> · obtain ⟨rfl, _⟩ := List.cons.inj h; exact ⟨by decide, by decide, by decide +kernel⟩

theorem ci_z_Z : ciChar E 'z' 'Z' = true := by decide +kernel
theorem ci_z_z : ciChar E 'z' 'z' = true := by decide +kernel
theorem ci_z_plus : ciChar E 'z' '+' = false := by decide +kernel
theorem ci_z_minus : ciChar E 'z' '-' = false := by decide +kernel
theorem ci_t_T : ciChar E 't' 'T' = true := by decide +kernel
theorem ci_t_t : ciChar E 't' 't' = true := by decide +kernel

theorem scanOffset_any (o : Off) (ho : o.ok) : scanOffset E o.text = (o.text, []) := by
  cases o with
  | naive => rfl
  | z u => cases u <;> simp only [Off.text, scanOffset, ci_z_Z, ci_z_z, if_true, Bool.false_eq_true, if_false]
  | hm neg a b =>
    have h1 := scanHourMinute_clock a b ho.1 ho.2 []
    rw [List.append_nil] at h1
    cases neg <;> simp [Off.text, scanOffset, ci_z_plus, ci_z_minus, h1]

theorem asciiUpper_pad (w n : Nat) : (pad w n).map asciiUpper = pad w n := map_fix (pad_all _ (by decide) w n)

theorem asciiUpper_frac (fs : List Nat) : (fracText fs).map asciiUpper = fracText fs := map_fix (frac_all _ (by decide) fs)

theorem asciiUpper_secs (sc : Secs) : sc.text.map asciiUpper = sc.text := by
  cases sc <;> simp [Secs.text, asciiUpper_pad, asciiUpper_frac] <;> decide

theorem asciiUpper_off (o : Off) : o.text.map asciiUpper = o.up.text := by
  cases o with
  | naive => rfl
  | z u => cases u <;> decide
  | hm neg a b => cases neg <;> simp [Off.text, Off.up, asciiUpper_pad] <;> decide

theorem asciiUpper_iso (y m d : Nat) : (isoDate y m d).map asciiUpper = isoDate y m d := by
  simp [isoDate, asciiUpper_pad]; decide

theorem dtText_eq (y mo d h mi : Nat) (sep : Char) (sc : Secs) (o : Off) :
    dateTimeText y mo d sep h mi sc o = isoDate y mo d ++ sep :: (pad 2 h ++ ':' :: (pad 2 mi ++ (sc.text ++ o.text))) := by
  simp [dateTimeText, clockText]

/-- the DATETIME token action upper-cases the text: `t` becomes `T`, `z` becomes `Z` -/
theorem asciiUpper_dt (y mo d h mi : Nat) (sep : Char) (sc : Secs) (o : Off) (hsep : sep = 'T' ∨ sep = 't') :
    (dateTimeText y mo d sep h mi sc o).map asciiUpper = dateTimeText y mo d 'T' h mi sc o.up := by
  have hs : asciiUpper sep = 'T' := by rcases hsep with rfl | rfl <;> decide
  rw [dtText_eq, dtText_eq]
  simp [asciiUpper_iso, asciiUpper_pad, asciiUpper_secs, asciiUpper_off, hs]
  decide

theorem scanDateTime_text (y mo d h mi : Nat) (sep : Char) (sc : Secs) (o : Off) (hd : validDate y mo d)
    (hh : h < 24) (hmi : mi < 60) (hs : sc.ok) (ho : o.ok) (hsep : sep = 'T' ∨ sep = 't')
    (hf : ∀ s fs, sc = .frac s fs → fs.length ≤ 12) :
    scanDateTime E (dateTimeText y mo d sep h mi sc o) = some (dateTimeText y mo d 'T' h mi sc o.up, []) := by
  have hci : ciChar E 't' sep = true := by
    rcases hsep with rfl | rfl
    · exact ci_t_T
    · exact ci_t_t
  rw [← asciiUpper_dt y mo d h mi sep sc o hsep, dtText_eq]
  have h1 := scanDatePart_iso y mo d hd (sep :: (pad 2 h ++ ':' :: (pad 2 mi ++ (sc.text ++ o.text))))
  have h2 := scanHourMinute_clock h mi hh hmi (sc.text ++ o.text)
  have h4 := scanOffset_any o ho
  rcases secsPart sc hs hf o.text (secEnd_off o) with h3 | ⟨rfl, h3⟩
  · simp only [scanDateTime, h1, hci, h2, h3, h4, Option.bind_eq_bind, Option.bind_some, if_true, Option.pure_def]
    simp
  · simp only [Secs.text, List.nil_append] at h1 h2 ⊢
    simp only [scanDateTime, h1, hci, h2, h3, h4, Option.bind_eq_bind, Option.bind_some, if_true, Option.pure_def]
    simp

theorem datetime_alone (y mo d h mi : Nat) (sep : Char) (sc : Secs) (o : Off) (hd : validDate y mo d)
    (hh : h < 24) (hmi : mi < 60) (hs : sc.ok) (ho : o.ok) (hsep : sep = 'T' ∨ sep = 't')
    (hf : ∀ s fs, sc = .frac s fs → fs.length ≤ 12) :
    lexOne E (dateTimeText y mo d sep h mi sc o) = some (.lit .datetime (dateTimeText y mo d 'T' h mi sc o.up), []) := by
  have hdt := scanDateTime_text y mo d h mi sep sc o hd hh hmi hs ho hsep hf
  obtain ⟨p1, p2, p3⟩ := pre3 (digitHead_append (digitHead_append (digitHead_iso y mo d) (sep :: clockText h mi sc)) o.text)
  refine lexOne_datetime p1 p2 p3 ?_ hdt
  rw [dtText_eq]; exact scanGuid_iso y mo d _

theorem datetime_kind_anycase (y mo d h mi : Nat) (sep : Char) (sc : Secs) (o : Off) (hd : validDate y mo d)
    (hh : h < 24) (hmi : mi < 60) (hs : sc.ok) (ho : o.ok) (hsep : sep = 'T' ∨ sep = 't')
    (hf : ∀ s fs, sc = .frac s fs → fs.length ≤ 12) (rest : Str) (hb : boundary rest) :
    lexOne pyCharEnv (dateTimeText y mo d sep h mi sc o ++ rest) = some (.lit .datetime (dateTimeText y mo d 'T' h mi sc o.up), rest) :=
  lexOne_boundary (datetime_alone y mo d h mi sep sc o hd hh hmi hs ho hsep hf) rest hb

/-- `hf`: at most twelve fraction digits are read; `hz`: the token text is upper-cased, so a lower-case `z` is not carried -/
theorem datetime_kind (y mo d h mi : Nat) (sc : Secs) (o : Off) (hd : validDate y mo d)
    (hh : h < 24) (hmi : mi < 60) (hs : sc.ok) (ho : o.ok) (hf : ∀ s fs, sc = .frac s fs → fs.length ≤ 12) (hz : o ≠ .z false)
    (rest : Str) (hb : boundary rest) :
    lexOne pyCharEnv (dateTimeText y mo d 'T' h mi sc o ++ rest) = some (.lit .datetime (dateTimeText y mo d 'T' h mi sc o), rest) := by
  have hup : o.up = o := by
    cases o with
    | z u => cases u; exact absurd rfl hz; rfl
    | _ => rfl
  have := datetime_kind_anycase y mo d h mi 'T' sc o hd hh hmi hs ho (Or.inl rfl) hf rest hb
  rwa [hup] at this

theorem string_alone (s : Str) : lexOne E (quoteText s) = some (.lit .str s, []) := by
  have h2 := scanString_quote s [] (by intro t h; cases h)
  rw [List.append_nil] at h2
  refine lexOne_string ?_ h2
  rw [quoteText_eq]
  exact scanDuration_head (by decide +kernel)

theorem string_kind (s rest : Str) (hb : boundary rest) :
    lexOne pyCharEnv (quoteText s ++ rest) = some (.lit .str s, rest) :=
  lexOne_boundary (string_alone s) rest hb


theorem scanDuration_second (c1 c2 : Char) (t : Str) (h : ciChar E 'u' c2 = false) : scanDuration E (c1 :: c2 :: t) = none := by
  refine scanDuration_nokw ?_
  rw [show "duration'".toList = 'd' :: 'u' :: "ration'".toList from by decide +kernel]
  simp only [kw, h, Bool.false_eq_true, if_false]; split <;> rfl

theorem guid_alone (up : Nat → Bool) (n : Nat) : lexOne E (guidText up n) = some (.lit .guid (guidText up n), []) := by
  simp only [guidText, List.append_assoc, List.cons_append]
  generalize hh : hexPad up 32 n = h
  have hlen : h.length = 32 := by rw [← hh]; exact hexPad_length up 32 n
  have hP : ∀ c ∈ h, isHex E c = true ∧ ciChar E 'u' c = false ∧ ciChar E 'g' c = false ∧ c ≠ '\'' := by
    rw [← hh]; exact hexPad_all _ (by decide +kernel) up 32 n
  have hscan : scanGuid E (_ ++ []) = some (_, []) := scanGuid_eq_some_iff.2
    ⟨⟨h.take 8, (h.drop 8).take 4, (h.drop 12).take 4, (h.drop 16).take 4, h.drop 20, rfl,
      ⟨by simp [hlen], fun x hx => (hP x (List.mem_of_mem_take hx)).1⟩,
      ⟨by simp [hlen], fun x hx => (hP x (List.mem_of_mem_drop (List.mem_of_mem_take hx))).1⟩,
      ⟨by simp [hlen], fun x hx => (hP x (List.mem_of_mem_drop (List.mem_of_mem_take hx))).1⟩,
      ⟨by simp [hlen], fun x hx => (hP x (List.mem_of_mem_drop (List.mem_of_mem_take hx))).1⟩,
      ⟨by simp [hlen], fun x hx => (hP x (List.mem_of_mem_drop hx)).1⟩⟩, rfl⟩
  rw [List.append_nil] at hscan
  rcases h with _ | ⟨c1, _ | ⟨c2, t⟩⟩
  · simp at hlen
  · simp at hlen
  · have e : List.take 8 (c1 :: c2 :: t) = c1 :: c2 :: List.take 6 t := rfl
    rw [e] at hscan ⊢
    exact lexOne_guid (scanDuration_second _ _ _ (hP c2 (by simp)).2.1) (scanString_head (hP c1 (by simp)).2.2.2)
      (scanGeography_head (hP c1 (by simp)).2.2.1) hscan

theorem guid_kind (up : Nat → Bool) (n : Nat) (h : n < 2 ^ 128) (rest : Str) (hb : boundary rest) :
    lexOne pyCharEnv (guidText up n ++ rest) = some (.lit .guid (guidText up n), rest) :=
  lexOne_boundary (guid_alone up n) rest hb


theorem durGroup_eq (l : Char) (ds : Str) (c : Char) (r : Str) (hne : ds ≠ []) (hds : ∀ x ∈ ds, E.isDigit x = true)
    (hc : E.isDigit c = false) :
    durGroup E l (ds ++ c :: r) = if ciChar E l c then (ds ++ [c], r) else ([], ds ++ c :: r) := by
  have h1 := span1_all E.isDigit ds (c :: r) hne hds (stops_cons hc r)
  simp only [durGroup, h1]

/-- `cs` does not begin with a `<digits>l` group -/
def NotGrp (l : Char) (cs : Str) : Prop := durGroup E l cs = ([], cs)

theorem notGrp_cons (l c : Char) (t : Str) (hc : E.isDigit c = false) : NotGrp l (c :: t) := by
  simp [NotGrp, durGroup, span1_head hc]

theorem notGrp_digits (l : Char) (ds : Str) (c : Char) (r : Str) (hds : ∀ x ∈ ds, E.isDigit x = true)
    (hc : E.isDigit c = false) (hcl : ciChar E l c = false) : NotGrp l (ds ++ c :: r) := by
  cases ds with
  | nil => exact notGrp_cons l c r hc
  | cons d ds =>
    unfold NotGrp
    rw [durGroup_eq l (d :: ds) c r (by simp) hds hc]
    simp [hcl]

theorem notGrp_comp (l L : Char) (c : Option (Nat × Nat)) (r : Str) (hL : E.isDigit L = false) (hci : ciChar E l L = false)
    (hr : NotGrp l r) : NotGrp l (compText L c ++ r) := by
  cases c with
  | none => simpa [compText] using hr
  | some p =>
    obtain ⟨w, n⟩ := p
    simp only [compText, List.append_assoc, List.singleton_append]
    exact notGrp_digits l _ L r (pad_digits _ _) hL hci

theorem durGroup_comp (l L : Char) (hL : E.isDigit L = false) (hci : ciChar E l L = true) (c : Option (Nat × Nat)) (r : Str)
    (hr : NotGrp l r) : durGroup E l (compText L c ++ r) = (compText L c, r) := by
  cases c with
  | none => simpa [compText, NotGrp] using hr
  | some p =>
    obtain ⟨w, n⟩ := p
    simp only [compText, List.append_assoc, List.singleton_append]
    rw [durGroup_eq l _ L r (pad_ne_nil w n) (pad_digits _ _) hL]
    simp [hci]

theorem ci_s_S : ciChar E 's' 'S' = true := by decide +kernel
theorem isDigit_S : E.isDigit 'S' = false := by decide +kernel
theorem isDigit_dot : E.isDigit '.' = false := by decide +kernel
theorem isDigit_quote : E.isDigit '\'' = false := by decide +kernel

theorem durSeconds_text (s : DSecs) (hs : s.ok) (rest : Str) :
    durSeconds E (s.text ++ '\'' :: rest) = (s.text, '\'' :: rest) := by
  cases s with
  | none => simp [DSecs.text, durSeconds, span1_head isDigit_quote]
  | whole w n =>
    have h1 := span1_all E.isDigit (pad (w + 1) n) ('S' :: '\'' :: rest) (pad_ne_nil w n) (pad_digits _ _)
      (stops_cons isDigit_S _)
    simp [DSecs.text, durSeconds, h1, ci_s_S]
  | frac w n fs =>
    obtain ⟨h1, h2, h3, h4⟩ := hs
    have e1 := span1_all E.isDigit (pad (w + 1) n) ('.' :: (fracText fs ++ 'S' :: '\'' :: rest)) (pad_ne_nil w n) (pad_digits _ _)
      (stops_cons isDigit_dot _)
    have e2 := span1_all E.isDigit (fracText fs) ('S' :: '\'' :: rest) (fracText_ne_nil h2) (fracText_digits fs)
      (stops_cons isDigit_S _)
    simp [DSecs.text, durSeconds, e1, e2, ci_s_S]

theorem notGrp_secs (l : Char) (h1 : ciChar E l 'S' = false) (h2 : ciChar E l '.' = false) (s : DSecs) (rest : Str) :
    NotGrp l (s.text ++ '\'' :: rest) := by
  cases s with
  | none => exact notGrp_cons l _ _ isDigit_quote
  | whole w n =>
    simp only [DSecs.text, List.append_assoc, List.singleton_append]
    exact notGrp_digits l _ 'S' _ (pad_digits _ _) isDigit_S h1
  | frac w n fs =>
    simp only [DSecs.text, List.append_assoc, List.cons_append]
    exact notGrp_digits l _ '.' _ (pad_digits _ _) isDigit_dot h2


theorem durUpper_pad (w n : Nat) : (pad w n).map durUpper = pad w n := map_fix (pad_all _ (by decide) w n)

theorem durUpper_frac (fs : List Nat) : (fracText fs).map durUpper = fracText fs := map_fix (frac_all _ (by decide) fs)

theorem durUpper_comp (L : Char) (hL : durUpper L = L) (c : Option (Nat × Nat)) : (compText L c).map durUpper = compText L c := by
  rcases c with _ | ⟨w, n⟩
  · rfl
  · simp [compText, durUpper_pad, hL]

theorem durUpper_secs (s : DSecs) : s.text.map durUpper = s.text := by
  cases s <;> simp [DSecs.text, durUpper_pad, durUpper_frac] <;> decide

theorem durUpper_sign (sg : Sign) : sg.text.map durUpper = sg.text := by
  cases sg <;> decide

theorem durUpper_tp (tp) : (tpText tp).map durUpper = tpText tp := by
  rcases tp with _ | ⟨h, mi, s⟩
  · rfl
  · simp [tpText, durUpper_comp 'H' (by decide), durUpper_comp 'M' (by decide), durUpper_secs]; decide

theorem durUpper_text (sg : Sign) (y mo d : Option (Nat × Nat)) (tp) :
    (durText sg y mo d tp).map durUpper = durText sg y mo d tp := by
  rw [durText_eq]
  simp [durUpper_sign, durUpper_comp 'Y' (by decide), durUpper_comp 'M' (by decide), durUpper_comp 'D' (by decide), durUpper_tp]
  decide

theorem kw_duration (r : Str) : kw E "duration'".toList ("duration'".toList ++ r) = some ("duration'".toList, r) :=
  kw_self _ r (by decide +kernel)

theorem ci_p_P : ciChar E 'p' 'P' = true := by decide +kernel
theorem ci_t_quote : ciChar E 't' '\'' = false := by decide +kernel

theorem notGrp_tp (l : Char) (tp) (rest : Str) : NotGrp l (tpText tp ++ '\'' :: rest) := by
  rcases tp with _ | ⟨h, mi, s⟩
  · exact notGrp_cons l _ _ isDigit_quote
  · exact notGrp_cons l 'T' _ (by decide +kernel)

theorem durTime_tp (tp : Option (Option (Nat × Nat) × Option (Nat × Nat) × DSecs))
    (ht : ∀ h mi s, tp = some (h, mi, s) → compOk h ∧ compOk mi ∧ s.ok) (rest : Str) :
    durTime E (tpText tp ++ '\'' :: rest) = (tpText tp, '\'' :: rest) := by
  rcases tp with _ | ⟨h, mi, s⟩
  · simp only [tpText, List.nil_append, durTime, ci_t_quote, Bool.false_eq_true, if_false]
  · have e1 := durGroup_comp 'h' 'H' (by decide +kernel) (by decide +kernel) h (compText 'M' mi ++ (s.text ++ '\'' :: rest))
      (notGrp_comp _ _ _ _ (by decide +kernel) (by decide +kernel) (notGrp_secs _ (by decide +kernel) (by decide +kernel) s rest))
    have e2 := durGroup_comp 'm' 'M' (by decide +kernel) (by decide +kernel) mi (s.text ++ '\'' :: rest)
      (notGrp_secs _ (by decide +kernel) (by decide +kernel) s rest)
    simp only [tpText, List.cons_append, List.append_assoc, durTime, ci_t_T, if_true, e1, e2, durSeconds_text s (ht h mi s rfl).2.2 rest]

theorem tp_part (tp : Option (Option (Nat × Nat) × Option (Nat × Nat) × DSecs))
    (ht : ∀ h mi s, tp = some (h, mi, s) → compOk h ∧ compOk mi ∧ s.ok) (rest : Str) :
    (match tpText tp ++ '\'' :: rest with
      | c :: t =>
          if ciChar E 't' c then
            let (h, t) := durGroup E 'h' t
            let (mi, t) := durGroup E 'm' t
            let (s, t) := durSeconds E t
            (c :: h ++ mi ++ s, t)
          else ([], tpText tp ++ '\'' :: rest)
      | [] => ([], tpText tp ++ '\'' :: rest)) = (tpText tp, '\'' :: rest) := durTime_tp tp ht rest

theorem durBody_text (s : Str) (y mo d : Option (Nat × Nat)) (tp : Option (Option (Nat × Nat) × Option (Nat × Nat) × DSecs))
    (ht : ∀ h mi s, tp = some (h, mi, s) → compOk h ∧ compOk mi ∧ s.ok) (rest : Str) :
    durBody E s ('P' :: (compText 'Y' y ++ (compText 'M' mo ++ (compText 'D' d ++ (tpText tp ++ '\'' :: rest))))) =
      some ((s ++ 'P' :: (compText 'Y' y ++ (compText 'M' mo ++ (compText 'D' d ++ tpText tp)))).map durUpper, rest) := by
  have e1 := durGroup_comp 'y' 'Y' (by decide +kernel) (by decide +kernel) y (compText 'M' mo ++ (compText 'D' d ++ (tpText tp ++ '\'' :: rest)))
    (notGrp_comp _ _ _ _ (by decide +kernel) (by decide +kernel)
      (notGrp_comp _ _ _ _ (by decide +kernel) (by decide +kernel) (notGrp_tp _ _ _)))
  have e2 := durGroup_comp 'm' 'M' (by decide +kernel) (by decide +kernel) mo (compText 'D' d ++ (tpText tp ++ '\'' :: rest))
    (notGrp_comp _ _ _ _ (by decide +kernel) (by decide +kernel) (notGrp_tp _ _ _))
  have e3 := durGroup_comp 'd' 'D' (by decide +kernel) (by decide +kernel) d (tpText tp ++ '\'' :: rest) (notGrp_tp _ _ _)
  simp only [durBody, kw, ci_p_P, if_true, Option.bind_some, e1, e2, e3, durTime_tp tp ht rest, durClose_cons,
    List.append_assoc, List.cons_append, List.nil_append]

theorem duration_kind (sg : Sign) (y mo d : Option (Nat × Nat)) (tp : Option (Option (Nat × Nat) × Option (Nat × Nat) × DSecs))
    (hy : compOk y) (hmo : compOk mo) (hd : compOk d)
    (ht : ∀ h mi s, tp = some (h, mi, s) → compOk h ∧ compOk mi ∧ s.ok) (rest : Str) :
    lexOne pyCharEnv ("duration'".toList ++ durText sg y mo d tp ++ '\'' :: rest) = some (.lit .duration (durText sg y mo d tp), rest) := by
  have hup := durUpper_text sg y mo d tp
  have hs : ∀ X, durSign (sg.text ++ 'P' :: X) = (sg.text, 'P' :: X) := fun X => by cases sg <;> rfl
  rw [durText_eq] at hup ⊢
  refine lexOne_duration ?_
  simp only [List.append_assoc, List.cons_append, scanDuration_eq, kw_duration, Option.bind_some, hs, durBody_text _ y mo d tp ht rest, hup]

theorem wordA_ascii (c : Char) (h : isWordA c = true) : LexImage.isAscii c = true := by
  simp only [isWordA, isStartA, Bool.or_eq_true, Bool.and_eq_true, decide_eq_true_eq, beq_iff_eq, le_char_iff] at h
  simp only [LexImage.isAscii, decide_eq_true_eq]
  have h1 : 'z'.toNat = 122 := rfl
  have h2 : 'Z'.toNat = 90 := rfl
  have h3 : '9'.toNat = 57 := rfl
  rcases h with (((rfl | h) | h) | h)
  · decide
  all_goals omega

/-- what the rules ask about an ASCII word character -/
theorem wordA_spec {c : Char} (h : isWordA c = true) :
    E.isWord c = true ∧ E.isSpace c = false ∧ c ≠ '\'' ∧ c ≠ '-' ∧ c ≠ '.' ∧ c ≠ '+' := by
  have := LexImage.ascii_forall
    (fun c => !isWordA c || (E.isWord c && !E.isSpace c && c != '\'' && c != '-' && c != '.' && c != '+'))
    (by decide +kernel) c (wordA_ascii c h)
  simpa only [h, Bool.not_true, Bool.false_or, Bool.and_eq_true, Bool.not_eq_true', bne_iff_ne, ne_eq, and_assoc] using this

theorem startA_spec {c : Char} (h : isStartA c = true) :
    isIdentStart E c = true ∧ E.isDigit c = false ∧ inCharRange '0' '1' c = false ∧ c ≠ '2' ∧ isWordA c = true := by
  have hi : isIdentStart E c = true := by
    simp only [isStartA, Bool.or_eq_true] at h
    simp only [isIdentStart, isAsciiLower, isAsciiUpper, Bool.or_eq_true]
    exact Or.inl h
  obtain ⟨hd, h01, h2⟩ := letter_ranges (isIdentStart_imp c hi)
  exact ⟨hi, hd, h01, h2, by simp [isWordA, h]⟩

theorem lowerA_cases (p : Char) (hp : isAsciiLower p = true) : lowerA p = p ∧ lowerA (asciiUpper p) = p := by
  have hu := LexImage.asciiUpper_toNat hp
  have hA : 'A'.toNat = 65 := rfl
  have hZ : 'Z'.toNat = 90 := rfl
  rw [LexImage.isAsciiLower_iff] at hp
  constructor
  · rw [lowerA, if_neg]
    rw [le_char_iff, le_char_iff]; omega
  · rw [lowerA, if_pos, hu, Nat.sub_add_cancel (by omega), Char.ofNat_toNat]
    rw [le_char_iff, le_char_iff, hu]; omega

theorem ciChar_lowerA {p x : Char} (hp : isAsciiLower p = true) (hx : LexImage.isAscii x = true) (h : ciChar E p x = true) :
    lowerA x = p := by
  rw [LexImage.ci_ascii p x hx, Bool.or_eq_true, beq_iff_eq, beq_iff_eq] at h
  rcases h with rfl | rfl
  · exact (lowerA_cases _ hp).1
  · exact (lowerA_cases p hp).2

theorem kw_lower : ∀ (w s m r : Str), w.all isAsciiLower = true → s.all LexImage.isAscii = true → kw E w s = some (m, r) →
    m.map lowerA = w
  | [], s, m, r, _, _, h => by
    simp only [kw, Option.some.injEq, Prod.mk.injEq] at h; rw [← h.1]; rfl
  | p :: w, [], m, r, _, _, h => by simp only [kw, reduceCtorEq] at h
  | p :: w, c :: s, m, r, hw, hs, h => by
    simp only [List.all_cons, Bool.and_eq_true] at hw hs
    simp only [kw] at h
    split at h
    · rename_i hc
      split at h
      · rename_i m' r' hk
        simp only [Option.some.injEq, Prod.mk.injEq] at h
        rw [← h.1, List.map_cons, ciChar_lowerA hw.1 hs.1 hc, kw_lower w s m' r' hw.2 hs.2 hk]
      · cases h
    · cases h

/-- the tail of a dotted identifier, as `identTail` reads it: word characters, each dot followed by a word character -/
def Tail : Str → Prop
  | [] => True
  | '.' :: c :: t => isWordA c = true ∧ Tail t
  | c :: t => isWordA c = true ∧ Tail t

theorem tail_cons {c : Char} {t : Str} (hc : c ≠ '.') : Tail (c :: t) ↔ isWordA c = true ∧ Tail t := by
  rw [Tail.eq_def]
  split
  · rename_i heq; cases heq
  · rename_i heq; exact absurd (List.cons.inj heq).1 hc
  · rename_i heq; obtain ⟨rfl, rfl⟩ := List.cons.inj heq; exact Iff.rfl

theorem word_ne_dot {c : Char} (h : isWordA c = true) : c ≠ '.' := by
  rintro rfl; simp [isWordA, isStartA] at h

theorem tail_word {c : Char} {t : Str} (hc : isWordA c = true) : Tail (c :: t) ↔ Tail t :=
  (tail_cons (word_ne_dot hc)).trans (and_iff_right hc)

theorem tail_dot_nil : ¬ Tail ['.'] := by
  simp [Tail, isWordA, isStartA]

theorem tail_dot {c : Char} {t : Str} : Tail ('.' :: c :: t) ↔ isWordA c = true ∧ Tail t := by
  simp [Tail]

theorem tail_app {s r : Str} (hs : s.all isWordA = true) : Tail (s ++ r) ↔ Tail r := by
  induction s with
  | nil => simp
  | cons c s ih =>
    simp only [List.all_cons, Bool.and_eq_true] at hs
    rw [List.cons_append, tail_word hs.1, ih hs.2]

/-- the number of identifier characters (dots are free) -/
def nd (t : Str) : Nat := (t.filter (· != '.')).length

theorem identTail_full : ∀ (k : Nat) (t : Str) (n : Nat), t.length ≤ k → Tail t → nd t ≤ n → identTail E n t = (t, []) := by
  intro k
  induction k with
  | zero =>
    intro t n hl _ _
    rw [List.length_eq_zero_iff.1 (Nat.le_zero.1 hl)]; cases n <;> rfl
  | succ k ih =>
    intro t n hl ht hn
    cases t with
    | nil => cases n <;> rfl
    | cons c t =>
      by_cases hc : c = '.'
      · subst hc
        cases t with
        | nil => exact absurd ht tail_dot_nil
        | cons c t =>
          obtain ⟨hw, ht'⟩ := tail_dot.1 ht
          have hf := wordA_spec hw
          have hn' : nd t + 1 ≤ n := by simpa [nd, List.filter_cons, hf.2.2.2.2.1] using hn
          obtain ⟨n', rfl⟩ : ∃ n', n = n' + 1 := ⟨n - 1, by omega⟩
          have := ih t n' (by simp at hl; omega) ht' (by omega)
          simp only [identTail, hf.1, this, if_true]
      · obtain ⟨hw, ht'⟩ := (tail_cons hc).1 ht
        have hn' : nd t + 1 ≤ n := by simpa [nd, List.filter_cons, hc] using hn
        obtain ⟨n', rfl⟩ : ∃ n', n = n' + 1 := ⟨n - 1, by omega⟩
        have := ih t n' (by simp at hl; omega) ht' (by omega)
        rw [identTail.eq_def]
        simp [hc, (wordA_spec hw).1, this]


theorem dotted_single (a : Str) : dotted [a] = a := by simp [dotted]
theorem dotted_cons2 (a b : Str) (L : List Str) : dotted (a :: b :: L) = a ++ '.' :: dotted (b :: L) := by
  simp [dotted, List.intersperse]

theorem nd_word (s : Str) (hs : s.all isWordA = true) : s.filter (· != '.') = s := by
  rw [List.filter_eq_self]
  intro c hc
  have := word_ne_dot (List.all_eq_true.1 hs c hc)
  simpa using this

structure DottedOk (X : Str) (total : Nat) : Prop where
  tail : Tail X
  nd : nd X = total
  head : ∃ c t, X = c :: t ∧ isWordA c = true
  chars : ∀ x ∈ X, isWordA x = true ∨ x = '.'

theorem dotted_ok : ∀ (L : List Str), L ≠ [] → (∀ s ∈ L, s ≠ [] ∧ s.all isWordA = true) → DottedOk (dotted L) (L.map List.length).sum
  | [], h, _ => absurd rfl h
  | [a], _, h => by
    obtain ⟨hne, hw⟩ := h a (by simp)
    rw [dotted_single]
    refine ⟨?_, by simp [nd, nd_word a hw], ?_, fun x hx => Or.inl (List.all_eq_true.1 hw x hx)⟩
    · have := (tail_app (s := a) (r := []) hw).2 trivial
      simpa using this
    · cases a with
      | nil => exact absurd rfl hne
      | cons c t => exact ⟨c, t, rfl, by simp at hw; exact hw.1⟩
  | a :: b :: L, _, h => by
    obtain ⟨hne, hw⟩ := h a (by simp)
    have ih := dotted_ok (b :: L) (by simp) (fun s hs => h s (List.mem_cons_of_mem _ hs))
    obtain ⟨c, t, hY, hc⟩ := ih.head
    rw [dotted_cons2]
    refine ⟨?_, ?_, ?_, ?_⟩
    · rw [tail_app hw, hY, tail_dot]
      have := ih.tail
      rw [hY, tail_word hc] at this
      exact ⟨hc, this⟩
    · have := ih.nd
      simp only [nd] at this ⊢
      simp [List.filter_append, nd_word a hw, List.filter_cons, this]
    · cases a with
      | nil => exact absurd rfl hne
      | cons c' t' => exact ⟨c', t' ++ '.' :: dotted (b :: L), rfl, by simp at hw; exact hw.1⟩
    · intro x hx
      simp only [List.mem_append, List.mem_cons] at hx
      rcases hx with hx | rfl | hx
      · exact Or.inl (List.all_eq_true.1 hw x hx)
      · exact Or.inr rfl
      · exact ih.chars x hx


theorem notIdentCont_tail {r : Str} (ht : Tail r) (hne : r ≠ []) : notIdentCont E r = false := by
  cases r with
  | nil => exact absurd rfl hne
  | cons c t =>
    by_cases hc : c = '.'
    · subst hc
      cases t with
      | nil => exact absurd ht tail_dot_nil
      | cons c2 t2 => simp only [notIdentCont, (wordA_spec (tail_dot.1 ht).1).1, Bool.not_true]
    · rw [notIdentCont.eq_def]
      simp [hc, (wordA_spec ((tail_cons hc).1 ht).1).1]

section identRules
variable {X : Str} {total : Nat} (hX : DottedOk X total)
include hX

theorem dotted_facts : ∀ x ∈ X, E.isSpace x = false ∧ x ≠ '\'' ∧ x ≠ '-' ∧ LexImage.isAscii x = true := by
  intro x hx
  rcases hX.chars x hx with h | rfl
  · have hf := wordA_spec h
    exact ⟨hf.2.1, hf.2.2.1, hf.2.2.2.1, wordA_ascii x h⟩
  · exact ⟨by decide +kernel, by decide, by decide, by decide⟩

theorem dotted_ascii : X.all LexImage.isAscii = true :=
  List.all_eq_true.2 fun x hx => (dotted_facts hX x hx).2.2.2

theorem kw_quote_none (w : Str) (hw : '\'' ∈ w) : kw E w X = none := by
  cases hk : kw E w X with
  | none => rfl
  | some y =>
    obtain ⟨x, hx, hxq⟩ := kw_mem _ _ y.1 y.2 hk '\'' hw
    have hxe : x = '\'' := by simpa [ciChar, isAsciiLower] using hxq
    exact absurd hxe (dotted_facts hX x hx).2.1

theorem ident_scanDuration : scanDuration E X = none :=
  scanDuration_nokw (kw_quote_none hX _ (by decide +kernel))

theorem ident_scanGeography : scanGeography E X = none := by
  simp only [scanGeography, kw_quote_none hX "geography'".toList (by decide +kernel)]; rfl

theorem ident_scanGuid : scanGuid E X = none :=
  scanGuid_nominus _ (List.all_eq_true.2 fun x hx => by simpa using (dotted_facts hX x hx).2.2.1)

theorem ident_kw_rest {w m r : Str} (hk : kw E w X = some (m, r)) : X = m ++ r ∧ ∀ tl, span1 E.isSpace (r ++ tl) = none ∨ r = [] := by
  have hdec := (kw_append hk).1
  refine ⟨hdec, fun tl => ?_⟩
  cases r with
  | nil => exact Or.inr rfl
  | cons c t => exact Or.inl (span1_head (dotted_facts hX c (by rw [hdec]; simp)).1)

theorem ident_scanNot : scanNot E X = none := by
  cases hk : kw E "not".toList X with
  | none => simp only [scanNot, hk]; rfl
  | some y =>
    have : span1 E.isSpace y.2 = none := by
      rcases (ident_kw_rest hX hk).2 [] with h | h
      · rwa [List.append_nil] at h
      · rw [h]; rfl
    simp only [scanNot, hk, Option.bind_eq_bind, Option.bind_some, this]; rfl

theorem ident_scanNot_blank (hnot : X.map lowerA ≠ "not".toList) (rest : Str) : scanNot E (X ++ ' ' :: rest) = none := by
  have hext := kw_ext E ' ' rest "not".toList X (by decide +kernel)
  cases hk : kw E "not".toList X with
  | none => simp only [scanNot, hext, hk, ext_none]; rfl
  | some y =>
    obtain ⟨m, r⟩ := y
    obtain ⟨hdec, hsp⟩ := ident_kw_rest hX hk
    rcases hsp (' ' :: rest) with hsp | rfl
    · simp only [scanNot, hext, hk, ext_some, Option.bind_eq_bind, Option.bind_some, hsp]; rfl
    · rw [List.append_nil] at hdec
      exact absurd (hdec ▸ kw_lower _ X m [] (by decide +kernel) (dotted_ascii hX) hk) hnot

/-- a keyword literal is not read off the front of a longer identifier: the look-ahead `(?!\.?\w)` sees the next character -/
theorem ident_scanWord (w : Str) (hw : w.all isAsciiLower = true) (hres : X.map lowerA ≠ w) : scanWord E w X = none := by
  cases hk : kw E w X with
  | none => simp only [scanWord, hk]
  | some y =>
    obtain ⟨m, r⟩ := y
    have hm := kw_lower w X m r hw (dotted_ascii hX) hk
    have hdec := (ident_kw_rest hX hk).1
    have hmw : m.all isWordA = true := by
      rw [List.all_eq_true]
      intro x hx
      rcases hX.chars x (by rw [hdec]; exact List.mem_append_left _ hx) with h | rfl
      · exact h
      · have : isAsciiLower (lowerA '.') = true := List.all_eq_true.1 hw _ (hm ▸ List.mem_map_of_mem hx)
        exact absurd this (by decide)
    have ht : Tail r := by have := hX.tail; rwa [hdec, tail_app hmw] at this
    have hcont := notIdentCont_tail ht (by rintro rfl; exact hres (by rw [hdec, List.append_nil]; exact hm))
    simp only [scanWord, hk, hcont, Bool.false_eq_true, if_false]

end identRules

/-- the keyword literals: a text that is one of them in some letter case is not an identifier token -/
def litWords : List Str := ["true".toList, "false".toList, "null".toList, "any".toList, "all".toList]

theorem lexOne_ident_of (c : Char) (t0 : Str) (total : Nat) (hX : DottedOk (c :: t0) total) (hc : isStartA c = true)
    (htot : total ≤ 128) (hres : (c :: t0).map lowerA ∉ litWords) :
    lexOne E (c :: t0) = some (.ident (identOfText (c :: t0)), []) := by
  obtain ⟨hstart, hdig, h01, h2, hword⟩ := startA_spec hc
  obtain ⟨hw, hsp, hq, hm, hdot, hp⟩ := wordA_spec hword
  have kwd : ∀ w ∈ litWords, scanWord E w (c :: t0) = none := fun w hw =>
    ident_scanWord hX w (by revert w; decide +kernel) (fun e => hres (e ▸ hw))
  simp only [litWords, List.forall_mem_cons] at kwd
  obtain ⟨w1, w2, w3, w4, w5, -⟩ := kwd
  have htail : identTail E 127 t0 = (t0, []) := by
    have h2 : nd t0 + 1 = total := by simpa [nd, List.filter_cons, hdot] using hX.nd
    exact identTail_full _ t0 127 (Nat.le_refl _) ((tail_word hword).1 hX.tail) (by omega)
  have hid : scanIdent E (c :: t0) = some (identOfText (c :: t0), []) := by
    simp only [scanIdent, hstart, htail, if_true]
  have op : ∀ {t : Tok} {w : Str} {fs : List Rule} {x}, firstSome fs (c :: t0) = x →
      firstSome (rOp t (scanOp E w) :: fs) (c :: t0) = x := fun h => skip (fails (scanOp_head hsp)) h
  exact (lexOne_eq E _).trans <|
    skip (fails (ident_scanDuration hX)) <| skip (fails (scanString_head hq)) <| skip (fails (ident_scanGeography hX)) <|
    skip (fails (ident_scanGuid hX)) <| skip (fails (scanDateTime_head hdig)) <| skip (fails (scanDatePart_head hdig)) <|
    skip (fails (scanTime_head h01 h2)) <| skip (fails (scanDecimal_head hp hm hdig)) <|
    skip (fails (scanInteger_head hp hm hdig)) <| skip (fails w1) <| skip (fails w2) <| skip (fails w3) <|
    op <| op <| op <| op <| op <| skip ((rMinus_cons c t0).trans (if_neg hm)) <| op <| op <|
    skip (fails (ident_scanNot hX)) <| op <| op <| op <| op <| op <| op <| op <|
    skip (fails w4) <| skip (fails w5) <| hitIdent hid

theorem ident_kind (segs : List Str) (last : Str) (h : wfIdent (segs ++ [last])) (hk : notReserved (dotted (segs ++ [last])))
    (rest : Str) (hb : boundary rest) :
    lexOne pyCharEnv (dotted (segs ++ [last]) ++ rest) = some (.ident ⟨last, segs⟩, rest) := by
  obtain ⟨hsegs, ⟨c, t, r, hshape, hc⟩, htot⟩ := h
  have hX := dotted_ok (segs ++ [last]) (by simp) hsegs
  have hnodot : ∀ s ∈ segs ++ [last], '.' ∉ s := fun s hs hd =>
    word_ne_dot (List.all_eq_true.1 (hsegs s hs).2 _ hd) rfl
  have hns := LitValue.ident_namespaces segs last hnodot
  obtain ⟨t0, ht0⟩ : ∃ t0, dotted (segs ++ [last]) = c :: t0 := by
    rw [hshape]
    cases r with
    | nil => exact ⟨t, by rw [dotted_single]⟩
    | cons b L => exact ⟨t ++ '.' :: dotted (b :: L), by rw [dotted_cons2]; rfl⟩
  rw [ht0] at hX hk hns ⊢
  have hw : ∀ w ∈ reservedWords, (c :: t0).map lowerA ≠ w := fun w hw e => hk (e ▸ hw)
  have halone := lexOne_ident_of c t0 _ hX hc htot (fun hm => hw _ (List.mem_of_mem_take (i := 5) hm) rfl)
  rw [hns] at halone
  rcases hb with rfl | ⟨d, tl, rfl, hd⟩
  · rwa [List.append_nil]
  · refine lexOne_ext_ident tl halone ?_ fun _ => ident_scanNot_blank hX (hw _ (by decide +kernel)) tl
    rcases hd with rfl | rfl | rfl <;> decide


def fracT (fr : Option (Nat × Nat)) : Str := match fr with | none => [] | some (wf, nf) => '.' :: pad (wf + 1) nf

theorem decimalText_eq (sg : Sign) (wi ni : Nat) (fr : Option (Nat × Nat)) (ex : Expo) :
    decimalText sg wi ni fr ex = sg.text ++ (pad (wi + 1) ni ++ (fracT fr ++ ex.text)) := by
  rcases fr with _ | ⟨wf, nf⟩ <;> simp [decimalText, fracT, List.append_assoc]

theorem ci_e_e : ciChar E 'e' 'e' = true := by decide +kernel
theorem ci_e_E : ciChar E 'e' 'E' = true := by decide +kernel
theorem isDigit_e : E.isDigit 'e' = false := by decide +kernel
theorem isDigit_E : E.isDigit 'E' = false := by decide +kernel

theorem scanInteger_signed (sg : Sign) (w n : Nat) (r : Str) (hr : Stops E.isDigit r) :
    scanInteger E (sg.text ++ (pad (w + 1) n ++ r)) = some (sg.text ++ pad (w + 1) n, r) := by
  have h1 := span1_pad w n r hr
  cases sg with
  | none => exact (scanInteger_digit (digitHead_append (digitHead_pad w n) r)).trans h1
  | plus => simp only [Sign.text, List.cons_append, List.nil_append, scanInteger, h1, Option.map_some]
  | minus => simp only [Sign.text, List.cons_append, List.nil_append, scanInteger, h1, Option.map_some]

theorem scanExponent_text (u : Bool) (sg : Sign) (w n : Nat) :
    scanExponent E ((if u then 'E' else 'e') :: (sg.text ++ pad (w + 1) n)) = some ((if u then 'E' else 'e') :: (sg.text ++ pad (w + 1) n), []) := by
  have h1 := span1_pad w n [] (by intro c t h; cases h)
  rw [List.append_nil] at h1
  have hci : ciChar E 'e' (if u then 'E' else 'e') = true := by cases u <;> simp [ci_e_e, ci_e_E]
  cases sg with
  | none =>
    obtain ⟨t, ht⟩ := pad_head w n
    simp only [Sign.text, List.nil_append]
    rw [ht] at h1 ⊢
    unfold scanExponent
    simp only [hci, if_true]
    split
    · rename_i heq; simp at heq; exact absurd heq.1 (digitChar_ne_plus _)
    · rename_i heq; simp at heq; exact absurd heq.1 (digitChar_ne_minus _)
    · simp [h1]
  | plus => simp [Sign.text, scanExponent, hci, h1]
  | minus => simp [Sign.text, scanExponent, hci, h1]

theorem expo_text_eq (u : Bool) (sg : Sign) (w n : Nat) :
    (Expo.some u sg w n).text = (if u then 'E' else 'e') :: (sg.text ++ pad (w + 1) n) := by
  simp [Expo.text]

theorem expo_head_nodigit (ex : Expo) : ∀ c t, ex.text = c :: t → E.isDigit c = false ∧ c ≠ '.' := by
  intro c t h
  cases ex with
  | none => cases h
  | some u sg w n =>
    rw [expo_text_eq] at h
    simp only [List.cons.injEq] at h
    obtain ⟨rfl, _⟩ := h
    cases u
    · exact ⟨isDigit_e, by decide⟩
    · exact ⟨isDigit_E, by decide⟩

theorem scanDecimal_text (sg : Sign) (wi ni : Nat) (fr : Option (Nat × Nat)) (ex : Expo) (hfe : fr ≠ none ∨ ex ≠ .none) :
    scanDecimal E (sg.text ++ (pad (wi + 1) ni ++ (fracT fr ++ ex.text))) = some (sg.text ++ (pad (wi + 1) ni ++ (fracT fr ++ ex.text)), []) := by
  rcases fr with _ | ⟨wf, nf⟩
  · -- no fraction: the exponent is there
    cases ex with
    | none => simp at hfe
    | some u sg' w n =>
      have hi := scanInteger_signed sg wi ni (Expo.some u sg' w n).text (fun c t h => (expo_head_nodigit _ c t h).1)
      have he := scanExponent_text u sg' w n
      simp only [fracT, List.nil_append]
      rw [expo_text_eq] at hi ⊢
      unfold scanDecimal
      simp only [hi, Option.bind_eq_bind, Option.bind_some]
      split
      · rename_i heq; simp at heq; cases u <;> simp at heq
      · simp [he]
  · have hi := scanInteger_signed sg wi ni ('.' :: (pad (wf + 1) nf ++ ex.text)) (stops_cons isDigit_dot _)
    have hf := span1_pad wf nf ex.text (fun c t h => (expo_head_nodigit _ c t h).1)
    simp only [fracT, List.cons_append]
    unfold scanDecimal
    simp only [hi, Option.bind_eq_bind, Option.bind_some, hf]
    cases ex with
    | none => simp [Expo.text, scanExponent]
    | some u sg' w n =>
      have he := scanExponent_text u sg' w n
      rw [expo_text_eq]
      simp [he]


/-- what follows the integer part of a decimal number has one `-` at most (the exponent's sign) and no `:` -/
theorem decimal_tail (fr : Option (Nat × Nat)) (ex : Expo) :
    (fracT fr ++ ex.text).count '-' ≤ 1 ∧ (fracT fr ++ ex.text).all (· != ':') = true := by
  have he : ex.text.count '-' ≤ 1 ∧ ex.text.all (· != ':') = true := by
    cases ex with
    | none => exact ⟨Nat.zero_le 1, rfl⟩
    | some u sg w n =>
      cases u <;> cases sg <;>
        simp [Expo.text, Sign.text, List.count_cons, List.count_append, count_pad, nocolon_pad]
  rcases fr with _ | ⟨wf, nf⟩
  · exact he
  · simpa [fracT, List.count_cons, List.count_append, count_pad, nocolon_pad] using he

theorem decimal_alone (sg : Sign) (wi ni : Nat) (fr : Option (Nat × Nat)) (ex : Expo) (hfe : fr ≠ none ∨ ex ≠ .none) :
    lexOne E (decimalText sg wi ni fr ex) = some (.lit .float (decimalText sg wi ni fr ex), []) := by
  rw [decimalText_eq]
  obtain ⟨p1, p2, p3, p4, p5, p6, p7⟩ := number_pre sg wi ni _ (decimal_tail fr ex).1 (decimal_tail fr ex).2
  exact lexOne_float p1 p2 p3 p4 p5 p6 p7 (scanDecimal_text sg wi ni fr ex hfe)
theorem decimal_kind (sg : Sign) (wi ni : Nat) (fr : Option (Nat × Nat)) (ex : Expo) (hi : ni < 10 ^ (wi + 1))
    (hf : ∀ wf nf, fr = some (wf, nf) → nf < 10 ^ (wf + 1)) (he : ex.ok) (hfe : fr ≠ none ∨ ex ≠ .none) (rest : Str) (hb : boundary rest) :
    lexOne pyCharEnv (decimalText sg wi ni fr ex ++ rest) = some (.lit .float (decimalText sg wi ni fr ex), rest) :=
  lexOne_boundary (decimal_alone sg wi ni fr ex hfe) rest hb


/-- a letter in the chosen case -/
def cl (b : Bool) (p : Char) : Char := if b then (if 'a' ≤ p ∧ p ≤ 'z' then Char.ofNat (p.toNat - 32) else p) else p

theorem caseWord4 (up : Nat → Bool) (a b c d : Char) :
    caseWord up [a, b, c, d] = [cl (up 0) a, cl (up 1) b, cl (up 2) c, cl (up 3) d] := rfl
theorem caseWord5 (up : Nat → Bool) (a b c d e : Char) :
    caseWord up [a, b, c, d, e] = [cl (up 0) a, cl (up 1) b, cl (up 2) c, cl (up 3) d, cl (up 4) e] := rfl

theorem true_alone : ∀ b0 b1 b2 b3 : Bool, lexOne E [cl b0 't', cl b1 'r', cl b2 'u', cl b3 'e'] =
    some (.lit .bool [cl b0 't', cl b1 'r', cl b2 'u', cl b3 'e'], []) ∧
    pyVal .bool [cl b0 't', cl b1 'r', cl b2 'u', cl b3 'e'] = .ok (.bool true) := by decide +kernel

theorem false_alone : ∀ b0 b1 b2 b3 b4 : Bool, lexOne E [cl b0 'f', cl b1 'a', cl b2 'l', cl b3 's', cl b4 'e'] =
    some (.lit .bool [cl b0 'f', cl b1 'a', cl b2 'l', cl b3 's', cl b4 'e'], []) ∧
    pyVal .bool [cl b0 'f', cl b1 'a', cl b2 'l', cl b3 's', cl b4 'e'] = .ok (.bool false) := by decide +kernel

theorem null_alone : ∀ b0 b1 b2 b3 : Bool, lexOne E [cl b0 'n', cl b1 'u', cl b2 'l', cl b3 'l'] = some (.lit .null [], []) := by
  decide +kernel

theorem bool_kind (up : Nat → Bool) (b : Bool) (rest : Str) (hb : boundary rest) :
    lexOne pyCharEnv (caseWord up (if b then "true".toList else "false".toList) ++ rest)
      = some (.lit .bool (caseWord up (if b then "true".toList else "false".toList)), rest)
    ∧ pyVal .bool (caseWord up (if b then "true".toList else "false".toList)) = .ok (.bool b) := by
  cases b
  · have e : caseWord up (if false = true then "true".toList else "false".toList) =
        [cl (up 0) 'f', cl (up 1) 'a', cl (up 2) 'l', cl (up 3) 's', cl (up 4) 'e'] := caseWord5 up _ _ _ _ _
    rw [e]
    have := false_alone (up 0) (up 1) (up 2) (up 3) (up 4)
    exact ⟨lexOne_boundary this.1 rest hb, this.2⟩
  · have e : caseWord up (if true = true then "true".toList else "false".toList) =
        [cl (up 0) 't', cl (up 1) 'r', cl (up 2) 'u', cl (up 3) 'e'] := caseWord4 up _ _ _ _
    rw [e]
    have := true_alone (up 0) (up 1) (up 2) (up 3)
    exact ⟨lexOne_boundary this.1 rest hb, this.2⟩

theorem null_kind (up : Nat → Bool) (rest : Str) (hb : boundary rest) :
    lexOne pyCharEnv (caseWord up "null".toList ++ rest) = some (.lit .null [], rest) := by
  have e : caseWord up "null".toList = [cl (up 0) 'n', cl (up 1) 'u', cl (up 2) 'l', cl (up 3) 'l'] := caseWord4 up _ _ _ _
  rw [e]
  exact lexOne_boundary (null_alone _ _ _ _) rest hb


theorem ciChar_cl {env : CharEnv} (b : Bool) (p : Char) (hp : isAsciiLower p = true) : ciChar env p (cl b p) = true := by
  have h' : 'a' ≤ p ∧ p ≤ 'z' := by simpa [isAsciiLower] using hp
  cases b
  · simp [ciChar, cl, hp]
  · simp [ciChar, cl, hp, asciiUpper, h']

theorem kw_cased {env : CharEnv} (up : Nat → Bool) : ∀ (w : Str) (k : Nat) (r : Str), (∀ p ∈ w, isAsciiLower p = true) →
    kw env (w ++ ['\'']) ((w.zipIdx k).map (fun p => cl (up p.2) p.1) ++ '\'' :: r) =
      some ((w.zipIdx k).map (fun p => cl (up p.2) p.1) ++ ['\''], r)
  | [], k, r, _ => by simp [kw, ciChar, isAsciiLower]
  | p :: w, k, r, h => by
    have ih := kw_cased (env := env) up w (k + 1) r (fun q hq => h q (List.mem_cons_of_mem _ hq))
    simp only [List.zipIdx_cons, List.map_cons, List.cons_append, kw, ciChar_cl _ p (h p (by simp)), if_true, ih]

theorem caseWord_eq (up : Nat → Bool) (w : Str) : caseWord up w = (w.zipIdx 0).map (fun p => cl (up p.2) p.1) := by
  simp [caseWord, cl]

theorem geography_kind (up : Nat → Bool) (content rest : Str) (hb : boundary rest) :
    lexOne pyCharEnv (geoText up content ++ rest)
      = some (.lit .geo (content.flatMap (fun c => if c = '\'' then ['\'', '\''] else [c])), rest) := by
  have hr : ∀ t, rest ≠ '\'' :: t := by
    intro t h
    rcases hb with rfl | ⟨c, t', rfl, hc⟩
    · cases h
    · simp at h; rcases hc with hc | hc | hc <;> (rw [hc] at h; simp at h)
  have hbody := strBody_esc content rest hr
  have hkw : kw E "geography'".toList (caseWord up "geography".toList ++ '\'' :: (esc content ++ '\'' :: rest)) =
      some (caseWord up "geography".toList ++ ['\''], esc content ++ '\'' :: rest) := by
    rw [caseWord_eq, show "geography'".toList = "geography".toList ++ ['\''] from by decide +kernel]
    exact kw_cased up _ 0 _ (by decide +kernel)
  have htext : geoText up content ++ rest = caseWord up "geography".toList ++ '\'' :: (esc content ++ '\'' :: rest) := by
    simp [geoText, esc, List.append_assoc]
  rw [htext]
  have hgeo : scanGeography E (caseWord up "geography".toList ++ '\'' :: (esc content ++ '\'' :: rest)) = some (esc content, rest) := by
    simp only [scanGeography, hkw, Option.bind_eq_bind, Option.bind_some, hbody]
  obtain ⟨t, ht⟩ : ∃ t, caseWord up "geography".toList = cl (up 0) 'g' :: t := by rw [caseWord_eq]; exact ⟨_, rfl⟩
  have hd : ciChar E 'd' (cl (up 0) 'g') = false := by cases up 0 <;> decide +kernel
  have hq : cl (up 0) 'g' ≠ '\'' := by cases up 0 <;> decide
  rw [ht] at hgeo ⊢
  exact lexOne_geo (scanDuration_head hd) (scanString_head hq) hgeo

end OQ.LitLex
