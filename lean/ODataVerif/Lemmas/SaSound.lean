/- For Props/C03.lean: the fragment of the typed grammar the SQLAlchemy visitor
   translates into modelled SQL (`C03.saFrag`, over known fields `C03.colsB`), and the invariant of the three sorts: the visitor
   returns a tree on the fragment and a library exception elsewhere; the shape of the tree; whatever SQL the environment model
   compiles it to evaluates to the term's value; on the fragment there is such SQL. -/
import ODataVerif.Lemmas.SaVisit
import ODataVerif.Lemmas.SaSql
namespace OQ.C03
open Spec

mutual
def saFragI : IntE → Bool
  | .lit _ _ | .col _ => true
  | .neg _ => false
  | .arith k l r => k != .div && saFragI l && saFragI r
  | .length s => saFragS s
  | .indexof _ _ => false
def saFragS : StrE → Bool
  | .lit _ | .col _ => true
  | .concat _ _ => false
  | .substring s i => saFragS s && saFragI i
  | .substring3 s i n => saFragS s && saFragI i && saFragI n
  | .tolower s | .toupper s | .trim s => saFragS s
end
def saFragIs : List IntE → Bool
  | [] => true
  | e :: t => saFragI e && saFragIs t
def saFragSs : List StrE → Bool
  | [] => true
  | e :: t => saFragS e && saFragSs t
def saFrag : BoolE → Bool
  | .cmpI _ l r => saFragI l && saFragI r
  | .cmpS _ l r => saFragS l && saFragS r
  | .cmpB k l r => (k == .eq || k == .ne) && saFrag l && saFrag r
  | .isNull _ _ _ => true
  | .inI e xs => saFragI e && saFragIs xs
  | .inS e xs => saFragS e && saFragSs xs
  | .and l r | .or l r => saFrag l && saFrag r
  | .not e => saFrag e
  | .like _ a b => saFragS a && saFragS b
  | .col _ | .lit _ => true

mutual
/-- every field the term mentions is a column of the table / model -/
def colsI (fields : List Str) : IntE → Bool
  | .lit _ _ => true
  | .col c => fields.contains c
  | .neg e => colsI fields e
  | .arith _ l r => colsI fields l && colsI fields r
  | .length s => colsS fields s
  | .indexof a b => colsS fields a && colsS fields b
def colsS (fields : List Str) : StrE → Bool
  | .lit _ => true
  | .col c => fields.contains c
  | .concat a b => colsS fields a && colsS fields b
  | .substring s i => colsS fields s && colsI fields i
  | .substring3 s i n => colsS fields s && colsI fields i && colsI fields n
  | .tolower s | .toupper s | .trim s => colsS fields s
end
def colsIs (fields : List Str) : List IntE → Bool
  | [] => true
  | e :: t => colsI fields e && colsIs fields t
def colsSs (fields : List Str) : List StrE → Bool
  | [] => true
  | e :: t => colsS fields e && colsSs fields t
def colsB (fields : List Str) : BoolE → Bool
  | .cmpI _ l r => colsI fields l && colsI fields r
  | .cmpS _ l r => colsS fields l && colsS fields r
  | .cmpB _ l r => colsB fields l && colsB fields r
  | .isNull _ c _ => fields.contains c
  | .inI e xs => colsI fields e && colsIs fields xs
  | .inS e xs => colsS fields e && colsSs fields xs
  | .and l r | .or l r => colsB fields l && colsB fields r
  | .not e => colsB fields e
  | .like _ a b => colsS fields a && colsS fields b
  | .col c => fields.contains c
  | .lit _ => true

end OQ.C03

namespace OQ.SaSound
open Spec SqliteSound SqliteLike OrmSound C03

def okI : Outcome (OTree × OKind) → Bool
  | .ok (t, k) => k != .list && !isConstT t
  | .lib _ => true
  | _ => false

theorem clean_of_okI {o : Outcome (OTree × OKind)} (h : okI o = true) : SqlTotal.clean o = true := by
  rcases o with ⟨t, k⟩ | _ | _ | _ <;> first | rfl | cases h

section
variable (fields : List Str) (core : Bool)

theorem visit_boolLit' (b : Bool) :
    saVisit fields core (.lit .bool (if b then "true".toList else "false".toList)) =
      .ok (.const (if b then "TRUE" else "FALSE"), .value) := by
  rw [visit_boolLit]
  cases b <;> rfl

theorem litNeedsEscape_nonlit (b : StrE) (h : isLitS b = false) : litNeedsEscape b.toExpr = false := by
  cases b <;> simp [isLitS] at h <;> rfl

/-- the places where the visitor looks at the kinds of its operands; an ordering comparison with an inline constant is
    refused with a library exception, so there the filter must be outside the fragment `c` -/
theorem notList_res {c : Prop} {P : OTree × OKind → Prop} {a b : OTree × OKind} (t : OTree × OKind)
    (ha : (a.2 == .list) = false) (hb : (b.2 == .list) = false) (h : P t) :
    res c P (if a.2 == .list || b.2 == .list then .foreign "unmodelled" else .ok t) := by
  rw [ha, hb, if_neg (by decide)]; exact h
theorem cmp_res {c : Prop} {P : OTree × OKind → Prop} {a b : OTree × OKind} (o : Bool) (e : LibExc) (t : OTree × OKind)
    (ha : (a.2 == .list) = false) (hb : (b.2 == .list) = false) (ho : o = true → ¬ c) (h : P t) :
    res c P (if a.2 == .list || b.2 == .list then .foreign "unmodelled" else if o then .lib e else .ok t) := by
  rw [ha, hb, if_neg (by decide)]
  cases o
  · exact h
  · exact ho rfl
end

section Sound
variable (fields : List Str) (core : Bool)

mutual
theorem specI : (e : IntE) → res (saFragI e = true ∧ colsI fields e = true) (fun p =>
    (p.2 == .list) = false ∧ isConstT p.1 = false ∧
    (∀ ρ s, C01.wfI e = true → semOkI ρ e = true → saSql p.1 = some s → sqlEval ρ s = some (valI (evalI ρ e))) ∧
    (C01.wfI e = true → saFragI e = true → ∃ s, saSql p.1 = some s))
    (saVisit fields core e.toExpr)
  | .lit neg ds => by
      rw [IntE.toExpr, visit_intLit]
      simp only [C01.wfI]
      refine res_pure ⟨rfl, rfl, fun ρ s hw _ hq => ?_, fun hw _ => ⟨_, paramTree_int neg ds hw⟩⟩
      rw [saSql_param, paramTree_int neg ds hw] at hq
      cases hq
      rw [evalI]; exact eval_intLit ρ neg ds hw
  | .col c => by
      rw [IntE.toExpr, visit_id]
      simp only [colsI, semOkI]
      split
      · refine res_pure ⟨rfl, rfl, fun ρ s _ hs hq => ?_, fun _ _ => ⟨_, rfl⟩⟩
        cases hq
        rw [eval_col, evalI, C01.ofVal_int ρ c hs]
      · exact fun h => absurd h.2 ‹_›
  | .neg e => by
      -- no `visit_USub`: whatever the operand, a library exception
      rw [IntE.toExpr, visit_unary]
      simp only [saFragI]
      exact res_bind (specI e) (fun h => nomatch h.1) fun _ _ h => nomatch h.1
  | .arith k l r => by
      rw [IntE.toExpr, visit_binop]
      simp only [saFragI, colsI, C01.wfI, semOkI, Bool.and_eq_true]
      refine res_bind (specI l) (fun h => ⟨h.1.1.2, h.2.1⟩) fun a ha => res_bind (specI r) (fun h => ⟨h.1.2, h.2.2⟩) fun b hb =>
        notList_res _ ha.1 hb.1 ⟨rfl, rfl, fun ρ s hw hs hq => ?_, fun hw hf => ?_⟩
      · rw [saSql_arith] at hq
        obtain ⟨x, y, hx, hy, hq⟩ := lift2_some hq
        split at hq
        · cases hq
        · cases hq
          rw [evalI_arith]
          exact eval_arith ρ k x y _ _ (ha.2.2.1 ρ x hw.1 hs.1 hx) (hb.2.2.1 ρ y hw.2 hs.2 hy)
      · obtain ⟨x, hx⟩ := ha.2.2.2 hw.1 hf.1.2
        obtain ⟨y, hy⟩ := hb.2.2.2 hw.2 hf.2
        -- `/` is true division on SQLAlchemy (floating point): outside the model
        have hk : k.toOp ≠ .div := by
          have := hf.1.1
          cases k <;> simp [ArK.toOp] at this ⊢
        exact ⟨_, by rw [saSql_arith, hx, hy]; simp only [lift2, if_neg hk]; rfl⟩
  | .length s' => by
      rw [IntE.toExpr, visit_length]
      simp only [saFragI, colsI, C01.wfI, semOkI]
      refine res_bind (specS s') id fun a ha => res_pure ⟨rfl, rfl, fun ρ s hw hs hq => ?_, fun hw hf => ?_⟩
      · rw [saSql_length] at hq
        obtain ⟨x, hx, rfl⟩ := map_some hq
        rw [evalI]
        exact eval_length ρ x _ (ha.2.2.1 ρ x hw hs hx)
      · obtain ⟨x, hx⟩ := ha.2.2.2 hw hf
        exact ⟨_, by rw [saSql_length, hx]; rfl⟩
  | .indexof a b => by
      -- `strpos` does not exist on SQLite: the tree has no SQL
      rw [IntE.toExpr, visit_indexof]
      simp only [saFragI]
      refine res_bind (specS a) (fun h => nomatch h.1) fun _ _ => res_bind (specS b) (fun h => nomatch h.1) fun _ _ =>
        res_pure ⟨rfl, rfl, fun ρ s _ _ hq => ?_, fun _ hf => nomatch hf⟩
      rw [saSql_indexof] at hq
      cases hq
theorem specS : (e : StrE) → res (saFragS e = true ∧ colsS fields e = true) (fun p =>
    (p.2 == .list) = false ∧ isConstT p.1 = false ∧
    (∀ ρ s, C01.wfS e = true → semOkS ρ e = true → saSql p.1 = some s → sqlEval ρ s = some (valS (evalS ρ e))) ∧
    (C01.wfS e = true → saFragS e = true → ∃ s, saSql p.1 = some s))
    (saVisit fields core e.toExpr)
  | .lit v => by
      rw [StrE.toExpr, visit_strLit]
      refine res_pure ⟨rfl, rfl, fun ρ s _ _ hq => ?_, fun _ _ => ⟨_, rfl⟩⟩
      cases hq
      rw [eval_str, evalS]; rfl
  | .col c => by
      rw [StrE.toExpr, visit_id]
      simp only [colsS, semOkS]
      split
      · refine res_pure ⟨rfl, rfl, fun ρ s _ hs hq => ?_, fun _ _ => ⟨_, rfl⟩⟩
        cases hq
        rw [eval_col, evalS, C01.ofVal_str ρ c hs]
      · exact fun h => absurd h.2 ‹_›
  | .concat a b => by
      -- `concat` does not exist on SQLite: the tree has no SQL
      rw [StrE.toExpr, visit_concat]
      simp only [saFragS]
      refine res_bind (specS a) (fun h => nomatch h.1) fun _ _ => res_bind (specS b) (fun h => nomatch h.1) fun _ _ =>
        res_pure ⟨rfl, rfl, fun ρ s _ _ hq => ?_, fun _ hf => nomatch hf⟩
      rw [saSql_concat] at hq
      cases hq
  | .substring s' i => by
      rw [StrE.toExpr, visit_substring2]
      simp only [saFragS, colsS, C01.wfS, semOkS, Bool.and_eq_true]
      refine res_bind (specS s') (fun h => ⟨h.1.1, h.2.1⟩) fun a ha => res_bind (specI i) (fun h => ⟨h.1.2, h.2.2⟩) fun b hb =>
        res_pure ⟨rfl, rfl, fun ρ s hw hs hq => ?_, fun hw hf => ?_⟩
      · rw [saSql_substr2, saSql_plus1] at hq
        obtain ⟨x, y', hx, hy, hq⟩ := lift2_some hq
        obtain ⟨y, hy2, rfl⟩ := map_some hy
        cases hq
        rw [evalS_substring]
        exact eval_substring2 ρ x y _ _ (ha.2.2.1 ρ x hw.1 hs.1.1 hx) (hb.2.2.1 ρ y hw.2 hs.1.2 hy2) (C01.nonnegO_of _ hs.2)
      · obtain ⟨x, hx⟩ := ha.2.2.2 hw.1 hf.1
        obtain ⟨y, hy⟩ := hb.2.2.2 hw.2 hf.2
        exact ⟨_, by rw [saSql_substr2, saSql_plus1, hx, hy]; rfl⟩
  | .substring3 s' i n => by
      rw [StrE.toExpr, visit_substring3]
      simp only [saFragS, colsS, C01.wfS, semOkS, Bool.and_eq_true]
      refine res_bind (specS s') (fun h => ⟨h.1.1.1, h.2.1.1⟩) fun a ha =>
        res_bind (specI i) (fun h => ⟨h.1.1.2, h.2.1.2⟩) fun b hb => res_bind (specI n) (fun h => ⟨h.1.2, h.2.2⟩) fun c hc =>
        res_pure ⟨rfl, rfl, fun ρ s hw hs hq => ?_, fun hw hf => ?_⟩
      · rw [saSql_substr3, saSql_plus1] at hq
        obtain ⟨x, y', z, hx, hy, hz, hq⟩ := lift3_some hq
        obtain ⟨y, hy2, rfl⟩ := map_some hy
        cases hq
        rw [evalS_substring3]
        exact eval_substring3 ρ x y z _ _ _ (ha.2.2.1 ρ x hw.1.1 hs.1.1.1.1 hx) (hb.2.2.1 ρ y hw.1.2 hs.1.1.1.2 hy2)
          (hc.2.2.1 ρ z hw.2 hs.1.1.2 hz) (C01.nonnegO_of _ hs.1.2) (C01.nonnegO_of _ hs.2)
      · obtain ⟨x, hx⟩ := ha.2.2.2 hw.1.1 hf.1.1
        obtain ⟨y, hy⟩ := hb.2.2.2 hw.1.2 hf.1.2
        obtain ⟨z, hz⟩ := hc.2.2.2 hw.2 hf.2
        exact ⟨_, by rw [saSql_substr3, saSql_plus1, hx, hy, hz]; rfl⟩
  | .tolower s' => by
      rw [StrE.toExpr, visit_tolower]
      simp only [saFragS, colsS, C01.wfS, semOkS]
      refine res_bind (specS s') id fun a ha => res_pure ⟨rfl, rfl, fun ρ s hw hs hq => ?_, fun hw hf => ?_⟩
      · rw [saSql_lower] at hq
        obtain ⟨x, hx, rfl⟩ := map_some hq
        rw [evalS]
        exact eval_lower ρ x _ (ha.2.2.1 ρ x hw hs hx)
      · obtain ⟨x, hx⟩ := ha.2.2.2 hw hf
        exact ⟨_, by rw [saSql_lower, hx]; rfl⟩
  | .toupper s' => by
      rw [StrE.toExpr, visit_toupper]
      simp only [saFragS, colsS, C01.wfS, semOkS]
      refine res_bind (specS s') id fun a ha => res_pure ⟨rfl, rfl, fun ρ s hw hs hq => ?_, fun hw hf => ?_⟩
      · rw [saSql_upper] at hq
        obtain ⟨x, hx, rfl⟩ := map_some hq
        rw [evalS]
        exact eval_upper ρ x _ (ha.2.2.1 ρ x hw hs hx)
      · obtain ⟨x, hx⟩ := ha.2.2.2 hw hf
        exact ⟨_, by rw [saSql_upper, hx]; rfl⟩
  | .trim s' => by
      rw [StrE.toExpr, visit_trim]
      simp only [saFragS, colsS, C01.wfS, semOkS]
      refine res_bind (specS s') id fun a ha => res_pure ⟨rfl, rfl, fun ρ s hw hs hq => ?_, fun hw hf => ?_⟩
      · rw [saSql_trim] at hq
        obtain ⟨x, hx, rfl⟩ := map_some hq
        rw [evalS]
        exact eval_trim ρ x _ (ha.2.2.1 ρ x hw hs hx)
      · obtain ⟨x, hx⟩ := ha.2.2.2 hw hf
        exact ⟨_, by rw [saSql_trim, hx]; rfl⟩
end

theorem specIs : (xs : List IntE) → res (saFragIs xs = true ∧ colsIs fields xs = true) (fun items =>
    (∀ ρ ts, C01.wfIs xs = true → semOkIs ρ xs = true → saSqlList (OTrees.ofList items) = some ts →
      sqlEvalList ρ ts = some ((evalIs ρ xs).map valI)) ∧
    (C01.wfIs xs = true → saFragIs xs = true → ∃ ts, saSqlList (OTrees.ofList items) = some ts))
    (saVisitList fields core (intsToExprs xs))
  | [] => by
      rw [intsToExprs, visitList_nil]
      refine res_pure ⟨fun ρ ts _ _ hq => ?_, fun _ _ => ⟨_, rfl⟩⟩
      cases hq
      rw [sqlEvalList]; rfl
  | e :: t => by
      rw [intsToExprs, visitList_cons]
      simp only [saFragIs, colsIs, C01.wfIs, semOkIs, Bool.and_eq_true]
      refine res_bind (specI fields core e) (fun h => ⟨h.1.1, h.2.1⟩) fun a ha => res_bind (specIs t) (fun h => ⟨h.1.2, h.2.2⟩)
        fun rest hr => res_pure ⟨fun ρ ts hw hs hq => ?_, fun hw hf => ?_⟩
      · rw [OTrees.ofList, saSqlList_cons] at hq
        obtain ⟨x, xs', hx, hxs, hq⟩ := lift2_some hq
        cases hq
        rw [sqlEvalList, ha.2.2.1 ρ x hw.1 hs.1 hx, hr.1 ρ xs' hw.2 hs.2 hxs]; rfl
      · obtain ⟨x, hx⟩ := ha.2.2.2 hw.1 hf.1
        obtain ⟨ts, hts⟩ := hr.2 hw.2 hf.2
        exact ⟨_, by rw [OTrees.ofList, saSqlList_cons, hx, hts]; rfl⟩
theorem specSs : (xs : List StrE) → res (saFragSs xs = true ∧ colsSs fields xs = true) (fun items =>
    (∀ ρ ts, C01.wfSs xs = true → semOkSs ρ xs = true → saSqlList (OTrees.ofList items) = some ts →
      sqlEvalList ρ ts = some ((evalSs ρ xs).map valS)) ∧
    (C01.wfSs xs = true → saFragSs xs = true → ∃ ts, saSqlList (OTrees.ofList items) = some ts))
    (saVisitList fields core (strsToExprs xs))
  | [] => by
      rw [strsToExprs, visitList_nil]
      refine res_pure ⟨fun ρ ts _ _ hq => ?_, fun _ _ => ⟨_, rfl⟩⟩
      cases hq
      rw [sqlEvalList]; rfl
  | e :: t => by
      rw [strsToExprs, visitList_cons]
      simp only [saFragSs, colsSs, C01.wfSs, semOkSs, Bool.and_eq_true]
      refine res_bind (specS fields core e) (fun h => ⟨h.1.1, h.2.1⟩) fun a ha => res_bind (specSs t) (fun h => ⟨h.1.2, h.2.2⟩)
        fun rest hr => res_pure ⟨fun ρ ts hw hs hq => ?_, fun hw hf => ?_⟩
      · rw [OTrees.ofList, saSqlList_cons] at hq
        obtain ⟨x, xs', hx, hxs, hq⟩ := lift2_some hq
        cases hq
        rw [sqlEvalList, ha.2.2.1 ρ x hw.1 hs.1 hx, hr.1 ρ xs' hw.2 hs.2 hxs]; rfl
      · obtain ⟨x, hx⟩ := ha.2.2.2 hw.1 hf.1
        obtain ⟨ts, hts⟩ := hr.2 hw.2 hf.2
        exact ⟨_, by rw [OTrees.ofList, saSqlList_cons, hx, hts]; rfl⟩

theorem cmp_sound {ρ : Row} (k : CmpK) {a b : OTree} {s : SqlTree} {va vb v : SqlVal} (hca : isNullConst a = false)
    (hcb : isNullConst b = false) (hq : saSql (on2 (cmpLookup k.toOp) a b) = some s)
    (ha : ∀ x, saSql a = some x → sqlEval ρ x = some va) (hb : ∀ y, saSql b = some y → sqlEval ρ y = some vb)
    (hv : cmpVals (cmpName k.toOp) va vb = some v) : sqlEval ρ s = some v := by
  rw [saSql_cmp k a b hca hcb] at hq
  obtain ⟨x, y, hx, hy, hq⟩ := lift2_some hq
  cases hq
  rw [eval_cmp ρ k x y _ _ (ha x hx) (hb y hy), hv]
theorem cmp_some (k : CmpK) {a b : OTree} (hca : isNullConst a = false) (hcb : isNullConst b = false)
    (ha : ∃ x, saSql a = some x) (hb : ∃ y, saSql b = some y) : ∃ s, saSql (on2 (cmpLookup k.toOp) a b) = some s := by
  obtain ⟨x, hx⟩ := ha
  obtain ⟨y, hy⟩ := hb
  exact ⟨_, by rw [saSql_cmp k a b hca hcb, hx, hy]; rfl⟩

theorem specB : (b : BoolE) → res (saFrag b = true ∧ colsB fields b = true) (fun p =>
    (p.2 == .list) = false ∧ isNullConst p.1 = false ∧
    (∀ ρ s, C01.wfB b = true → semOkB ρ b = true → saSql p.1 = some s → sqlEval ρ s = some (v3ToVal (evalB ρ b))) ∧
    (C01.wfB b = true → saFrag b = true → ∃ s, saSql p.1 = some s))
    (saVisit fields core b.toExpr)
  | .cmpI k l r => by
      simp only [saFrag, colsB, C01.wfB, semOkB, Bool.and_eq_true]
      rw [BoolE.toExpr, visit_cmp _ _ _ _ _ (C01.isNullLit_I l)]
      refine res_bind (specI fields core l) (fun h => ⟨h.1.1, h.2.1⟩) fun a ha =>
        res_bind (specI fields core r) (fun h => ⟨h.1.2, h.2.2⟩) fun b hb => ?_
      have hca := isNullConst_of_not_const ha.2.1
      have hcb := isNullConst_of_not_const hb.2.1
      apply cmp_res _ _ _ ha.1 hb.1
      · simp [ha.2.1, hb.2.1]
      · exact ⟨rfl, rfl, fun ρ s hw hs hq => cmp_sound k hca hcb hq (fun x => ha.2.2.1 ρ x hw.1 hs.1)
          (fun y => hb.2.2.1 ρ y hw.2 hs.2) (by rw [evalB_cmpI, cmpVals_int]),
          fun hw hf => cmp_some k hca hcb (ha.2.2.2 hw.1 hf.1) (hb.2.2.2 hw.2 hf.2)⟩
  | .cmpS k l r => by
      simp only [saFrag, colsB, C01.wfB, semOkB, Bool.and_eq_true]
      rw [BoolE.toExpr, visit_cmp _ _ _ _ _ (C01.isNullLit_S l)]
      refine res_bind (specS fields core l) (fun h => ⟨h.1.1, h.2.1⟩) fun a ha =>
        res_bind (specS fields core r) (fun h => ⟨h.1.2, h.2.2⟩) fun b hb => ?_
      have hca := isNullConst_of_not_const ha.2.1
      have hcb := isNullConst_of_not_const hb.2.1
      apply cmp_res _ _ _ ha.1 hb.1
      · simp [ha.2.1, hb.2.1]
      · exact ⟨rfl, rfl, fun ρ s hw hs hq => cmp_sound k hca hcb hq (fun x => ha.2.2.1 ρ x hw.1 hs.1)
          (fun y => hb.2.2.1 ρ y hw.2 hs.2) (by rw [evalB_cmpS, cmpVals_str]),
          fun hw hf => cmp_some k hca hcb (ha.2.2.2 hw.1 hf.1) (hb.2.2.2 hw.2 hf.2)⟩
  | .cmpB k l r => by
      simp only [saFrag, colsB, C01.wfB, semOkB, Bool.and_eq_true]
      rw [BoolE.toExpr, visit_cmp _ _ _ _ _ (C01.isNullLit_B l)]
      -- `true lt x`: SQLAlchemy's ArgumentError; only eq / ne are in the fragment
      have ho : ∀ o : Bool, ((k.toOp == .lt || k.toOp == .le || k.toOp == .gt || k.toOp == .ge) && o) = true →
          ¬ ((((k == .eq || k == .ne) = true ∧ saFrag l = true) ∧ saFrag r = true) ∧ colsB fields l = true ∧ colsB fields r = true) :=
        fun o h hc => by
          have := hc.1.1.1
          cases k <;> first | exact absurd this (by decide) | exact absurd h (by simp [CmpK.toOp])
      refine res_bind (specB l) (fun h => ⟨h.1.1.2, h.2.1⟩) fun a ha => res_bind (specB r) (fun h => ⟨h.1.2, h.2.2⟩) fun b hb => ?_
      apply cmp_res _ _ _ ha.1 hb.1 (ho _)
      exact ⟨rfl, rfl, fun ρ s hw hs hq => cmp_sound k ha.2.1 hb.2.1 hq (fun x => ha.2.2.1 ρ x hw.1.2 hs.1.2)
        (fun y => hb.2.2.1 ρ y hw.2 hs.2) (by rw [evalB_cmpB, cmpVals_bool k hw.1.1]),
        fun hw hf => cmp_some k ha.2.1 hb.2.1 (ha.2.2.2 hw.1.2 hf.1.2) (hb.2.2.2 hw.2 hf.2)⟩
  | .isNull kind c negated => by
      rw [visit_isNull]
      simp only [colsB]
      split
      · refine res_pure ⟨rfl, rfl, fun ρ s _ _ hq => ?_, fun _ _ => ?_⟩
        · cases negated
          · rw [if_neg (by decide), saSql_isNull] at hq
            cases hq
            rw [eval_isNull, evalB]; simp
          · rw [if_pos rfl, saSql_isNotNull] at hq
            cases hq
            rw [eval_isNotNull, evalB]; simp
        · cases negated
          · exact ⟨_, saSql_isNull c⟩
          · exact ⟨_, saSql_isNotNull c⟩
      · exact fun h => absurd h.2 ‹_›
  | .inI e xs => by
      rw [BoolE.toExpr, visit_in]
      simp only [saFrag, colsB, C01.wfB, semOkB, Bool.and_eq_true]
      refine res_bind (specI fields core e) (fun h => ⟨h.1.1, h.2.1⟩) fun a ha =>
        res_bind (specIs fields core xs) (fun h => ⟨h.1.2, h.2.2⟩) fun items hi => ?_
      rw [ha.1, if_neg (by decide)]
      refine res_pure ⟨rfl, rfl, fun ρ s hw hs hq => ?_, fun hw hf => ?_⟩
      · rw [saSql_in] at hq
        obtain ⟨x, ts, hx, hts, hq⟩ := lift2_some hq
        cases hq
        rw [evalB]
        exact eval_inI ρ x ts _ _ (ha.2.2.1 ρ x hw.1.1 hs.1.1 hx) (hi.1 ρ ts hw.1.2 hs.1.2 hts)
      · obtain ⟨x, hx⟩ := ha.2.2.2 hw.1.1 hf.1
        obtain ⟨ts, hts⟩ := hi.2 hw.1.2 hf.2
        exact ⟨_, by rw [saSql_in, hx, hts]; rfl⟩
  | .inS e xs => by
      rw [BoolE.toExpr, visit_in]
      simp only [saFrag, colsB, C01.wfB, semOkB, Bool.and_eq_true]
      refine res_bind (specS fields core e) (fun h => ⟨h.1.1, h.2.1⟩) fun a ha =>
        res_bind (specSs fields core xs) (fun h => ⟨h.1.2, h.2.2⟩) fun items hi => ?_
      rw [ha.1, if_neg (by decide)]
      refine res_pure ⟨rfl, rfl, fun ρ s hw hs hq => ?_, fun hw hf => ?_⟩
      · rw [saSql_in] at hq
        obtain ⟨x, ts, hx, hts, hq⟩ := lift2_some hq
        cases hq
        rw [evalB]
        exact eval_inS ρ x ts _ _ (ha.2.2.1 ρ x hw.1.1 hs.1.1 hx) (hi.1 ρ ts hw.1.2 hs.1.2 hts)
      · obtain ⟨x, hx⟩ := ha.2.2.2 hw.1.1 hf.1
        obtain ⟨ts, hts⟩ := hi.2 hw.1.2 hf.2
        exact ⟨_, by rw [saSql_in, hx, hts]; rfl⟩
  | .and l r => by
      rw [BoolE.toExpr, visit_boolop]
      simp only [saFrag, colsB, C01.wfB, semOkB, Bool.and_eq_true]
      refine res_bind (specB l) (fun h => ⟨h.1.1, h.2.1⟩) fun a ha => res_bind (specB r) (fun h => ⟨h.1.2, h.2.2⟩) fun b hb =>
        res_pure ⟨rfl, rfl, fun ρ s hw hs hq => ?_, fun hw hf => ?_⟩
      · rw [saSql_bool] at hq
        obtain ⟨x, y, hx, hy, hq⟩ := lift2_some hq
        cases hq
        rw [evalB]
        exact eval_and ρ x y _ _ (ha.2.2.1 ρ x hw.1 hs.1 hx) (hb.2.2.1 ρ y hw.2 hs.2 hy)
      · obtain ⟨x, hx⟩ := ha.2.2.2 hw.1 hf.1
        obtain ⟨y, hy⟩ := hb.2.2.2 hw.2 hf.2
        exact ⟨_, by rw [saSql_bool, hx, hy]; rfl⟩
  | .or l r => by
      rw [BoolE.toExpr, visit_boolop]
      simp only [saFrag, colsB, C01.wfB, semOkB, Bool.and_eq_true]
      refine res_bind (specB l) (fun h => ⟨h.1.1, h.2.1⟩) fun a ha => res_bind (specB r) (fun h => ⟨h.1.2, h.2.2⟩) fun b hb =>
        res_pure ⟨rfl, rfl, fun ρ s hw hs hq => ?_, fun hw hf => ?_⟩
      · rw [saSql_bool] at hq
        obtain ⟨x, y, hx, hy, hq⟩ := lift2_some hq
        cases hq
        rw [evalB]
        exact eval_or ρ x y _ _ (ha.2.2.1 ρ x hw.1 hs.1 hx) (hb.2.2.1 ρ y hw.2 hs.2 hy)
      · obtain ⟨x, hx⟩ := ha.2.2.2 hw.1 hf.1
        obtain ⟨y, hy⟩ := hb.2.2.2 hw.2 hf.2
        exact ⟨_, by rw [saSql_bool, hx, hy]; rfl⟩
  | .not e => by
      rw [BoolE.toExpr, visit_unary]
      simp only [saFrag, colsB, C01.wfB, semOkB]
      refine res_bind (specB e) id fun a ha => res_pure ⟨rfl, rfl, fun ρ s hw hs hq => ?_, fun hw hf => ?_⟩
      · rw [saSql_un] at hq
        obtain ⟨x, hx, rfl⟩ := map_some hq
        rw [evalB]
        exact eval_not ρ x _ (ha.2.2.1 ρ x hw hs hx)
      · obtain ⟨x, hx⟩ := ha.2.2.2 hw hf
        exact ⟨_, by rw [saSql_un, hx]; rfl⟩
  | .like k a b => by
      rw [visit_like]
      simp only [saFrag, colsB, C01.wfB, Bool.and_eq_true]
      refine res_bind (specS fields core a) (fun h => ⟨h.1.1, h.2.1⟩) fun p hp => ?_
      -- what `semOkB` says about the two values: SQLite's case folding does not show, and a computed pattern has no wildcard
      have hcond : ∀ ρ, semOkB ρ (.like k a b) = true → ∀ h n, evalS ρ a = some h → evalS ρ b = some n →
          likeCI k h n = likeSem k h n ∧ (isLitS b = true ∨ hasLikeMeta n = false) := by
        intro ρ hs h n ha hb
        simp only [semOkB, Bool.and_eq_true] at hs
        have := hs.2
        rw [ha, hb] at this
        simpa using this
      have hsem : ∀ ρ, semOkB ρ (.like k a b) = true → v3ToVal (evalB ρ (.like k a b)) =
          v3ToVal (cmp2 (likeCI k) (evalS ρ a) (evalS ρ b)) := fun ρ hs => by
        rw [evalB_like, cmp2_congr fun h n ha hb => (hcond ρ hs h n ha hb).1]
      have hsab : ∀ ρ, semOkB ρ (.like k a b) = true → semOkS ρ a = true ∧ semOkS ρ b = true := fun ρ hs => by
        simp only [semOkB, Bool.and_eq_true] at hs; exact hs.1
      cases hl : isLitS b with
      | true =>
        cases b with
        | lit n =>
          rw [StrE.toExpr, visit_strLit]
          refine res_pure ⟨rfl, by cases litNeedsEscape (.lit .str n) <;> rfl, fun ρ s hw hs hq => ?_, fun hw hf => ?_⟩
          · rw [hsem ρ hs, show evalS ρ (.lit n) = some n by rw [evalS]]
            cases hne : litNeedsEscape (.lit .str n) with
            | true =>
              rw [hne, if_pos rfl, saSql_like_esc] at hq
              obtain ⟨x, hx, rfl⟩ := map_some hq
              exact eval_like_sa_esc ρ k x _ n (hp.2.2.1 ρ x hw.1 (hsab ρ hs).1 hx)
            | false =>
              rw [hne, if_neg (by decide), saSql_like] at hq
              obtain ⟨x, q, hx, hq', hq⟩ := lift2_some hq
              cases hq
              cases hq'
              exact eval_like_sa ρ k x _ _ (some n) (hp.2.2.1 ρ x hw.1 (hsab ρ hs).1 hx) (eval_str ρ n)
                fun _ n' _ hn' => by cases hn'; exact noMeta_of_not_needsEscape n hne
          · obtain ⟨x, hx⟩ := hp.2.2.2 hw.1 hf.1
            cases litNeedsEscape (.lit .str n)
            · exact ⟨_, by rw [if_neg (by decide), saSql_like, hx]; rfl⟩
            · exact ⟨_, by rw [if_pos rfl, saSql_like_esc, hx]; rfl⟩
        | _ => simp [isLitS] at hl
      | false =>
        rw [litNeedsEscape_nonlit b hl, if_neg (by decide)]
        refine res_bind (specS fields core b) (fun h => ⟨h.1.2, h.2.2⟩) fun q hq' =>
          res_pure ⟨rfl, rfl, fun ρ s hw hs hq => ?_, fun hw hf => ?_⟩
        · rw [saSql_like] at hq
          obtain ⟨x, y, hx, hy, hq⟩ := lift2_some hq
          cases hq
          rw [hsem ρ hs]
          refine eval_like_sa ρ k x y _ _ (hp.2.2.1 ρ x hw.1 (hsab ρ hs).1 hx) (hq'.2.2.1 ρ y hw.2 (hsab ρ hs).2 hy)
            fun h n ha hb => ?_
          rcases (hcond ρ hs h n ha hb).2 with h1 | h1
          · rw [hl] at h1; cases h1
          · exact h1
        · obtain ⟨x, hx⟩ := hp.2.2.2 hw.1 hf.1
          obtain ⟨y, hy⟩ := hq'.2.2.2 hw.2 hf.2
          exact ⟨_, by rw [saSql_like, hx, hy]; rfl⟩
  | .col c => by
      rw [BoolE.toExpr, visit_id]
      simp only [colsB]
      split
      · refine res_pure ⟨rfl, rfl, fun ρ s _ hs hq => ?_, fun _ _ => ⟨_, rfl⟩⟩
        cases hq
        rw [eval_col, C01.ofVal_bool ρ c hs]
      · exact fun h => absurd h.2 ‹_›
  | .lit b => by
      rw [BoolE.toExpr, visit_boolLit']
      refine res_pure ⟨rfl, by cases b <;> rfl, fun ρ s _ _ hq => ?_, fun _ _ => by cases b <;> exact ⟨_, rfl⟩⟩
      rw [evalB]
      cases b
      · cases hq; exact eval_boolLit ρ false
      · cases hq; exact eval_boolLit ρ true
end Sound

end OQ.SaSound
