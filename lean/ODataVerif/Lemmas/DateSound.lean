/-
  For Props/C01Date.lean: `DateV.ofIso` and `natOfDigits` read the ISO spelling and the numerals back, `sqlEvalD` one node at a
  time, and the shape facts (`litOk`, `sqlSafe`, totality of the SQLite visitor) for the image of `DateF` in the parser's AST.
-/
import ODataVerif.Spec.DateFilters
import ODataVerif.Props.DateOrder
import ODataVerif.Lemmas.SqliteSound
import ODataVerif.Lemmas.SqliteSoundB
import ODataVerif.Lemmas.TypedShape
namespace OQ.DateSound
open Spec SqliteSound TypedShape DateSem

theorem isDig_digitChar (k : Nat) : isDig (digitChar k) = true := by
  rw [isDig_iff, digitChar_toNat]; omega

theorem toDigits_ascii (n : Nat) : asciiDigits (Nat.toDigits 10 n) = true := by
  have hall : (Nat.toDigits 10 n).all isDig = true := by
    rw [List.all_eq_true]
    intro c hc
    have h := Nat.isDigit_of_mem_toDigits (by decide) (by decide) hc
    simp only [Char.isDigit, Bool.and_eq_true, decide_eq_true_eq, UInt32.le_iff_toNat_le] at h
    exact (isDig_iff c).2 h
  unfold asciiDigits
  rw [hall]
  cases h : Nat.toDigits 10 n with
  | nil => exact absurd h Nat.toDigits_ne_nil
  | cons _ _ => rfl

theorem natOfDigits_toDigits (n : Nat) : Spec.natOfDigits (Nat.toDigits 10 n) = n := by
  have h : ∀ (l : Str) (i : Nat), l.foldl (fun acc c => acc * 10 + (c.toNat - '0'.toNat)) i = Nat.ofDigitChars 10 l i := by
    intro l
    induction l with
    | nil => exact fun _ => rfl
    | cons c t ih => intro i; rw [List.foldl_cons, ih, Nat.ofDigitChars_cons, Nat.mul_comm]
  rw [Spec.natOfDigits, h, Nat.ofDigitChars_ten_toDigits]

theorem digs_all_isDig : (n k : Nat) → (digs n k).all isDig = true
  | 0, _ => rfl
  | n + 1, k => by rw [digs, List.all_append, digs_all_isDig n, List.all_cons, isDig_digitChar]; rfl

theorem natOfDigits_append (s : Str) (c : Char) : Spec.natOfDigits (s ++ [c]) = Spec.natOfDigits s * 10 + (c.toNat - '0'.toNat) := by
  rw [Spec.natOfDigits, List.foldl_append]; rfl

theorem natOfDigits_digs : (n : Nat) → {k : Nat} → k < 10 ^ n → Spec.natOfDigits (digs n k) = k
  | 0, k, h => by rw [digs]; exact (Nat.lt_one_iff.1 h).symm
  | n + 1, k, h => by
      rw [Nat.pow_succ] at h
      rw [digs, natOfDigits_append, natOfDigits_digs n (by omega), digitChar_toNat, show '0'.toNat = 48 from rfl]
      omega

theorem castInt_digs (n : Nat) {k : Nat} (h : k < 10 ^ (n + 1)) : sqliteCastInt (.text (digs (n + 1) k)) = some (.int k) := by
  have hne : (digs (n + 1) k).isEmpty = false := by rw [digs]; cases digs n (k / 10) <;> rfl
  rw [sqliteCastInt, digs_all_isDig, hne, natOfDigits_digs _ h]; rfl

theorem valid_bounds (a : DateV) (h : a.valid = true) :
    1 ≤ a.y ∧ a.y ≤ 9999 ∧ 1 ≤ a.m ∧ a.m ≤ 12 ∧ 1 ≤ a.d ∧ a.d ≤ 31 := by
  simp only [DateV.valid, Bool.and_eq_true, decide_eq_true_eq] at h
  have : daysIn a.y a.m ≤ 31 := by
    unfold daysIn
    split <;> split <;> omega
  omega

theorem valid_wf (a : DateV) (h : a.valid = true) : a.wf = true := by
  have := valid_bounds a h
  simp only [DateV.wf, Bool.and_eq_true, decide_eq_true_eq]
  omega

theorem digitVal_some (c : Char) (k : Nat) (h : digitVal c = some k) : c = digitChar k ∧ k < 10 := by
  unfold digitVal at h
  split at h
  · rename_i hc
    rw [le_char_iff, le_char_iff, show '0'.toNat = 48 from by decide, show '9'.toNat = 57 from by decide] at hc
    cases h
    refine ⟨?_, by omega⟩
    rw [← Char.toNat_inj, digitChar_toNat]; omega
  · cases h

theorem digs_snoc (n q : Nat) {r : Nat} (hr : r < 10) : digs (n + 1) (q * 10 + r) = digs n q ++ [digitChar r] := by
  rw [digs, show (q * 10 + r) / 10 = q by omega, (digitChar_eq_iff (q * 10 + r) r).2 (by omega)]

theorem dig2_of {a b : Nat} (hb : b < 10) : dig2 (a * 10 + b) = [digitChar a, digitChar b] := by
  rw [dig2_eq, digs_snoc 1 a hb]; rfl

theorem dig4_of {a b c d : Nat} (hb : b < 10) (hc : c < 10) (hd : d < 10) :
    dig4 (a * 1000 + b * 100 + c * 10 + d) = [digitChar a, digitChar b, digitChar c, digitChar d] := by
  rw [dig4_eq, show a * 1000 + b * 100 + c * 10 + d = ((a * 10 + b) * 10 + c) * 10 + d by omega, digs_snoc 3 _ hd,
    digs_snoc 2 _ hc, digs_snoc 1 a hb]; rfl

theorem iso_of_ofIso (s : Str) (a : DateV) (h : DateV.ofIso s = some a) : a.iso = s := by
  unfold DateV.ofIso at h
  split at h
  · split at h
    · rename_i h1 h2 h3 h4 h5 h6 h7 h8
      cases h
      obtain ⟨rfl, l1⟩ := digitVal_some _ _ h1
      obtain ⟨rfl, l2⟩ := digitVal_some _ _ h2
      obtain ⟨rfl, l3⟩ := digitVal_some _ _ h3
      obtain ⟨rfl, l4⟩ := digitVal_some _ _ h4
      obtain ⟨rfl, l5⟩ := digitVal_some _ _ h5
      obtain ⟨rfl, l6⟩ := digitVal_some _ _ h6
      obtain ⟨rfl, l7⟩ := digitVal_some _ _ h7
      obtain ⟨rfl, l8⟩ := digitVal_some _ _ h8
      rw [DateV.iso, dig4_of l2 l3 l4, dig2_of l6, dig2_of l8]; rfl
    · cases h
  · cases h

/-- a cell allowed by `rowOk`: NULL, or the ISO spelling of a valid date -/
theorem cell_cases (v : Val) (h : (v == .null || (cellDate v).isSome) = true) :
    (v = .null ∧ cellDate v = none) ∨ ∃ a, a.valid = true ∧ v = .str a.iso ∧ cellDate v = some a := by
  cases v with
  | null => exact .inl ⟨rfl, rfl⟩
  | int z => simp [cellDate] at h
  | str s =>
    right
    have h' : (cellDate (.str s)).isSome = true := by simpa using h
    unfold cellDate at h' ⊢
    dsimp only at h' ⊢
    cases ho : DateV.ofIso s with
    | none => rw [ho] at h'; simp at h'
    | some a =>
      rw [ho] at h'
      dsimp only at h' ⊢
      by_cases hv : a.valid = true
      · refine ⟨a, hv, ?_, ?_⟩
        · rw [iso_of_ofIso s a ho]
        · rw [if_pos hv]
      · rw [if_neg hv] at h'; simp at h'

theorem cmpDate_flip (k : CmpK) (a l : DateV) : cmpDate k l a = cmpDate (flipK k) a l := by
  have h : (l == a) = (a == l) := by
    rw [Bool.eq_iff_iff]; simp only [beq_iff_eq]; exact eq_comm
  cases k <;> simp only [cmpDate, flipK, bne, h]

theorem cmpOpOf_eq (k : CmpK) : cmpOpOf k = k.toOp := by cases k <;> rfl

def dateTree (l : DateV) : SqlTree := .call (S "DATE") (one (.str l.iso))

section
variable (ρ : Row)

theorem evalD_col (c : Str) : sqlEvalD ρ (.col none c) = some (SqlVal.ofVal (ρ.get c)) := by rw [sqlEvalD]
theorem evalD_str (s : Str) : sqlEvalD ρ (.str s) = some (.text s) := by rw [sqlEvalD]
theorem evalD_num (ds : Str) (h : asciiDigits ds = true) : sqlEvalD ρ (.num ds) = some (.int (Spec.natOfDigits ds)) := by
  rw [sqlEvalD]
  simp only [asciiDigits, Bool.and_eq_true] at h
  simp [h.1, h.2]

theorem evalD_not (t : SqlTree) (a : V3) (h : sqlEvalD ρ t = some (v3ToVal a)) :
    sqlEvalD ρ (.un (S "NOT") t) = some (v3ToVal (V3.not a)) := by
  rw [sqlEvalD, h]
  simp [S, sx]
theorem evalD_and (l r : SqlTree) (a b : V3) (hl : sqlEvalD ρ l = some (v3ToVal a)) (hr : sqlEvalD ρ r = some (v3ToVal b)) :
    sqlEvalD ρ (.bin (S "AND") l r) = some (v3ToVal (V3.and a b)) := by
  rw [sqlEvalD, hl, hr]
  simp [S, sx, andVals]
theorem evalD_or (l r : SqlTree) (a b : V3) (hl : sqlEvalD ρ l = some (v3ToVal a)) (hr : sqlEvalD ρ r = some (v3ToVal b)) :
    sqlEvalD ρ (.bin (S "OR") l r) = some (v3ToVal (V3.or a b)) := by
  rw [sqlEvalD, hl, hr]
  simp [S, sx, orVals]

theorem evalD_cmp (k : CmpK) (l r : SqlTree) (a b : SqlVal) (hl : sqlEvalD ρ l = some a) (hr : sqlEvalD ρ r = some b) :
    sqlEvalD ρ (.bin (cmpName k.toOp) l r) = cmpVals (cmpName k.toOp) a b := by
  rw [sqlEvalD, hl, hr]
  have h1 := isCmpOp_cmpName k
  have h2 : (cmpName k.toOp == sx "AND") = false := by cases k <;> decide
  have h3 : (cmpName k.toOp == sx "OR") = false := by cases k <;> decide
  simp [h1, h2, h3]

theorem evalD_dateTree (l : DateV) (hv : l.valid = true) : sqlEvalD ρ (dateTree l) = some (.text l.iso) := by
  rw [dateTree, one, sqlEvalD, sqlEvalDList, evalD_str, sqlEvalDList]
  simp only [S, sx, beq_self_eq_true, if_true, sqliteDateFn, ofIso_iso l (valid_wf l hv), hv]

end

def cellIso (v : Val) : Option Str := (cellDate v).map DateV.iso

theorem cell_val (v : Val) (h : (v == .null || (cellDate v).isSome) = true) : SqlVal.ofVal v = valS (cellIso v) := by
  rcases cell_cases v h with ⟨h1, h2⟩ | ⟨a, _, h1, h2⟩
  · rw [cellIso, h2, h1]; rfl
  · rw [cellIso, h2, h1]; rfl

theorem cell_valid (v : Val) (a : DateV) (h : cellDate v = some a) : a.valid = true := by
  cases v with
  | null => cases h
  | int z => cases h
  | str s =>
    unfold cellDate at h
    dsimp only at h
    split at h
    · split at h
      · cases h; assumption
      · cases h
    · cases h

theorem cmp_cell (k : CmpK) (l : DateV) (hl : l.valid = true) (v : Val) :
    cmp2 (cmpStr k) (cellIso v) (some l.iso) = dateHolds k l (cellDate v) := by
  unfold cellIso
  cases hc : cellDate v with
  | none => rfl
  | some a =>
    show V3.ofBool (cmpStr k a.iso l.iso) = V3.ofBool (cmpDate k a l)
    rw [cmp_iso k a l (valid_wf a (cell_valid v a hc)) (valid_wf l hl)]

theorem cmpR_cell (k : CmpK) (l : DateV) (hl : l.valid = true) (v : Val) :
    cmp2 (cmpStr k) (some l.iso) (cellIso v) = dateHolds (flipK k) l (cellDate v) := by
  unfold cellIso
  cases hc : cellDate v with
  | none => rfl
  | some a =>
    show V3.ofBool (cmpStr k l.iso a.iso) = V3.ofBool (cmpDate (flipK k) a l)
    rw [cmp_iso k l a (valid_wf l hl) (valid_wf a (cell_valid v a hc)), cmpDate_flip]

def dateTrees : List DateV → SqlTrees
  | [] => .nil
  | l :: t => .cons (dateTree l) (dateTrees t)

theorem inVals_dates_null (ls : List DateV) :
    inVals .null (ls.map (fun l => SqlVal.text l.iso)) = some (if ls.isEmpty then .ff else .unk) := by
  induction ls with
  | nil => rfl
  | cons l t ih =>
    rw [List.map_cons, inVals, ih]
    have : eqForIn .null (.text l.iso) = some .unk := eqForIn_str none (some l.iso)
    rw [this]
    cases t <;> rfl

theorem inVals_dates_text (a : DateV) (ha : a.valid = true) (ls : List DateV) (hls : ls.all DateV.valid = true) :
    inVals (.text a.iso) (ls.map (fun l => SqlVal.text l.iso)) = some (V3.ofBool (ls.contains a)) := by
  induction ls with
  | nil => rfl
  | cons l t ih =>
    simp only [List.all_cons, Bool.and_eq_true] at hls
    rw [List.map_cons, inVals, ih hls.2]
    have h1 : eqForIn (.text a.iso) (.text l.iso) = some (V3.ofBool (a.iso == l.iso)) := eqForIn_str (some a.iso) (some l.iso)
    have h2 : (a.iso == l.iso) = (a == l) := by
      rw [Bool.eq_iff_iff]; simp only [beq_iff_eq]
      exact ⟨iso_inj a l (valid_wf a ha) (valid_wf l hls.1), fun h => by rw [h]⟩
    rw [h1, h2]
    rw [List.contains_cons]
    cases a == l <;> cases t.contains a <;> rfl

theorem in_cell (ls : List DateV) (hne : ls.isEmpty = false) (hls : ls.all DateV.valid = true) (v : Val) :
    inVals (valS (cellIso v)) (ls.map (fun l => SqlVal.text l.iso)) = some (dateIn ls (cellDate v)) := by
  unfold cellIso
  cases hc : cellDate v with
  | none =>
    show inVals .null _ = _
    rw [inVals_dates_null, hne]; rfl
  | some a =>
    show inVals (.text a.iso) _ = _
    rw [inVals_dates_text a (cell_valid v a hc) ls hls]; rfl

section
variable (ρ : Row)

theorem evalD_dateTrees (ls : List DateV) (hls : ls.all DateV.valid = true) :
    sqlEvalDList ρ (dateTrees ls) = some (ls.map (fun l => SqlVal.text l.iso)) := by
  induction ls with
  | nil => rw [dateTrees, sqlEvalDList]; rfl
  | cons l t ih =>
    simp only [List.all_cons, Bool.and_eq_true] at hls
    rw [dateTrees, sqlEvalDList, evalD_dateTree ρ l hls.1, ih hls.2]; rfl

theorem evalD_in (t : SqlTree) (ts : SqlTrees) (x : SqlVal) (vs : List SqlVal) (r : V3)
    (ht : sqlEvalD ρ t = some x) (hts : sqlEvalDList ρ ts = some vs) (hr : inVals x vs = some r) :
    sqlEvalD ρ (.inl t ts) = some (v3ToVal r) := by
  rw [sqlEvalD, ht, hts]
  simp [hr]

def partFmt : DatePart → String
  | .year => "%Y" | .month => "%m" | .day => "%d"

def partTree (p : DatePart) (c : Str) : SqlTree :=
  .cast (.call (S "STRFTIME") (two (.str (S (partFmt p))) (.col none c))) (S "INTEGER")

def cellPart (p : DatePart) (v : Val) : Option Int := (cellDate v).map (fun a => (a.part p : Int))

theorem evalD_strftime (fmt : Str) (t : SqlTree) (v : SqlVal) (h : sqlEvalD ρ t = some v) :
    sqlEvalD ρ (.call (S "STRFTIME") (two (.str fmt) t)) = sqliteStrftime fmt v := by
  rw [two, sqlEvalD, sqlEvalDList, evalD_str, sqlEvalDList, h, sqlEvalDList]
  simp [S, sx]

theorem evalD_castInt (e : SqlTree) (v : SqlVal) (h : sqlEvalD ρ e = some v) :
    sqlEvalD ρ (.cast e (S "INTEGER")) = sqliteCastInt v := by
  rw [sqlEvalD, h]
  simp [S, sx]

theorem strftime_cast (p : DatePart) (a : DateV) (hv : a.valid = true) :
    (sqliteStrftime (S (partFmt p)) (.text a.iso)).bind sqliteCastInt = some (.int (a.part p)) := by
  have hb := valid_bounds a hv
  unfold sqliteStrftime
  simp only [ofIso_iso a (valid_wf a hv), hv]
  cases p
  · show sqliteCastInt (.text (dig4 a.y)) = _
    rw [dig4_eq]; exact castInt_digs 3 (Nat.lt_succ_of_le hb.2.1)
  · show sqliteCastInt (.text (digs 2 a.m)) = _
    exact castInt_digs 1 (Nat.lt_of_le_of_lt hb.2.2.2.1 (by decide))
  · show sqliteCastInt (.text (digs 2 a.d)) = _
    exact castInt_digs 1 (Nat.lt_of_le_of_lt hb.2.2.2.2.2 (by decide))

theorem evalD_partTree (p : DatePart) (c : Str) (h : (ρ.get c == .null || (cellDate (ρ.get c)).isSome) = true) :
    sqlEvalD ρ (partTree p c) = some (valI (cellPart p (ρ.get c))) := by
  unfold partTree cellPart
  rcases cell_cases _ h with ⟨h1, h2⟩ | ⟨a, hv, h1, h2⟩
  · rw [h2]
    have e1 : sqlEvalD ρ (.call (S "STRFTIME") (two (.str (S (partFmt p))) (.col none c))) = some .null := by
      rw [evalD_strftime ρ _ _ _ (evalD_col ρ c), h1]; rfl
    rw [evalD_castInt ρ _ _ e1]; rfl
  · rw [h2]
    have hs := strftime_cast p a hv
    cases hf : sqliteStrftime (S (partFmt p)) (.text a.iso) with
    | none => rw [hf] at hs; cases hs
    | some w =>
      rw [hf] at hs
      have e1 : sqlEvalD ρ (.call (S "STRFTIME") (two (.str (S (partFmt p))) (.col none c))) = some w := by
        rw [evalD_strftime ρ _ _ _ (evalD_col ρ c), h1]; exact hf
      rw [evalD_castInt ρ _ _ e1]; exact hs

theorem part_cell (p : DatePart) (k : CmpK) (n : Nat) (v : Val) :
    cmp2 (cmpInt k) (cellPart p v) (some (n : Int)) = datePartHolds p k n (cellDate v) := by
  unfold cellPart
  cases cellDate v <;> rfl

end

section
variable (isD : Char → Bool)

theorem mirrorList_dates (ls : List DateV) :
    mirrorList isD .sqlite none (Exprs.ofList (ls.map dateLit)) = some (dateTrees ls) := by
  induction ls with
  | nil => rfl
  | cons l t ih => rw [List.map_cons, Exprs.ofList, mirrorList_cons, ih]; rfl

theorem mirror_partCall (p : DatePart) (c : Str) :
    mir isD (.call ⟨partName p, []⟩ (.cons (colE c) .nil)) = some (partTree p c) := by
  cases p <;> rfl

variable (ρ : Row)

theorem den_col (c : Str) : Den (mir isD) (sqlEvalD ρ) (colE c) (SqlVal.ofVal (ρ.get c)) := ⟨_, rfl, evalD_col ρ c⟩

theorem den_dateLit (l : DateV) (hv : l.valid = true) : Den (mir isD) (sqlEvalD ρ) (dateLit l) (.text l.iso) :=
  ⟨_, rfl, evalD_dateTree ρ l hv⟩

theorem den_nat (n : Nat) : Den (mir isD) (sqlEvalD ρ) (.lit .int (Nat.toDigits 10 n)) (.int n) :=
  ⟨_, rfl, by rw [numOf_digits _ (toDigits_ascii n), evalD_num ρ _ (toDigits_ascii n), natOfDigits_toDigits]⟩

theorem den_cmp (k : CmpK) {l r : Expr} {a b : SqlVal} {v : V3} (hl : isNullLit l = false) (hr : isNullLit r = false)
    (dl : Den (mir isD) (sqlEvalD ρ) l a) (dr : Den (mir isD) (sqlEvalD ρ) r b) (hv : cmpVals (cmpName k.toOp) a b = some (v3ToVal v)) :
    Den (mir isD) (sqlEvalD ρ) (.compare (cmpOpOf k) l r) (v3ToVal v) := by
  rw [cmpOpOf_eq]
  exact den2 (mirror_compare isD _ _ _ (toOp_ne_in k) hl hr) dl dr fun tl tr el er => (evalD_cmp ρ k tl tr a b el er).trans hv

theorem sound_v3 : (f : DateF) → f.wf = true → f.rowOk ρ = true → Den (mir isD) (sqlEvalD ρ) f.toExpr (v3ToVal (evalDF ρ f))
  | .cmp k c l, hw, hr => by
      simp only [DateF.wf, Bool.and_eq_true] at hw
      rw [DateF.rowOk] at hr
      refine den_cmp isD ρ k rfl rfl (den_col isD ρ c) (den_dateLit isD ρ l hw.1) ?_
      rw [cell_val _ hr, evalDF, ← cmp_cell k l hw.1]
      exact cmpVals_str k _ (some l.iso)
  | .cmpR k l c, hw, hr => by
      simp only [DateF.wf, Bool.and_eq_true] at hw
      rw [DateF.rowOk] at hr
      refine den_cmp isD ρ k rfl rfl (den_dateLit isD ρ l hw.1) (den_col isD ρ c) ?_
      rw [cell_val _ hr, evalDF, ← cmpR_cell k l hw.1]
      exact cmpVals_str k (some l.iso) _
  | .inl c ls, hw, hr => by
      simp only [DateF.wf, Bool.and_eq_true, Bool.not_eq_true'] at hw
      rw [DateF.rowOk] at hr
      refine ⟨_, by rw [DateF.toExpr, mirror_in, mirrorList_dates]; rfl,
        evalD_in ρ _ _ _ _ _ (evalD_col ρ c) (evalD_dateTrees ρ ls hw.1.2) ?_⟩
      rw [cell_val _ hr]
      exact in_cell ls hw.1.1 hw.1.2 _
  | .part p k c n, hw, hr => by
      rw [DateF.rowOk] at hr
      refine den_cmp isD ρ k rfl rfl ⟨_, mirror_partCall isD p c, evalD_partTree ρ p c hr⟩ (den_nat isD ρ n) ?_
      rw [evalDF, ← part_cell]
      exact cmpVals_int k _ (some (n : Int))
  | .and l r, hw, hr => by
      simp only [DateF.wf, Bool.and_eq_true] at hw
      simp only [DateF.rowOk, Bool.and_eq_true] at hr
      exact den2 (mirror_and isD _ _) (sound_v3 l hw.1 hr.1) (sound_v3 r hw.2 hr.2) fun tl tr => evalD_and ρ tl tr _ _
  | .or l r, hw, hr => by
      simp only [DateF.wf, Bool.and_eq_true] at hw
      simp only [DateF.rowOk, Bool.and_eq_true] at hr
      exact den2 (mirror_or isD _ _) (sound_v3 l hw.1 hr.1) (sound_v3 r hw.2 hr.2) fun tl tr => evalD_or ρ tl tr _ _
  | .not e, hw, hr => den1 (mirror_not isD _) (sound_v3 e hw hr) fun t => evalD_not ρ t _

end

theorem iso_noquote (a : DateV) : (!a.iso.contains '\'') = true := by
  have h : ∀ k, ¬ '\'' = digitChar k := fun k e => by
    have := congrArg Char.toNat e
    rw [digitChar_toNat, show '\''.toNat = 39 from by decide] at this
    omega
  simp [DateV.iso, dig4, dig2, h]

section
variable (isD : Char → Bool)

theorem litOk_col (c : Str) (h : (!c.contains '"') = true) : litOk isD .sqlite (colE c) = true := by
  rw [colE, litOk]; exact nameOk_of .sqlite h

theorem litOk_dateLit (l : DateV) : litOk isD .sqlite (dateLit l) = true := by
  rw [dateLit, litOk, litTextOk]; exact iso_noquote l

theorem litOk_dates (ls : List DateV) : litOkList isD .sqlite (Exprs.ofList (ls.map dateLit)) = true := by
  induction ls with
  | nil => rw [List.map_nil, Exprs.ofList, litOkList]
  | cons l t ih => rw [List.map_cons, Exprs.ofList, litOkList, litOk_dateLit, ih]; rfl

theorem date_litOk : (f : DateF) → f.wf = true → litOk isD .sqlite f.toExpr = true
  | .cmp k c l, hw => by
      simp only [DateF.wf, Bool.and_eq_true] at hw
      rw [DateF.toExpr, litOk, litOk_col isD c hw.2, litOk_dateLit]; rfl
  | .cmpR k l c, hw => by
      simp only [DateF.wf, Bool.and_eq_true] at hw
      rw [DateF.toExpr, litOk, litOk_col isD c hw.2, litOk_dateLit]; rfl
  | .inl c ls, hw => by
      simp only [DateF.wf, Bool.and_eq_true] at hw
      rw [DateF.toExpr, litOk, litOk_col isD c hw.2, litOk, litOk_dates]; rfl
  | .part p k c n, hw => by
      rw [DateF.wf] at hw
      have hc := litOk_col isD c hw
      rw [DateF.toExpr]
      simp only [litOk, litOkList, hc, litTextOk, Bool.and_true, Bool.true_and]
      exact isNumText_digits (toDigits_ascii n)
  | .and l r, hw => by
      simp only [DateF.wf, Bool.and_eq_true] at hw
      rw [DateF.toExpr, litOk, date_litOk l hw.1, date_litOk r hw.2]; rfl
  | .or l r, hw => by
      simp only [DateF.wf, Bool.and_eq_true] at hw
      rw [DateF.toExpr, litOk, date_litOk l hw.1, date_litOk r hw.2]; rfl
  | .not e, hw => by
      rw [DateF.wf] at hw
      rw [DateF.toExpr, litOk, date_litOk e hw]
end

theorem safe_dates : (ls : List DateV) → sqlSafeList .sqlite (Exprs.ofList (ls.map dateLit)) = true
  | [] => rfl
  | l :: t => by rw [List.map_cons, Exprs.ofList, sqlSafeList, safe_dates t]; rfl

theorem date_sqlSafe : (f : DateF) → sqlSafe .sqlite f.toExpr = true
  | .cmp k c l => rfl
  | .cmpR k l c => rfl
  | .inl c ls => by rw [DateF.toExpr, sqlSafe, sqlSafe, safe_dates]; rfl
  | .part p k c n => by cases p <;> rfl
  | .and l r => by rw [DateF.toExpr, sqlSafe, date_sqlSafe l, date_sqlSafe r]; rfl
  | .or l r => by rw [DateF.toExpr, sqlSafe, date_sqlSafe l, date_sqlSafe r]; rfl
  | .not e => by rw [DateF.toExpr, sqlSafe]; exact date_sqlSafe e

section
variable {isD : Char → Bool} {al : Option Str}

theorem vis_dateLit (l : DateV) : Vis isD al (dateLit l) := by rw [Vis, dateLit, sqlVisit]; exact ⟨_, rfl⟩
theorem vis_dates (ls : List DateV) : VisL isD al (Exprs.ofList (ls.map dateLit)) := by
  induction ls with
  | nil => exact visL_nil
  | cons l t ih => exact visL_cons (vis_dateLit l) ih

theorem vis_part (p : DatePart) (c : Str) : Vis isD al (.call ⟨partName p, []⟩ (.cons (colE c) .nil)) := by
  cases p
  · exact vis_un _ "year" (by decide +kernel) (fun _ => ⟨_, rfl⟩) (vis_id c)
  · exact vis_un _ "month" (by decide +kernel) (fun _ => ⟨_, rfl⟩) (vis_id c)
  · exact vis_un _ "day" (by decide +kernel) (fun _ => ⟨_, rfl⟩) (vis_id c)

theorem date_vis : (f : DateF) → Vis isD al f.toExpr
  | .cmp _ c l => vis_compare _ (vis_id c) (vis_dateLit l)
  | .cmpR _ l c => vis_compare _ (vis_dateLit l) (vis_id c)
  | .inl c ls => vis_compare _ (vis_id c) (vis_list (vis_dates ls))
  | .part p _ c _ => vis_compare _ (vis_part p c) (vis_lit_int _)
  | .and l r => vis_boolop _ (date_vis l) (date_vis r)
  | .or l r => vis_boolop _ (date_vis l) (date_vis r)
  | .not e => vis_unary _ (date_vis e)
end

end OQ.DateSound
