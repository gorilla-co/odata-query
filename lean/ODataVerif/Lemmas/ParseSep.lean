/- The parser model ignores a WS token directly behind a unary minus: if `g` rewrites token lists
   only by putting WS tokens there (`MinusWs g`), the parser, on success, commutes with `g` (`sepInv`, from `ParseSim.inv`).
   `LexRender.sep`, the WS tokens the lexer reads between a unary minus and an unsigned number, is such a `g`
   (for Props/C13Text.lean); so is `ParseSepG.sepG S`. -/
import ODataVerif.Lemmas.LexChain
import ODataVerif.Lemmas.ParseSim
namespace OQ.ParseSep
open Spec LexRender

@[simp] theorem ok_bind {α β} (a : α) (g : α → Except PErr β) : (Except.ok a >>= g) = g a := rfl
@[simp] theorem err_bind {α β} (e : PErr) (g : α → Except PErr β) : (Except.error e >>= g) = .error e := rfl

theorem skipWs_cons {t : Tok} (h : t ≠ .ws) (r : List Tok) : skipWs (t :: r) = t :: r := by
  cases t <;> first | rfl | exact absurd rfl h

/-- `g` rewrites a token list only by putting a WS token directly behind some of its unary minus tokens, and never in
    front of a WS token -/
structure MinusWs (g : List Tok → List Tok) : Prop where
  nil : g [] = []
  cons : ∀ t r, t ≠ .uminus → g (t :: r) = t :: g r
  uminus : ∀ r, g (.uminus :: r) = .uminus :: g r ∨ g (.uminus :: r) = .uminus :: .ws :: g r ∧ skipWs r = r

variable {g : List Tok → List Tok}

namespace MinusWs

theorem head (hg : MinusWs g) (t : Tok) (r : List Tok) : ∃ r', g (t :: r) = t :: r' := by
  by_cases h : t = .uminus
  · subst h; rcases hg.uminus r with e | ⟨e, _⟩ <;> exact ⟨_, e⟩
  · exact ⟨_, hg.cons t r h⟩

theorem skip (hg : MinusWs g) (ts : List Tok) : skipWs (g ts) = g (skipWs ts) := by
  cases ts with
  | nil => show OQ.skipWs (g []) = g []; rw [hg.nil]; rfl
  | cons t r =>
    by_cases h : t = .ws
    · subst h; rw [hg.cons .ws r nofun]; rfl
    · obtain ⟨r', e⟩ := hg.head t r
      rw [skipWs_cons h, e, skipWs_cons h]

theorem length_le (hg : MinusWs g) : ∀ ts : List Tok, ts.length ≤ (g ts).length
  | [] => Nat.zero_le _
  | t :: r => by
      have ih := hg.length_le r
      by_cases h : t = .uminus
      · subst h
        rcases hg.uminus r with e | ⟨e, _⟩ <;> rw [e] <;> simp only [List.length_cons] <;> omega
      · rw [hg.cons t r h]; exact Nat.succ_le_succ ih

theorem after_uminus (hg : MinusWs g) (r : List Tok) :
    ∃ tl, g (.uminus :: r) = .uminus :: tl ∧ skipWs tl = g (skipWs r) := by
  rcases hg.uminus r with e | ⟨e, hr⟩
  · exact ⟨_, e, hg.skip r⟩
  · exact ⟨_, e, by rw [hr]; rfl⟩

end MinusWs

def MinusWs.sim (hg : MinusWs g) : ParseSim False where
  g := g
  N := id
  Ns := id
  Nl := id
  nil := hg.nil
  plain t r h := hg.cons t r (fun e => by rw [e] at h; cases h)
  lit k v r := ⟨v, hg.cons _ r nofun, rfl⟩
  uminus := hg.after_uminus
  len := False.elim
  ident _ := rfl
  unary _ _ := rfl
  binop _ _ _ := rfl
  boolop _ _ _ := rfl
  compare _ _ _ := rfl
  list _ := rfl
  named _ _ := rfl
  coll _ _ _ := rfl
  lamNone := rfl
  lamSome _ _ := rfl
  nilS := rfl
  snoc _ _ := rfl
  call _ _ := (mapO_id _).symm
  path _ _ := (mapO_id _).symm

theorem sepInv (hg : MinusWs g) (f : Nat) {m ts x r} (h : parseExpr false f m ts = .ok (x, r)) :
    parseExpr false f m (g ts) = .ok (x, g r) := by
  have := (hg.sim.inv f).expr m ts
  rw [h] at this
  exact this

@[simp] theorem sep_nil : sep [] = [] := rfl
@[simp] theorem sep_lit (k v r) : sep (.lit k v :: r) = .lit k v :: sep r := rfl
@[simp] theorem sep_arith (o r) : sep (.arith o :: r) = .arith o :: sep r := rfl
@[simp] theorem sep_bool (o r) : sep (.bool o :: r) = .bool o :: sep r := rfl
@[simp] theorem sep_not (r) : sep (.not_ :: r) = .not_ :: sep r := rfl
@[simp] theorem sep_any (r) : sep (.any :: r) = .any :: sep r := rfl
@[simp] theorem sep_all (r) : sep (.all :: r) = .all :: sep r := rfl
@[simp] theorem sep_ws (r) : sep (.ws :: r) = .ws :: sep r := rfl
@[simp] theorem sep_comma (r) : sep (.comma :: r) = .comma :: sep r := rfl
@[simp] theorem sep_colon (r) : sep (.colon :: r) = .colon :: sep r := rfl
@[simp] theorem sep_eqs (r) : sep (.eqs :: r) = .eqs :: sep r := rfl

theorem minusWs_sep : MinusWs sep where
  nil := rfl
  cons t r h := sep_cons_ne h r
  uminus r := by
    cases r with
    | nil => exact .inl rfl
    | cons u r1 =>
      simp only [sep]
      split
      · rename_i hu
        exact .inr ⟨rfl, skipWs_cons (fun e => by rw [e] at hu; cases hu) _⟩
      · exact .inl rfl

end OQ.ParseSep
