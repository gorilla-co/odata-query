/-
  For C07: the independent SQL tokeniser (Spec/SqlLex.lean) run over the characters of rendered pieces, one piece at a
  time (`piece_run`), then lists of fixed pieces with good sub-lists in between (`good_blocks`), then everything the
  visitors emit (`good_visit`).
-/
import ODataVerif.Model.SqlPieces
import ODataVerif.Lemmas.SqlModel
import ODataVerif.Lemmas.ExprInduct
namespace OQ.SqlLexing
open Spec SqlModel
open Outcome (bind_eq_ok)

theorem isLetter_iff (c : Char) :
    isLetter c = true ↔ (97 ≤ c.toNat ∧ c.toNat ≤ 122) ∨ (65 ≤ c.toNat ∧ c.toNat ≤ 90) ∨ c.toNat = 95 := by
  simp only [isLetter, Bool.and_eq_true, Bool.or_eq_true, decide_eq_true_eq, le_char_iff, beq_char_iff, or_assoc]
  rfl

theorem isBlank_iff (c : Char) :
    isBlank c = true ↔ c.toNat = 32 ∨ c.toNat = 10 ∨ c.toNat = 9 ∨ c.toNat = 13 := by
  simp only [isBlank, Bool.or_eq_true, beq_char_iff, or_assoc]; rfl

theorem isWordCh_iff (c : Char) : isWordCh c = true ↔ isLetter c = true ∨ isDig c = true := by
  simp [isWordCh]

def runS : LSt → Str → Option (List SqlTok × LSt)
  | st, [] => some ([], st)
  | st, c :: r =>
      match stepSt st c with
      | none => none
      | some (out, st') =>
          match runS st' r with
          | none => none
          | some (ts, st'') => some (out ++ ts, st'')

theorem run_append (st : LSt) (a b : Str) :
    run st (a ++ b) = match runS st a with
      | none => none
      | some (em, st') => (match run st' b with
          | none => none
          | some ts => some (em ++ ts)) := by
  induction a generalizing st with
  | nil =>
      simp only [List.nil_append, runS]
      cases run st b <;> simp
  | cons c r ih =>
      simp only [List.cons_append, run, runS]
      cases hs : stepSt st c with
      | none => simp
      | some p =>
          obtain ⟨out, st'⟩ := p
          simp only [ih]
          cases hr : runS st' r with
          | none => simp
          | some q =>
              obtain ⟨ts, st''⟩ := q
              simp only
              cases run st'' b <;> simp

theorem runS_append (st : LSt) (a b : Str) :
    runS st (a ++ b) = match runS st a with
      | none => none
      | some (em, st') => (match runS st' b with
          | none => none
          | some (ts, st'') => some (em ++ ts, st'')) := by
  induction a generalizing st with
  | nil =>
      simp only [List.nil_append, runS]
      cases runS st b <;> simp
  | cons c r ih =>
      simp only [List.cons_append, runS]
      cases hs : stepSt st c with
      | none => simp
      | some p =>
          obtain ⟨out, st'⟩ := p
          simp only [ih]
          cases hr : runS st' r with
          | none => simp
          | some q =>
              obtain ⟨ts, st''⟩ := q
              simp only
              cases runS st'' b <;> simp

theorem runS_cons_silent {st st' : LSt} {c : Char} (h : stepSt st c = some ([], st')) (r : Str) :
    runS st (c :: r) = runS st' r := by
  simp only [runS, h]
  cases runS st' r <;> simp

theorem runS_cons_emit {st st' : LSt} {c : Char} {out : List SqlTok} (h : stepSt st c = some (out, st'))
    (r : Str) {ts : List SqlTok} {st'' : LSt} (hr : runS st' r = some (ts, st'')) :
    runS st (c :: r) = some (out ++ ts, st'') := by
  simp only [runS, h, hr]


inductive EndK | top | strQ | qidQ | num | word | lt | gt | minus | slash
  deriving DecidableEq

def kindOf : LSt → Option EndK
  | .top => some .top
  | .strQ _ => some .strQ
  | .qidQ _ => some .qidQ
  | .int _ | .frac _ | .exp _ => some .num
  | .word _ => some .word
  | .lt => some .lt
  | .gt => some .gt
  | .minus => some .minus
  | .slash => some .slash
  | _ => none

def fin (st : LSt) : List SqlTok := (finish st).getD []

/-- `c` does not extend a pending token of kind `k` -/
def sepK : EndK → Char → Bool
  | .top, _ => true
  | .strQ, c => c != '\''
  | .qidQ, c => c != '"'
  | .num, c => !isWordCh c && c != '.'
  | .word, c => !isWordCh c
  | .lt, c => c != '=' && c != '>'
  | .gt, c => c != '='
  | .minus, c => c != '-'
  | .slash, c => c != '*'

def sepHead (k : EndK) : Str → Bool
  | [] => true
  | c :: _ => sepK k c

theorem finish_of_kind {st : LSt} {k : EndK} (h : kindOf st = some k) : finish st = some (fin st) := by
  cases st <;> simp [kindOf] at h <;> simp [fin, finish]

theorem isDig_wordCh {c : Char} (h : isDig c = true) : isWordCh c = true := by simp [isWordCh, h]

theorem num_sep {c : Char} (hs : sepK .num c = true) :
    isDig c = false ∧ (c == '.') = false ∧ (c == 'e' || c == 'E') = false ∧ isWordCh c = false := by
  simp only [sepK, Bool.and_eq_true, Bool.not_eq_true', bne_iff_ne, ne_eq] at hs
  obtain ⟨hw, hp⟩ := hs
  have hd : isDig c = false := by
    cases hd : isDig c with
    | false => rfl
    | true => rw [isDig_wordCh hd] at hw; cases hw
  have he : (c == 'e' || c == 'E') = false := by
    rw [Bool.eq_false_iff]
    intro he
    simp only [Bool.or_eq_true, beq_iff_eq] at he
    rcases he with rfl | rfl <;> cases hw
  exact ⟨hd, by simpa using hp, he, hw⟩

theorem step_flush {st : LSt} {k : EndK} (h : kindOf st = some k) {c : Char} (hs : sepK k c = true) :
    stepSt st c = match fromTop c with
      | some (out, s) => some (fin st ++ out, s)
      | none => none := by
  cases st <;> simp only [kindOf, Option.some.injEq, reduceCtorEq] at h <;> subst h
  case top => simp only [stepSt, fin, finish, Option.getD, List.nil_append]; cases fromTop c <;> rfl
  case int acc =>
    obtain ⟨hd, hp, he, hw⟩ := num_sep hs
    simp only [stepSt, hd, hp, he, hw, endNum, Bool.or_self, Bool.false_eq_true, if_false, flush]; cases fromTop c <;> rfl
  case frac acc =>
    obtain ⟨hd, hp, he, hw⟩ := num_sep hs
    simp only [stepSt, hd, hp, he, hw, endNum, Bool.or_self, Bool.false_eq_true, if_false, flush]; cases fromTop c <;> rfl
  case exp acc =>
    obtain ⟨hd, hp, he, hw⟩ := num_sep hs
    simp only [stepSt, hd, hp, hw, endNum, Bool.or_self, Bool.false_eq_true, if_false, flush]; cases fromTop c <;> rfl
  all_goals
    simp only [sepK, Bool.and_eq_true, Bool.not_eq_true', bne_iff_ne, ne_eq] at hs
    simp only [stepSt, beq_iff_eq, hs, if_false, flush]
    cases fromTop c <;> rfl

@[simp] theorem stepSt_top (c : Char) : stepSt .top c = fromTop c := rfl

theorem run_sep {st : LSt} {k : EndK} (h : kindOf st = some k) (rest : Str) (hs : sepHead k rest = true) :
    run st rest = match run .top rest with
      | none => none
      | some ts => some (fin st ++ ts) := by
  cases rest with
  | nil =>
    have h0 : finish .top = some [] := rfl
    simp only [run, finish_of_kind h, h0, List.append_nil]
  | cons c r =>
    simp only [run, stepSt_top, step_flush h hs]
    cases fromTop c with
    | none => simp
    | some p =>
      obtain ⟨out, s⟩ := p
      simp only
      cases run s r <;> simp

theorem runS_sep {st : LSt} {k : EndK} (h : kindOf st = some k) (c : Char) (r : Str) (hs : sepK k c = true) :
    runS st (c :: r) = match runS .top (c :: r) with
      | none => none
      | some (ts, s) => some (fin st ++ ts, s) := by
  simp only [runS, stepSt_top, step_flush h hs]
  cases fromTop c with
  | none => simp
  | some p =>
    obtain ⟨out, s⟩ := p
    simp only
    cases runS s r <;> simp

theorem piece_core {sp : Str} {em : List SqlTok} {st : LSt} {k : EndK} {toks : List SqlTok}
    (hr : runS .top sp = some (em, st)) (hk : kindOf st = some k) (ht : em ++ fin st = toks)
    (rest : Str) (ts : List SqlTok) (hs : sepHead k rest = true) (hrest : run .top rest = some ts) :
    run .top (sp ++ rest) = some (toks ++ ts) := by
  rw [run_append, hr]
  simp only [run_sep hk rest hs, hrest, ← ht, List.append_assoc]

/-- inside quotes: a doubled quote is one character of the content, a single one ends it -/
theorem runS_quoted (q : Char) (K KQ : Str → LSt)
    (hq : ∀ acc, stepSt (K acc) q = some ([], KQ acc))
    (hqq : ∀ acc, stepSt (KQ acc) q = some ([], K (acc ++ [q])))
    (hc : ∀ acc c, c ≠ q → stepSt (K acc) c = some ([], K (acc ++ [c]))) (s acc : Str) :
    runS (K acc) (dblQuote q s ++ [q]) = some ([], KQ (acc ++ s)) := by
  induction s generalizing acc with
  | nil => simp only [dblQuote, List.nil_append, runS_cons_silent (hq acc), runS, List.append_nil]
  | cons c t ih =>
    by_cases hcq : c = q
    · subst hcq
      simp only [dblQuote, beq_self_eq_true, if_true, List.cons_append, runS_cons_silent (hq acc),
        runS_cons_silent (hqq acc), ih, List.append_assoc, List.nil_append]
    · have hb : (c == q) = false := by simpa using hcq
      simp only [dblQuote, hb, Bool.false_eq_true, if_false, List.cons_append, runS_cons_silent (hc acc c hcq), ih,
        List.append_assoc, List.nil_append]

theorem runS_open_str (s : Str) : runS .top ('\'' :: dblQuote '\'' s ++ ['\'']) = some ([], .strQ s) := by
  rw [List.cons_append, runS_cons_silent (st' := .str []) rfl]
  exact runS_quoted '\'' .str .strQ (fun _ => rfl) (fun _ => rfl) (fun _ c hc => by simp [stepSt, hc]) s []

theorem runS_open_qid (s : Str) : runS .top ('"' :: dblQuote '"' s ++ ['"']) = some ([], .qidQ s) := by
  rw [List.cons_append, runS_cons_silent (st' := .qid []) rfl]
  exact runS_quoted '"' .qid .qidQ (fun _ => rfl) (fun _ => rfl) (fun _ c hc => by simp [stepSt, hc]) s []

theorem dblQuote_of_not_contains (q : Char) (s : Str) (h : (!s.contains q) = true) : dblQuote q s = s := by
  induction s with
  | nil => rfl
  | cons c t ih =>
    simp at h
    have hb : (c == q) = false := by simp; exact fun e => h.1 e.symm
    simp only [dblQuote, hb]
    rw [ih (by simpa using h.2)]
    simp

theorem runS_loop (K : Str → LSt) (p : Char → Bool)
    (hK : ∀ acc c, p c = true → stepSt (K acc) c = some ([], K (acc ++ [c]))) (s acc : Str)
    (h : s.all p = true) : runS (K acc) s = some ([], K (acc ++ s)) := by
  induction s generalizing acc with
  | nil => simp only [runS, List.append_nil]
  | cons c t ih =>
    simp only [List.all_cons, Bool.and_eq_true] at h
    rw [runS_cons_silent (hK acc c h.1), ih _ h.2, List.append_assoc, List.singleton_append]

theorem fromTop_blank {c : Char} (h : isBlank c = true) : fromTop c = some ([], .top) := by
  simp [fromTop, h]

def ExpTail (r2 : Str) : Prop :=
  (∃ c r3, r2 = c :: r3 ∧ (c = '+' ∨ c = '-') ∧ allDig r3 = true) ∨ allDig r2 = true

def EPart (r : Str) : Prop :=
  r = [] ∨ ∃ c r2, r = c :: r2 ∧ (c = 'e' ∨ c = 'E') ∧ ExpTail r2

theorem allDig_cons {s : Str} (h : allDig s = true) : ∃ d t, s = d :: t ∧ isDig d = true ∧ t.all isDig = true := by
  cases s with
  | nil => simp [allDig] at h
  | cons d t => simp [allDig] at h; exact ⟨d, t, rfl, h.1, by simpa using h.2⟩

theorem runS_exp0 (r2 acc : Str) (h : ExpTail r2) : runS (.exp0 acc) r2 = some ([], .exp (acc ++ r2)) := by
  rcases h with ⟨c, r3, rfl, hc, hd⟩ | hd
  · obtain ⟨d, t, rfl, hd1, hd2⟩ := allDig_cons hd
    have h1 : stepSt (.exp0 acc) c = some ([], .exp1 (acc ++ [c])) := by
      rcases hc with rfl | rfl <;> simp [stepSt, isDig]
    have h2 : stepSt (.exp1 (acc ++ [c])) d = some ([], .exp (acc ++ [c] ++ [d])) := by simp [stepSt, hd1]
    rw [runS_cons_silent h1, runS_cons_silent h2, runS_loop .exp isDig (fun _ _ hc => by simp [stepSt, hc]) _ _ hd2]
    simp
  · obtain ⟨d, t, rfl, hd1, hd2⟩ := allDig_cons hd
    have h1 : stepSt (.exp0 acc) d = some ([], .exp (acc ++ [d])) := by simp [stepSt, hd1]
    rw [runS_cons_silent h1, runS_loop .exp isDig (fun _ _ hc => by simp [stepSt, hc]) _ _ hd2]
    simp

theorem takeWhile_append_drop (p : Char → Bool) (l : Str) :
    l.takeWhile p ++ l.drop (l.takeWhile p).length = l := by
  induction l with
  | nil => rfl
  | cons a t ih =>
    by_cases h : p a = true
    · simp [List.takeWhile, h, ih]
    · simp [List.takeWhile, h]

theorem all_takeWhile (p : Char → Bool) (l : Str) : (l.takeWhile p).all p = true := by
  induction l with
  | nil => rfl
  | cons a t ih =>
    by_cases h : p a = true
    · simp only [List.takeWhile, h, List.all_cons, Bool.true_and]; exact ih
    · simp [List.takeWhile, h]

theorem allDig_takeWhile (l : Str) (h : (!(l.takeWhile isDig).isEmpty) = true) : allDig (l.takeWhile isDig) = true := by
  simp only [allDig, h, all_takeWhile, Bool.and_self]

/-- the optional exponent, as `isNumBody` tests it after the integer and after the fraction digits -/
theorem epart_of (r : Str) (h : (match r with
    | [] => true
    | c :: r2 => (c == 'e' || c == 'E') && (match r2 with
        | '+' :: r3 | '-' :: r3 => allDig r3
        | _ => allDig r2)) = true) : EPart r := by
  split at h
  · exact .inl rfl
  · rename_i c r2
    simp only [Bool.and_eq_true, Bool.or_eq_true, beq_iff_eq] at h
    refine .inr ⟨c, r2, rfl, h.1, ?_⟩
    have h4 := h.2
    split at h4
    · exact .inl ⟨_, _, rfl, .inl rfl, h4⟩
    · exact .inl ⟨_, _, rfl, .inr rfl, h4⟩
    · exact .inr h4

theorem isNumBody_decomp (s : Str) (h : isNumBody s = true) :
    ∃ ip r, s = ip ++ r ∧ allDig ip = true ∧
      (EPart r ∨ ∃ fp r', r = '.' :: (fp ++ r') ∧ allDig fp = true ∧ EPart r') := by
  have hs := takeWhile_append_drop isDig s
  simp only [isNumBody, Bool.and_eq_true] at h
  obtain ⟨h1, h2⟩ := h
  have hip := allDig_takeWhile s h1
  generalize s.takeWhile isDig = ip at *
  generalize hr : s.drop ip.length = r at *
  refine ⟨ip, r, hs.symm, hip, ?_⟩
  split at h2
  · exact .inl (.inl rfl)
  · rename_i r1
    simp only [Bool.and_eq_true] at h2
    have hs1 := takeWhile_append_drop isDig r1
    have hfp := allDig_takeWhile r1 h2.1
    exact .inr ⟨_, _, by rw [hs1], hfp, epart_of _ h2.2⟩
  · exact .inl (epart_of _ h2)

def NumSt (st : LSt) (s : Str) : Prop := kindOf st = some .num ∧ fin st = [.num s]

/-- after the integer or the fraction digits (`K` is `.int` or `.frac`): nothing more, or an exponent -/
theorem runS_epart (K : Str → LSt) (hK : ∀ acc, NumSt (K acc) acc)
    (hKe : ∀ acc c, c = 'e' ∨ c = 'E' → stepSt (K acc) c = some ([], .exp0 (acc ++ [c])))
    (acc r : Str) (h : EPart r) : ∃ st, runS (K acc) r = some ([], st) ∧ NumSt st (acc ++ r) := by
  rcases h with rfl | ⟨c, r2, rfl, hc, ht⟩
  · exact ⟨K acc, rfl, by rw [List.append_nil]; exact hK acc⟩
  · refine ⟨.exp (acc ++ [c] ++ r2), ?_, rfl, ?_⟩
    · rw [runS_cons_silent (hKe acc c hc), runS_exp0 _ _ ht]
    · simp [fin, finish]

/-- a word character is neither a blank nor a quote (its code is a letter's, a digit's or that of `_`) -/
theorem wordCh_plain {c : Char} (h : isWordCh c = true) :
    isBlank c = false ∧ (c == '\'') = false ∧ (c == '"') = false := by
  have hn := (isWordCh_iff c).1 h
  rw [isLetter_iff, isDig_iff] at hn
  refine ⟨?_, ?_, ?_⟩ <;> rw [Bool.eq_false_iff] <;> intro hb
  · have := (isBlank_iff c).1 hb; omega
  · have : c.toNat = 39 := (beq_char_iff c _).1 hb; omega
  · have : c.toNat = 34 := (beq_char_iff c _).1 hb; omega

theorem fromTop_digit {c : Char} (h : isDig c = true) : fromTop c = some ([], .int [c]) := by
  obtain ⟨h1, h2, h3⟩ := wordCh_plain (isDig_wordCh h)
  simp [fromTop, h1, h2, h3, h]

theorem fromTop_letter {c : Char} (h : isLetter c = true) : fromTop c = some ([], .word [c]) := by
  obtain ⟨h1, h2, h3⟩ := wordCh_plain ((isWordCh_iff c).2 (.inl h))
  have h4 : isDig c = false := by
    rw [Bool.eq_false_iff]; intro hb
    have := (isDig_iff c).1 hb; have := (isLetter_iff c).1 h; omega
  simp [fromTop, h1, h2, h3, h4, h]

theorem runS_after_int (acc r : Str)
    (hr : EPart r ∨ ∃ fp r', r = '.' :: (fp ++ r') ∧ allDig fp = true ∧ EPart r') :
    ∃ st, runS (.int acc) r = some ([], st) ∧ NumSt st (acc ++ r) := by
  rcases hr with he | ⟨fp, r', rfl, hfp, he⟩
  · exact runS_epart .int (fun _ => ⟨rfl, rfl⟩) (by rintro _ _ (rfl | rfl) <;> rfl) acc r he
  · obtain ⟨f, ft, rfl, hf1, hf2⟩ := allDig_cons hfp
    have h1 : stepSt (.int acc) '.' = some ([], .dot0 (acc ++ ['.'])) := by simp [stepSt, isDig]
    have h2 : stepSt (.dot0 (acc ++ ['.'])) f = some ([], .frac (acc ++ ['.'] ++ [f])) := by
      simp [stepSt, hf1]
    obtain ⟨st, h3, h4⟩ := runS_epart .frac (fun _ => ⟨rfl, rfl⟩) (by rintro _ _ (rfl | rfl) <;> rfl)
      (acc ++ ['.'] ++ [f] ++ ft) r' he
    refine ⟨st, ?_, ?_⟩
    · rw [runS_cons_silent h1, List.cons_append, runS_cons_silent h2, runS_append, runS_loop .frac isDig (fun _ _ hc => by simp [stepSt, hc]) _ _ hf2]
      simp only [List.nil_append, h3]
    · simpa using h4

theorem runS_numBody (s : Str) (h : isNumBody s = true) :
    ∃ d t st, s = d :: t ∧ isDig d = true ∧ runS .top s = some ([], st) ∧ NumSt st s := by
  obtain ⟨ip, r, rfl, hip, hr⟩ := isNumBody_decomp s h
  obtain ⟨d, t, rfl, hd1, hd2⟩ := allDig_cons hip
  have hrun : runS .top (d :: t) = some ([], .int (d :: t)) := by
    rw [runS_cons_silent (st := .top) (fromTop_digit hd1),
      runS_loop .int isDig (fun _ _ hc => by simp [stepSt, hc]) _ _ hd2]; rfl
  obtain ⟨st, h1, h2⟩ := runS_after_int (d :: t) r hr
  exact ⟨d, t ++ r, st, rfl, hd1, by rw [runS_append, hrun]; simp only [List.nil_append, h1], h2⟩

def opEndK (s : Str) : EndK :=
  if s = ['<'] then .lt else if s = ['>'] then .gt else if s = ['-'] then .minus
  else if s = ['/'] then .slash else .top

def endK : Piece → EndK
  | .tok (.str _) | .sq _ => .strQ
  | .tok (.qid _) | .dq _ => .qidQ
  | .tok (.num _) | .raw _ => .num
  | .tok (.word _) => .word
  | .tok (.op s) => opEndK s
  | .tok _ | .ws _ => .top

def PieceRun (q : Piece) : Prop :=
  ∃ em st, runS .top q.spell = some (em, st) ∧ kindOf st = some (endK q) ∧ em ++ fin st = q.toks

theorem pieceRun_word (s : Str) (h : Piece.ok (.tok (.word s)) = true) : PieceRun (.tok (.word s)) := by
  cases s with
  | nil => cases h
  | cons c t =>
    simp only [Piece.ok, Bool.and_eq_true, List.all_cons] at h
    have h0 : stepSt .top c = some ([], .word [c]) := fromTop_letter h.1
    refine ⟨[], .word (c :: t), ?_, rfl, rfl⟩
    simp only [Piece.spell, spellTokSql]
    rw [runS_cons_silent h0, runS_loop .word isWordCh (fun _ _ hc => by simp [stepSt, hc]) _ _ h.2.2]; rfl

theorem ops_run : sqlOps.all (fun t => match runS .top t.toList with
    | some (em, st) => kindOf st == some (opEndK t.toList) && em ++ fin st == [.op t.toList]
    | none => false) = true := by decide +kernel

theorem pieceRun_op (s : Str) (h : Piece.ok (.tok (.op s)) = true) : PieceRun (.tok (.op s)) := by
  have hr := List.all_eq_true.mp ops_run _ (List.contains_iff_mem.mp h)
  rw [String.toList_ofList] at hr
  split at hr
  · rename_i em st hrun
    simp only [Bool.and_eq_true, beq_iff_eq] at hr
    exact ⟨em, st, hrun, hr.1, hr.2⟩
  · cases hr

theorem pieceRun_raw (s : Str) (h : isNumText s = true) : PieceRun (.raw s) := by
  unfold isNumText at h
  split at h
  · rename_i t
    obtain ⟨d, t', st, rfl, hd, h1, h2, h3⟩ := runS_numBody t h
    have h0 : stepSt .top '-' = some ([], .minus) := by decide
    have hk : kindOf .minus = some .minus := rfl
    have hsep : sepK .minus d = true := by
      have hn := (isDig_iff d).1 hd
      simp only [sepK, bne_iff_ne, ne_eq]
      intro e; subst e; revert hn; decide
    refine ⟨[.op ['-']], st, ?_, h2, ?_⟩
    · simp only [Piece.spell]
      rw [runS_cons_silent h0, runS_sep hk d t' hsep, h1]
      rfl
    · simp [Piece.toks, numToks, h3]
  · rename_i t
    obtain ⟨_, _, st, _, _, h1, h2, h3⟩ := runS_numBody t h
    have h0 : stepSt .top '+' = some ([.op ['+']], .top) := by decide
    refine ⟨[.op ['+']], st, ?_, h2, ?_⟩
    · simp only [Piece.spell]
      rw [runS_cons_emit h0 t h1]; rfl
    · simp [Piece.toks, numToks, h3]
  · rename_i t hm hp
    obtain ⟨_, _, st, _, _, h1, h2, h3⟩ := runS_numBody s h
    refine ⟨[], st, h1, h2, ?_⟩
    simp only [Piece.toks, List.nil_append, h3]
    unfold numToks
    split
    · exact absurd rfl (hm _)
    · exact absurd rfl (hp _)
    · rfl

theorem pieceRun_of_ok (q : Piece) (h : q.ok = true) : PieceRun q := by
  cases q with
  | tok t =>
    cases t with
    | str s => exact ⟨[], _, runS_open_str s, rfl, rfl⟩
    | qid s => exact ⟨[], _, runS_open_qid s, rfl, rfl⟩
    | num s =>
      obtain ⟨_, _, st, _, _, h1, h2, h3⟩ := runS_numBody s h
      exact ⟨[], st, h1, h2, h3⟩
    | word s => exact pieceRun_word s h
    | op s => exact pieceRun_op s h
    | lp => exact ⟨[.lp], .top, by decide, rfl, rfl⟩
    | rp => exact ⟨[.rp], .top, by decide, rfl, rfl⟩
    | comma => exact ⟨[.comma], .top, by decide, rfl, rfl⟩
    | dot => exact ⟨[.dot], .top, by decide, rfl, rfl⟩
  | sq s => exact ⟨[], _, dblQuote_of_not_contains '\'' s h ▸ runS_open_str s, rfl, rfl⟩
  | dq s => exact ⟨[], _, dblQuote_of_not_contains '"' s h ▸ runS_open_qid s, rfl, rfl⟩
  | raw s => exact pieceRun_raw s h
  | ws s =>
    simp only [Piece.ok, Bool.and_eq_true] at h
    exact ⟨[], .top, runS_loop (fun _ => .top) isBlank (fun _ _ hc => fromTop_blank hc) s [] h.2, rfl, rfl⟩

theorem piece_run (q : Piece) (h : q.ok = true) (rest : Str) (ts : List SqlTok)
    (hs : sepHead (endK q) rest = true) (hrest : run .top rest = some ts) :
    run .top (q.spell ++ rest) = some (q.toks ++ ts) := by
  obtain ⟨em, st, h1, h2, h3⟩ := pieceRun_of_ok q h
  exact piece_core h1 h2 h3 rest ts hs hrest

theorem spell_ne_nil (q : Piece) (h : q.ok = true) : ∃ c t, q.spell = c :: t := by
  cases q with
  | tok t =>
    cases t with
    | num s | word s | op s =>
      cases s with
      | nil => exact absurd h (by decide)
      | cons c t => exact ⟨c, t, rfl⟩
    | _ => exact ⟨_, _, rfl⟩
  | raw s | ws s =>
    cases s with
    | nil => exact absurd h (by decide)
    | cons c t => exact ⟨c, t, rfl⟩
  | _ => exact ⟨_, _, rfl⟩

theorem render_append (a b : List Piece) : renderPieces (a ++ b) = renderPieces a ++ renderPieces b := by
  induction a with
  | nil => rfl
  | cons p t ih => simp [renderPieces, ih]

def isCloser (c : Char) : Bool :=
  isBlank c || c == '(' || c == ')' || c == ',' || c == '=' || c == '+' || c == '*' || c == '%' ||
  c == '|' || c == '<' || c == '>' || c == '!' || c == '-' || c == '/'

def closeHead : Str → Bool
  | [] => true
  | c :: _ => isCloser c

/-- run from the top state and followed by the end of the text or a closing character, the pieces are
    read as exactly their tokens -/
def Good (ps : List Piece) : Prop :=
  ∀ rest ts, closeHead rest = true → run .top rest = some ts →
    run .top (renderPieces ps ++ rest) = some (pieceToks ps ++ ts)

def isOpd : EndK → Bool
  | .top | .strQ | .qidQ | .num | .word => true
  | _ => false

theorem closer_plain {c : Char} (hc : isCloser c = true) :
    (c != '\'' && c != '"' && !isWordCh c && c != '.') = true := by
  simp only [isCloser, isBlank, Bool.or_eq_true, beq_iff_eq, or_assoc] at hc
  rcases hc with h | h | h | h | h | h | h | h | h | h | h | h | h | h | h | h | h <;> subst h <;> rfl

theorem sep_of_closer {k : EndK} {c : Char} (hk : isOpd k = true) (hc : isCloser c = true) :
    sepK k c = true := by
  have h := closer_plain hc
  simp only [Bool.and_eq_true] at h
  obtain ⟨⟨⟨h1, h2⟩, h3⟩, h4⟩ := h
  cases k
  case top => rfl
  case strQ => exact h1
  case qidQ => exact h2
  case num => simp only [sepK, h3, h4, Bool.and_self]
  case word => exact h3
  all_goals cases hk

theorem sepHead_of_close {k : EndK} {rest : Str} (hk : isOpd k = true) (hc : closeHead rest = true) :
    sepHead k rest = true := by
  cases rest with
  | nil => rfl
  | cons c r => exact sep_of_closer hk hc

theorem sepHead_top (rest : Str) : sepHead .top rest = true := by
  cases rest <;> rfl

def adj (p q : Piece) : Bool := sepHead (endK p) q.spell
def closerStart (q : Piece) : Bool :=
  match q.spell with
  | [] => false
  | c :: _ => isCloser c

inductive Blk
  | p (q : Piece)
  | sub (a : List Piece)

def Blk.ps : Blk → List Piece
  | .p q => [q]
  | .sub a => a
def Blk.skel : Blk → Option Piece
  | .p q => some q
  | .sub _ => none
def flat (bs : List Blk) : List Piece := bs.flatMap Blk.ps
theorem flat_nil : flat [] = [] := rfl
theorem flat_cons (b : Blk) (bs : List Blk) : flat (b :: bs) = b.ps ++ flat bs := List.flatMap_cons ..

/-- `x` followed by (the head of) what comes next; `none` = a good sub-list -/
def link : Option Piece → Option (Option Piece) → Bool
  | some q, none => q.ok && isOpd (endK q)
  | none, none => true
  | some q, some (some q') => q.ok && adj q q'
  | some q, some none => q.ok && (endK q == .top)
  | none, some (some q') => closerStart q'
  | none, some none => false

def shapeOk : List (Option Piece) → Bool
  | [] => true
  | x :: r => link x r.head? && shapeOk r

theorem good_nil : Good [] := by
  intro rest ts _ hr
  simpa [renderPieces, pieceToks] using hr

theorem link_ok {q : Piece} {nxt : Option (Option Piece)} (h : link (some q) nxt = true) : q.ok = true := by
  rcases nxt with _ | _ | _ <;> simp only [link, Bool.and_eq_true] at h <;> exact h.1

theorem good_blocks (bs : List Blk) (h : shapeOk (bs.map Blk.skel) = true)
    (hs : ∀ a, Blk.sub a ∈ bs → Good a) : Good (flat bs) := by
  induction bs with
  | nil => exact good_nil
  | cons b bs' ih =>
    simp only [List.map_cons, shapeOk, Bool.and_eq_true] at h
    obtain ⟨hl, hsh⟩ := h
    have ih' := ih hsh (fun a ha => hs a (List.mem_cons_of_mem _ ha))
    intro rest ts hc hr
    have hrest' := ih' rest ts hc hr
    rw [flat_cons, render_append, pieceToks_append, List.append_assoc, List.append_assoc]
    cases b with
    | p q =>
      have hq : q.ok = true := link_ok hl
      have hsep : sepHead (endK q) (renderPieces (flat bs') ++ rest) = true := by
        cases bs' with
        | nil =>
          simp only [Blk.skel, List.map_nil, List.head?_nil, link, Bool.and_eq_true] at hl
          simpa [flat, renderPieces] using sepHead_of_close hl.2 hc
        | cons b' r =>
          cases b' with
          | p q' =>
            simp only [Blk.skel, List.map_cons, List.head?_cons, link, Bool.and_eq_true] at hl
            simp only [List.map_cons, shapeOk, Bool.and_eq_true] at hsh
            have hq' : q'.ok = true := link_ok hsh.1
            obtain ⟨c, t, hct⟩ := spell_ne_nil q' hq'
            have ha := hl.2
            simp only [adj, hct, sepHead] at ha
            simp [flat, Blk.ps, renderPieces, hct, sepHead, ha]
          | sub a =>
            simp only [Blk.skel, List.map_cons, List.head?_cons, link, Bool.and_eq_true, beq_iff_eq] at hl
            rw [hl.2]; exact sepHead_top _
      have := piece_run q hq _ _ hsep hrest'
      simpa [Blk.ps, renderPieces, pieceToks] using this
    | sub a =>
      have ha : Good a := hs a (List.mem_cons_self)
      have hcl : closeHead (renderPieces (flat bs') ++ rest) = true := by
        cases bs' with
        | nil => simpa [flat, renderPieces] using hc
        | cons b' r =>
          cases b' with
          | p q' =>
            simp only [Blk.skel, List.map_cons, List.head?_cons, link] at hl
            simp only [closerStart] at hl
            split at hl
            · exact absurd hl (by decide +kernel)
            · rename_i c t hct
              simp [flat, Blk.ps, renderPieces, hct, closeHead, hl]
          | sub a' =>
            simp [Blk.skel, link] at hl
      exact ha _ _ hcl hrest'

theorem flat_p (ms : List Piece) (bs : List Blk) : flat (ms.map .p ++ bs) = ms ++ flat bs := by
  induction ms with
  | nil => rfl
  | cons m t ih => rw [List.map_cons, List.cons_append, flat_cons, ih]; rfl

theorem skel_p (ms : List Piece) (bs : List Blk) :
    (ms.map Blk.p ++ bs).map Blk.skel = ms.map some ++ bs.map Blk.skel := by
  rw [List.map_append, List.map_map]; rfl

/-- the sub-lists of a block list that starts with single pieces are those behind them -/
theorem sub_mem_p {a : List Piece} {ms : List Piece} {bs : List Blk} (h : Blk.sub a ∈ ms.map Blk.p ++ bs) : Blk.sub a ∈ bs := by
  rcases List.mem_append.mp h with h | h
  · obtain ⟨_, _, h⟩ := List.mem_map.mp h
    cases h
  · exact h

theorem good_pieces (ms : List Piece) (hm : shapeOk (ms.map some) = true) : Good ms := by
  have := good_blocks (ms.map .p ++ []) (by rw [skel_p]; simpa using hm) (fun x hx => by cases sub_mem_p hx)
  rwa [flat_p, flat_nil, List.append_nil] at this

theorem good_pre {b : List Piece} (ms : List Piece) (hb : Good b)
    (hm : shapeOk (ms.map some ++ [none]) = true) : Good (ms ++ b) := by
  have := good_blocks (ms.map .p ++ [.sub b]) (by rw [skel_p]; exact hm)
    (fun x hx => by cases List.mem_singleton.mp (sub_mem_p hx); exact hb)
  rwa [flat_p, flat_cons, flat_nil, Blk.ps, List.append_nil] at this

theorem good_suf {a : List Piece} (ms : List Piece) (ha : Good a)
    (hm : shapeOk (none :: ms.map some) = true) : Good (a ++ ms) := by
  have := good_blocks (.sub a :: (ms.map .p ++ [])) (by rw [List.map_cons, skel_p]; simpa [Blk.skel] using hm)
    (fun x hx => by
      rcases List.mem_cons.mp hx with h | h
      · cases h; exact ha
      · cases sub_mem_p h)
  rwa [flat_cons, flat_p, flat_nil, Blk.ps, List.append_nil] at this

theorem good_mid {a b : List Piece} (ms : List Piece) (ha : Good a) (hb : Good b)
    (hm : shapeOk (none :: (ms.map some ++ [none])) = true) : Good (a ++ (ms ++ b)) := by
  have := good_blocks (.sub a :: (ms.map .p ++ [.sub b])) (by rw [List.map_cons, skel_p]; exact hm)
    (fun x hx => by
      rcases List.mem_cons.mp hx with h | h
      · cases h; exact ha
      · cases List.mem_singleton.mp (sub_mem_p h); exact hb)
  rwa [flat_cons, flat_p, flat_cons, flat_nil, Blk.ps, Blk.ps, List.append_nil] at this

/- Wherever the model puts text of the filter's choosing (a literal, a name) it is a single piece between fixed ones;
   that piece is treated as a sub-list that is `Good` on its own, so that the fixed pieces around it are checked by
   evaluation. -/

theorem good_single (q : Piece) (hq : q.ok = true) (ho : isOpd (endK q) = true) : Good [q] :=
  good_pieces [q] (by simp only [List.map, shapeOk, List.head?, link, hq, ho]; rfl)

theorem good_paren {a : List Piece} (ha : Good a) : Good (parenP a) :=
  good_pre [lp] (good_suf [rp] ha (by decide +kernel)) (by decide +kernel)

theorem good_wrap {a : List Piece} (ha : Good a) (e : Expr) (n : Nat) (b : Bool) :
    Good (wrapOperand e n b a) := by
  unfold wrapOperand
  split
  · exact good_paren ha
  · exact ha

theorem good_joinComma : (items : List (List Piece)) → (∀ a ∈ items, Good a) → Good (joinComma items)
  | [], _ => good_nil
  | [a], h => h a (by simp)
  | a :: b :: r, h => by
      have ih := good_joinComma (b :: r) (fun x hx => h x (List.mem_cons_of_mem _ hx))
      exact good_mid [comma, sp] (h a (by simp)) ih (by decide +kernel)

theorem good_joinPlus : (items : List (List Piece)) → (∀ a ∈ items, Good a) → Good (joinPlus items)
  | [], _ => good_nil
  | [a], h => h a (by simp)
  | a :: b :: r, h => by
      have ih := good_joinPlus (b :: r) (fun x hx => h x (List.mem_cons_of_mem _ hx))
      exact good_mid [sp, o "+", sp] (h a (by simp)) ih (by decide +kernel)

/-- `"alias"."name"`: the dot is no closing character, so the three pieces are read one after the other -/
theorem good_qualified (a n : Str) (ha : (!a.contains '"') = true) (hn : (!n.contains '"') = true) :
    Good [.dq a, .tok .dot, .dq n] := by
  intro rest ts hc hr
  have h3 := piece_run (.dq n) hn rest ts (sepHead_of_close rfl hc) hr
  have h2 := piece_run (.tok .dot) rfl _ _ (sepHead_top _) h3
  have h1 := piece_run (.dq a) ha _ _ rfl h2
  simpa [renderPieces, pieceToks] using h1

theorem good_ident (d : Dialect) (al : Option Str) (name : Str)
    (hn : nameOk d name = true) (ha : aliasOk al = true) : Good (identPieces d al name) := by
  unfold identPieces
  unfold nameOk at hn
  generalize (if d = .athena then athenaClean name else name) = nm at *
  cases al with
  | none => exact good_single _ hn rfl
  | some a =>
    dsimp only
    split
    · exact good_single _ hn rfl
    · exact good_qualified a nm ha hn

def durUnits : List String := ["YEAR", "MONTH", "DAY", "HOUR", "MINUTE", "SECOND"]

/-- an interval of a duration behind the optional sign: `[+|-]INTERVAL 'n' UNIT` -/
theorem good_interval (sg : List Piece) (hsg : sg = [] ∨ sg = [.tok (.op ['+'])] ∨ sg = [.tok (.op ['-'])])
    (n : Str) (u : String) (hn : (!n.contains '\'') = true) (hu : u ∈ durUnits) : Good (sg ++ intervalP n u) := by
  have h1 : Good ([.sq n] ++ [sp, w u]) := good_suf [sp, w u] (good_single (.sq n) hn rfl) (by
    simp only [durUnits, List.mem_cons, List.not_mem_nil, or_false] at hu
    rcases hu with rfl | rfl | rfl | rfl | rfl | rfl <;> decide +kernel)
  have h2 := good_pre (sg ++ [w "INTERVAL", sp]) h1 (by rcases hsg with rfl | rfl | rfl <;> decide +kernel)
  simpa [intervalP] using h2

def IvOk (y : List Piece) : Prop :=
  ∃ n u, y = intervalP n u ∧ (!n.contains '\'') = true ∧ u ∈ durUnits

theorem optIv_ok (x : Option Str) (u : String) (hu : u ∈ durUnits)
    (hx : (match x with | some s => !s.contains '\'' | none => true) = true) : ∀ y ∈ optIv x u, IvOk y := by
  intro y hy
  obtain ⟨n, rfl, rfl⟩ := mem_optIv hy
  exact ⟨n, u, rfl, hx, hu⟩

theorem durIvs_ok (p : DurParts) (h : durPartsOk p = true) : ∀ y ∈ durIvs p, IvOk y := by
  simp only [durPartsOk, Bool.and_eq_true] at h
  obtain ⟨⟨⟨⟨⟨h1, h2⟩, h3⟩, h4⟩, h5⟩, h6⟩ := h
  intro y hy
  simp only [durIvs, List.mem_append] at hy
  rcases hy with ((((hy | hy) | hy) | hy) | hy) | hy
  · exact optIv_ok _ _ (by decide +kernel) h1 y hy
  · exact optIv_ok _ _ (by decide +kernel) h2 y hy
  · exact optIv_ok _ _ (by decide +kernel) h3 y hy
  · exact optIv_ok _ _ (by decide +kernel) h4 y hy
  · exact optIv_ok _ _ (by decide +kernel) h5 y hy
  · exact optIv_ok _ _ (by decide +kernel) h6 y hy

theorem good_duration (isD : Char → Bool) (v : Str) (ps : List Piece)
    (hl : ∀ p, durUnpack isD v = some p → durPartsOk p = true)
    (h : durationPieces isD v = .ok ps) : Good ps := by
  rw [durationPieces_eq] at h
  split at h
  · cases h
  · rename_i p hu
    have hall := durIvs_ok p (hl p hu)
    have hsg : durSign p = [] ∨ durSign p = [.tok (.op ['+'])] ∨ durSign p = [.tok (.op ['-'])] := by
      unfold durSign
      rcases durUnpack_sign isD v p hu with hs | hs | hs <;> rw [hs] <;> simp
    split at h
    · cases h
    · rename_i one hi
      cases h
      obtain ⟨n, u, rfl, hn, hu⟩ := hall one (by rw [hi]; exact List.mem_singleton_self _)
      exact good_interval _ hsg n u hn hu
    · cases h
      have hj : Good (joinPlus (durIvs p)) := good_joinPlus _ (fun a ha => by
        obtain ⟨n, u, rfl, hn, hu⟩ := hall a ha
        exact good_interval [] (.inl rfl) n u hn hu)
      have := good_pre (durSign p ++ [lp]) (good_suf [rp] hj (by decide +kernel))
        (by rcases hsg with hs | hs | hs <;> rw [hs] <;> decide +kernel)
      simpa [parenP] using this

theorem replaceT_noquote (v : Str) (h : (!v.contains '\'') = true) : (!(replaceT v).contains '\'') = true := by
  simp only [replaceT, Bool.not_eq_true', List.contains_eq_mem, decide_eq_false_iff_not, List.mem_map,
    not_exists, not_and] at *
  intro x hx
  by_cases hT : x = 'T'
  · subst hT; decide
  · have : (x == 'T') = false := by simp [hT]
    simp only [this, Bool.false_eq_true, if_false]
    intro e; subst e; exact h hx

/-- `KEYWORD 'text'` and `NAME('text')`, the two forms a quoted literal is emitted in -/
theorem good_kw_sq (f : String) (s : Str) (hf : shapeOk [some (w f), some sp, none] = true)
    (hs : (!s.contains '\'') = true) : Good [w f, sp, .sq s] :=
  good_pre [w f, sp] (good_single (.sq s) hs rfl) hf

theorem good_call_sq (f : String) (s : Str) (hf : shapeOk [some (w f), some lp, none] = true)
    (hs : (!s.contains '\'') = true) : Good [w f, lp, .sq s, rp] :=
  good_pre [w f, lp] (good_suf [rp] (good_single (.sq s) hs rfl) (by decide +kernel)) hf

theorem good_lit (isD : Char → Bool) (d : Dialect) (k : LitKind) (v : Str) (ps : List Piece)
    (hl : litTextOk isD k v = true) (h : litPieces isD d k v = .ok ps) : Good ps := by
  cases k <;> simp only [litPieces] at h <;> simp only [litTextOk] at hl
  case null => cases h; exact good_pieces _ (by decide +kernel)
  case int => cases h; exact good_single (.raw v) hl rfl
  case float => cases h; exact good_single (.raw v) hl rfl
  case bool =>
    simp only [boolText, Bool.or_eq_true, beq_iff_eq] at hl
    split at h <;> cases h
    · split <;> exact good_pieces _ (by decide +kernel)
    · rcases hl with hl | hl <;> rw [hl] <;> exact good_pieces _ (by decide +kernel)
  case str => cases h; exact good_single _ rfl rfl
  case geo => cases h
  case date =>
    split at h <;> cases h
    · exact good_call_sq "DATE" v (by decide +kernel) hl
    · exact good_kw_sq "DATE" v (by decide +kernel) hl
  case time =>
    split at h <;> cases h
    · exact good_call_sq "TIME" v (by decide +kernel) hl
    · exact good_kw_sq "TIME" v (by decide +kernel) hl
  case datetime =>
    cases d <;> cases h
    · exact good_kw_sq "TIMESTAMP" _ (by decide +kernel) (replaceT_noquote v hl)
    · exact good_call_sq "DATETIME" v (by decide +kernel) hl
    · exact good_call_sq "FROM_ISO8601_TIMESTAMP" v (by decide +kernel) hl
  case duration =>
    refine good_duration isD v ps (fun p hp => ?_) h
    simpa only [hp] using hl
  case guid => cases h; exact good_single (.sq v) hl rfl

theorem good_pattern (arg : Expr) (argPs : List Piece) (pre suf : Str) (h : Good argPs) :
    Good (sqlPattern arg argPs pre suf) := by
  have hstr : ∀ s : Str, Good [.tok (.str s)] := fun s => good_single _ rfl rfl
  have hw := good_wrap h arg 5 true
  unfold sqlPattern
  split
  · dsimp only
    split
    · exact good_suf [sp, w "ESCAPE", sp, .tok (.str ['\\'])] (hstr _) (by decide +kernel)
    · exact hstr _
  · dsimp only
    have h1 : Good (if pre.isEmpty = true then wrapOperand arg 5 true argPs
        else .tok (.str pre) :: sp :: o "||" :: sp :: wrapOperand arg 5 true argPs) := by
      split
      · exact hw
      · exact good_mid [sp, o "||", sp] (hstr pre) hw (by decide +kernel)
    split
    · exact h1
    · exact good_suf [sp, o "||", sp, .tok (.str suf)] h1 rfl

theorem good_getD (items : List (List Piece)) (hi : ∀ a ∈ items, Good a) (i : Nat) : Good (items.getD i []) := by
  rw [List.getD_eq_getElem?_getD]
  cases h : items[i]? with
  | none => exact good_nil
  | some a => exact hi a (List.mem_of_getElem? h)

def tskel : TItem → Option Piece
  | .p x => some x
  | _ => none
def tplOk (tpl : List TItem) : Bool := shapeOk (tpl.map tskel)

def toBlk (args : List Expr) (items : List (List Piece)) : TItem → Blk
  | .p x => .p x
  | t => .sub (instItem args items t)

theorem good_instantiate (tpl : List TItem) (args : List Expr) (items : List (List Piece))
    (h : tplOk tpl = true) (hi : ∀ a ∈ items, Good a) : Good (instantiate tpl args items) := by
  have hflat : instantiate tpl args items = flat (tpl.map (toBlk args items)) := by
    unfold instantiate flat
    rw [List.flatMap_map]
    congr 1
    funext t
    cases t <;> rfl
  have hskel : (tpl.map (toBlk args items)).map Blk.skel = tpl.map tskel := by
    rw [List.map_map]
    apply List.map_congr_left
    intro t _
    cases t <;> rfl
  rw [hflat]
  apply good_blocks
  · rw [hskel]; exact h
  · intro a ha
    obtain ⟨t, _, ht⟩ := List.mem_map.mp ha
    cases t <;> cases ht
    · exact good_getD items hi _
    · exact good_wrap (good_getD items hi _) _ _ _
    · exact good_pattern _ _ _ _ (good_getD items hi _)

/-- every template of the table passes the adjacency check with its holes as sub-lists -/
theorem selectTpl_ok (d : Dialect) (key : String) (tys : List (Option Ty)) (tpl : List TItem)
    (h : selectTpl d key tys = .ok tpl) : tplOk tpl = true :=
  selectTpl_all (P := fun _ _ t => tplOk t) (by decide +kernel) h

theorem good_all (isD : Char → Bool) (d : Dialect) (al : Option Str) (ha : aliasOk al = true) :
    (∀ e ps, litOk isD d e = true → sqlVisit isD d al e = .ok ps → Good ps) ∧
    (∀ es items, litOkList isD d es = true → sqlVisitList isD d al es = .ok items → ∀ a ∈ items, Good a) ∧
    (∀ _ : OptLam, True) := by
  apply Expr.induct
  case ident =>
    intro i ps hl hv
    rw [sqlVisit] at hv; rw [litOk] at hl
    cases hv
    exact good_ident d al i.name hl ha
  case attr | named | coll => intros; rename_i hv; rw [sqlVisit] at hv; cases hv
  case lit =>
    intro k v ps hl hv
    rw [sqlVisit] at hv; rw [litOk] at hl
    exact good_lit isD d k v ps hl hv
  case list =>
    intro xs ih ps hl hv
    rw [sqlVisit] at hv; rw [litOk] at hl
    obtain ⟨items, hx, hv⟩ := bind_eq_ok hv
    cases hv
    exact good_paren (good_joinComma items (ih items hl hx))
  case binop =>
    intro op l r ihl ihr ps hl hv
    rw [sqlVisit] at hv; rw [litOk] at hl
    simp only [Bool.and_eq_true] at hl
    obtain ⟨ls, hx, hv⟩ := bind_eq_ok hv
    obtain ⟨rs, hy, hv⟩ := bind_eq_ok hv
    cases hv
    have hL := good_wrap (ihl ls hl.1 hx) l (sqlPrec (.binop op l r)) false
    have hR := good_wrap (ihr rs hl.2 hy) r (sqlPrec (.binop op l r)) true
    exact good_mid [sp, o (arithSym op), sp] hL hR (by cases op <;> decide +kernel)
  case compare =>
    intro op l r ihl ihr ps hl hv
    rw [sqlVisit] at hv; rw [litOk] at hl
    simp only [Bool.and_eq_true] at hl
    obtain ⟨ls, hx, hv⟩ := bind_eq_ok hv
    obtain ⟨rs, hy, hv⟩ := bind_eq_ok hv
    have hL := good_wrap (ihl ls hl.1 hx) l 4 true
    have hR := good_wrap (ihr rs hl.2 hy) r 4 true
    have hmid : ∀ x : Expr, shapeOk (none :: ((sp :: cmpPieces op x ++ [sp]).map some ++ [none])) = true := by
      intro x
      unfold cmpPieces
      split
      · decide +kernel
      · split
        · decide +kernel
        · cases op <;> decide +kernel
    split at hv <;> cases hv
    · simpa using good_mid (sp :: cmpPieces op l ++ [sp]) hR hL (hmid l)
    · simpa using good_mid (sp :: cmpPieces op r ++ [sp]) hL hR (hmid r)
  case boolop =>
    intro op l r ihl ihr ps hl hv
    rw [sqlVisit] at hv; rw [litOk] at hl
    simp only [Bool.and_eq_true] at hl
    obtain ⟨ls, hx, hv⟩ := bind_eq_ok hv
    obtain ⟨rs, hy, hv⟩ := bind_eq_ok hv
    cases hv
    have hl0 := ihl ls hl.1 hx
    have hr0 := ihr rs hl.2 hy
    have hL : Good (boolWrapL op l ls) := by
      unfold boolWrapL
      split
      · split
        · exact good_paren hl0
        · exact hl0
      · exact hl0
    have hR : Good (boolWrapR r rs) := by
      unfold boolWrapR
      split
      · exact good_paren hr0
      · exact hr0
    exact good_mid [sp, w (if op == .and_ then "AND" else "OR"), sp] hL hR (by cases op <;> decide +kernel)
  case unary =>
    intro op e ih ps hl hv
    rw [sqlVisit] at hv; rw [litOk] at hl
    obtain ⟨es, hx, hv⟩ := bind_eq_ok hv
    cases hv
    have hE := good_wrap (ih es hl hx) e (sqlPrec (.unary op e)) false
    exact good_pre [if op == .not_ then w "NOT" else o "-", sp] hE (by cases op <;> decide +kernel)
  case call =>
    intro f args ih ps hl hv
    rw [sqlVisit_call] at hv; rw [litOk] at hl
    cases hp : callPre d f args.length with
    | some err =>
      rw [hp] at hv
      subst hv
      exact absurd hp (callPre_not_ok _ _ _ _)
    | none =>
      rw [hp] at hv
      obtain ⟨items, hx, hv⟩ := bind_eq_ok hv
      obtain ⟨tpl, hy, hv⟩ := bind_eq_ok hv
      cases hv
      exact good_instantiate tpl args.toList items (selectTpl_ok _ _ _ _ hy) (ih items hl hx)
  case nil =>
    intro items _ hv
    rw [sqlVisitList] at hv
    cases hv
    intro a ha'; cases ha'
  case cons =>
    intro h t ihh iht items hl hv
    rw [sqlVisitList] at hv; rw [litOkList] at hl
    simp only [Bool.and_eq_true] at hl
    obtain ⟨hs, hx, hv⟩ := bind_eq_ok hv
    obtain ⟨ts, hy, hv⟩ := bind_eq_ok hv
    cases hv
    intro a ha'
    rcases List.mem_cons.mp ha' with rfl | ha'
    · exact ihh _ hl.1 hx
    · exact iht ts hl.2 hy a ha'
  case none | some => intros; trivial

theorem good_visit (isD : Char → Bool) (d : Dialect) (al : Option Str) (ha : aliasOk al = true) :
    (e : Expr) → (ps : List Piece) → litOk isD d e = true → sqlVisit isD d al e = .ok ps → Good ps :=
  (good_all isD d al ha).1

theorem good_visitList (isD : Char → Bool) (d : Dialect) (al : Option Str) (ha : aliasOk al = true) :
    (es : Exprs) → (items : List (List Piece)) → litOkList isD d es = true →
      sqlVisitList isD d al es = .ok items → ∀ a ∈ items, Good a :=
  (good_all isD d al ha).2.1

end OQ.SqlLexing
