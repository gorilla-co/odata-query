/-
  The tree a successful visit of either ORM visitor returns, as a total function `tree` of the expression.
  The backends differ in three places only: the leaf a literal becomes, the node of a comparison (both treat `null eq x`
  specially) and the handler plan of a function key; `tree` takes these as parameters.  `djVisit_tree` / `saVisit_tree` are the
  only inductions over the visitors themselves; what C08 and C12 say about a translation's parameters, skeleton and columns
  is proved of `tree`, by structural induction.
  Where no visitor succeeds (a named argument, a lambda, a path through a non-path) `tree` wraps the sub-trees in a node, so that
  those facts hold of it outright.
-/
import ODataVerif.Lemmas.OrmParams
namespace OQ.OrmTree
open OQ.OrmParams

def esc2 : Exprs → Bool
  | .cons _ (.cons b _) => litNeedsEscape b
  | _ => false

/-- `substring`'s index argument is shifted: SQL counts from 1 -/
def shift : OTrees → OTrees
  | .cons a (.cons i r) => .cons a (.cons (on2 "+" i (.pint 1)) r)
  | ts => ts

/-- what a plan builds from the trees of its arguments (how many there are decides only whether the handler raises) -/
def planTree : FPlan → Bool → OTrees → OTree
  | .un2 n1 n2, _, ts => on1 n1 (.node n2 ts)
  | .likeEsc name, esc, ts => .node (if esc then name ++ "_autoescape" else name) ts
  | .indexof name, _, ts => on2 "-" (.node name ts) (.pint 1)
  | .substring name, _, ts => .node name (shift ts)
  | .un name, _, ts | .like name, _, ts | .bin name, _, ts | .concat2 name, _, ts | .concatN name, _, ts | .now name, _, ts
  | .bad name, _, ts => .node name ts

theorem params_shift (ts : OTrees) : (shift ts).params = ts.params := by
  unfold shift
  split <;> simp only [params_on2, params_pint, params_cons, List.append_nil]
theorem skel_shift (ts : OTrees) : (shift ts).skeleton = shift ts.skeleton := by
  rcases ts with _ | ⟨a, _ | ⟨i, r⟩⟩ <;> rfl

theorem planTree_params (p esc ts) : (planTree p esc ts).params = ts.params := by
  cases p <;> simp only [planTree, params_on1, params_on2, params_node, params_pint, params_shift, List.append_nil]

theorem planTree_skel (p esc ts) : (planTree p esc ts).skeleton = planTree p esc ts.skeleton := by
  cases p <;> simp only [planTree, skel_on1, skel_on2, skel_node, skel_pint, skel_shift]

theorem visitAll_cons {visit a t x k rest} (hx : visit a = .ok (x, k)) (hr : visitAll visit t = .ok rest) :
    visitAll visit (.cons a t) = .ok (x :: rest) := by
  rw [visitAll, hx, hr]; rfl

theorem runPlan_ok {visit plan args t k} (h : runPlan visit (visitAll visit) plan args = .ok (t, k)) :
    (∃ items, visitAll visit args = .ok items ∧ t = planTree plan (esc2 args) (.ofList items)) ∧ k ≠ .list := by
  cases plan <;> simp only [runPlan] at h
  case bad => cases h
  case concat2 =>
    ok_inv at h
    obtain ⟨items, hi, h⟩ := h
    split at h <;> cases h
    exact ⟨⟨_, hi, rfl⟩, nofun⟩
  case concatN =>
    ok_inv at h
    obtain ⟨items, hi, rfl, rfl⟩ := h
    exact ⟨⟨_, hi, rfl⟩, nofun⟩
  case un | un2 =>
    split at h <;> ok_inv at h
    obtain ⟨x, kx, hx, rfl, rfl⟩ := h
    exact ⟨⟨[x], visitAll_cons hx rfl, rfl⟩, nofun⟩
  case bin | indexof =>
    split at h <;> ok_inv at h
    obtain ⟨x, kx, hx, y, ky, hy, rfl, rfl⟩ := h
    exact ⟨⟨[x, y], visitAll_cons hx (visitAll_cons hy rfl), rfl⟩, nofun⟩
  case like | likeEsc =>
    split at h <;> ok_inv at h
    obtain ⟨-, -, x, kx, hx, y, ky, hy, rfl, rfl⟩ := h
    exact ⟨⟨[x, y], visitAll_cons hx (visitAll_cons hy rfl), rfl⟩, nofun⟩
  case substring =>
    split at h <;> ok_inv at h
    · obtain ⟨x, kx, hx, y, ky, hy, rfl, rfl⟩ := h
      exact ⟨⟨[x, y], visitAll_cons hx (visitAll_cons hy rfl), rfl⟩, nofun⟩
    · obtain ⟨x, kx, hx, y, ky, hy, z, kz, hz, rfl, rfl⟩ := h
      exact ⟨⟨[x, y, z], visitAll_cons hx (visitAll_cons hy (visitAll_cons hz rfl)), rfl⟩, nofun⟩
  case now =>
    split at h <;> ok_inv at h
    obtain ⟨rfl, rfl⟩ := h
    exact ⟨⟨[], rfl, rfl⟩, nofun⟩

def attrStep (n : Str) : OTree → OTree
  | .col p => .col (p ++ [n])
  | t => on1 "" t

theorem params_attrStep (n t) : (attrStep n t).params = t.params := by
  cases t <;> first | rfl | exact params_on1 _ _
theorem skel_attrStep (n t) : (attrStep n t).skeleton = attrStep n t.skeleton := by
  cases t <;> rfl

section
variable (leaf : LitKind → Str → OTree) (cmp : CmpOp → Bool → Bool → OTree → OTree → OTree) (plan : String → FPlan)

mutual
def tree : Expr → OTree
  | .ident i => .col [i.name]
  | .attr o n => attrStep n (tree o)
  | .lit k v => leaf k v
  | .list xs => .node "list" (trees xs)
  | .binop op l r => on2 (arithName op) (tree l) (tree r)
  | .compare op l r => cmp op (isNullLit l) (isNullLit r) (tree l) (tree r)
  | .boolop op l r => on2 (if op == .and_ then "and" else "or") (tree l) (tree r)
  | .unary _ e => on1 "not" (tree e)
  | .named _ e => on1 "" (tree e)
  | .call f args => planTree (plan (String.ofList (pyLower (funcKey f)))) (esc2 args) (trees args)
  | .coll o _ l => on2 "" (tree o) (treeLam l)
def trees : Exprs → OTrees
  | .nil => .nil
  | .cons h t => .cons (tree h) (trees t)
def treeLam : OptLam → OTree
  | .none => .node "" .nil
  | .some _ b => tree b
end

theorem visitAll_tree {visit} : (xs : Exprs) → (∀ a ∈ xs.toList, ∀ t k, visit a = .ok (t, k) → t = tree leaf cmp plan a) →
    ∀ items, visitAll visit xs = .ok items → OTrees.ofList items = trees leaf cmp plan xs
  | .nil, _, items, h => by
      rw [visitAll] at h; cases h; rfl
  | .cons a r, ih, items, h => by
      rw [visitAll] at h
      ok_inv at h
      obtain ⟨x, kx, hx, rest, hr, rfl⟩ := h
      rw [trees, OTrees.ofList, ih a (by simp [Exprs.toList]) _ _ hx,
        visitAll_tree r (fun b hb => ih b (by simp [Exprs.toList, hb])) _ hr]
end

/-- what the skeleton lemma needs of a relation on expressions (`relit`, `relitSa`): related expressions have the same
    constructor and operator, related parts, and literals of the same kind whose values may differ only for a kind in `V` -/
structure RelInv (V : LitKind → Bool) (R : Expr → Expr → Bool) (RL : Exprs → Exprs → Bool) (RLam : OptLam → OptLam → Bool) : Prop where
  ident : ∀ {i e'}, R (.ident i) e' = true → e' = .ident i
  attr : ∀ {o n e'}, R (.attr o n) e' = true → ∃ o', e' = .attr o' n ∧ R o o' = true
  lit : ∀ {k v e'}, R (.lit k v) e' = true → ∃ v', e' = .lit k v' ∧ (V k = true ∨ v = v')
  list : ∀ {xs e'}, R (.list xs) e' = true → ∃ ys, e' = .list ys ∧ RL xs ys = true
  binop : ∀ {o l r e'}, R (.binop o l r) e' = true → ∃ l' r', e' = .binop o l' r' ∧ R l l' = true ∧ R r r' = true
  compare : ∀ {o l r e'}, R (.compare o l r) e' = true → ∃ l' r', e' = .compare o l' r' ∧ R l l' = true ∧ R r r' = true
  boolop : ∀ {o l r e'}, R (.boolop o l r) e' = true → ∃ l' r', e' = .boolop o l' r' ∧ R l l' = true ∧ R r r' = true
  unary : ∀ {o e e'}, R (.unary o e) e' = true → ∃ e1, e' = .unary o e1 ∧ R e e1 = true
  named : ∀ {n e e'}, R (.named n e) e' = true → ∃ e1, e' = .named n e1 ∧ R e e1 = true
  call : ∀ {f a e'}, R (.call f a) e' = true → ∃ a', e' = .call f a' ∧ RL a a' = true
  coll : ∀ {o op l e'}, R (.coll o op l) e' = true → ∃ o' l', e' = .coll o' op l' ∧ R o o' = true ∧ RLam l l' = true
  nil : ∀ {ys}, RL .nil ys = true → ys = .nil
  cons : ∀ {h t ys}, RL (.cons h t) ys = true → ∃ h' t', ys = .cons h' t' ∧ R h h' = true ∧ RL t t' = true
  none : ∀ {l'}, RLam .none l' = true → l' = .none
  some : ∀ {v b l'}, RLam (.some v b) l' = true → ∃ b', l' = .some v b' ∧ R b b' = true

section
variable {V : LitKind → Bool} {R : Expr → Expr → Bool} {RL : Exprs → Exprs → Bool} {RLam : OptLam → OptLam → Bool}
  (I : RelInv V R RL RLam)
include I

/-- a null literal corresponds to a null literal: both comparisons treat `null` specially, or neither does -/
theorem RelInv.isNullLit {e e'} (h : R e e' = true) : isNullLit e = isNullLit e' := by
  cases e
  case lit k v => obtain ⟨v', rfl, -⟩ := I.lit h; cases k <;> rfl
  case ident => cases I.ident h; rfl
  case attr => obtain ⟨_, rfl, -⟩ := I.attr h; rfl
  case list => obtain ⟨_, rfl, -⟩ := I.list h; rfl
  case binop => obtain ⟨_, _, rfl, -⟩ := I.binop h; rfl
  case compare => obtain ⟨_, _, rfl, -⟩ := I.compare h; rfl
  case boolop => obtain ⟨_, _, rfl, -⟩ := I.boolop h; rfl
  case unary => obtain ⟨_, rfl, -⟩ := I.unary h; rfl
  case named => obtain ⟨_, rfl, -⟩ := I.named h; rfl
  case call => obtain ⟨_, rfl, -⟩ := I.call h; rfl
  case coll => obtain ⟨_, _, rfl, -⟩ := I.coll h; rfl

variable {leaf : LitKind → Str → OTree} {cmp : CmpOp → Bool → Bool → OTree → OTree → OTree} {plan : String → FPlan}
  (hleaf : ∀ k v v', V k = true → (leaf k v).skeleton = (leaf k v').skeleton)
  (hcmp : ∀ op nl nr a b, (cmp op nl nr a b).skeleton = cmp op nl nr a.skeleton b.skeleton)
  (hesc : ∀ key args args' ts, RL args args' = true →
    planTree (plan key) (esc2 args) ts = planTree (plan key) (esc2 args') ts)
include hleaf hcmp hesc
set_option linter.unusedSectionVars false

mutual
/-- Related expressions have trees with the same skeleton.  `hleaf`: the leaf of a literal whose kind is in `V` is a parameter, whose
    value the skeleton erases; `hesc`: the one place a literal's VALUE decides an operator name (autoescape). -/
theorem skel_tree : (e e' : Expr) → R e e' = true → (tree leaf cmp plan e).skeleton = (tree leaf cmp plan e').skeleton
  | .ident _, _, h => by cases I.ident h; rfl
  | .attr o _, _, h => by
      obtain ⟨o', rfl, ho⟩ := I.attr h
      rw [tree, tree, skel_attrStep, skel_attrStep, skel_tree o o' ho]
  | .lit k v, _, h => by
      obtain ⟨v', rfl, hv⟩ := I.lit h
      rw [tree, tree]
      rcases hv with hv | rfl
      · exact hleaf k v v' hv
      · rfl
  | .list xs, _, h => by
      obtain ⟨ys, rfl, hx⟩ := I.list h
      rw [tree, tree, skel_node, skel_node, skel_trees xs ys hx]
  | .binop _ l r, _, h => by
      obtain ⟨l', r', rfl, hl, hr⟩ := I.binop h
      rw [tree, tree, skel_on2, skel_on2, skel_tree l l' hl, skel_tree r r' hr]
  | .compare _ l r, _, h => by
      obtain ⟨l', r', rfl, hl, hr⟩ := I.compare h
      rw [tree, tree, hcmp, hcmp, skel_tree l l' hl, skel_tree r r' hr, I.isNullLit hl, I.isNullLit hr]
  | .boolop _ l r, _, h => by
      obtain ⟨l', r', rfl, hl, hr⟩ := I.boolop h
      rw [tree, tree, skel_on2, skel_on2, skel_tree l l' hl, skel_tree r r' hr]
  | .unary _ e, _, h => by
      obtain ⟨e1, rfl, he⟩ := I.unary h
      rw [tree, tree, skel_on1, skel_on1, skel_tree e e1 he]
  | .named _ e, _, h => by
      obtain ⟨e1, rfl, he⟩ := I.named h
      rw [tree, tree, skel_on1, skel_on1, skel_tree e e1 he]
  | .call _ a, _, h => by
      obtain ⟨a', rfl, ha⟩ := I.call h
      rw [tree, tree, planTree_skel, planTree_skel, skel_trees a a' ha, hesc _ _ _ _ ha]
  | .coll o _ l, _, h => by
      obtain ⟨o', l', rfl, ho, hl⟩ := I.coll h
      rw [tree, tree, skel_on2, skel_on2, skel_tree o o' ho, skel_treeLam l l' hl]
theorem skel_trees : (xs ys : Exprs) → RL xs ys = true →
    (trees leaf cmp plan xs).skeleton = (trees leaf cmp plan ys).skeleton
  | .nil, _, h => by cases I.nil h; rfl
  | .cons a t, _, h => by
      obtain ⟨a', t', rfl, ha, ht⟩ := I.cons h
      rw [trees, trees, skel_cons, skel_cons, skel_tree a a' ha, skel_trees t t' ht]
theorem skel_treeLam : (l l' : OptLam) → RLam l l' = true →
    (treeLam leaf cmp plan l).skeleton = (treeLam leaf cmp plan l').skeleton
  | .none, _, h => by cases I.none h; rfl
  | .some _ b, _, h => by
      obtain ⟨b', rfl, hb⟩ := I.some h
      rw [treeLam, treeLam, skel_tree b b' hb]
end
end

def djLeaf : LitKind → Str → OTree
  | .null, _ => .param .null []
  | k, v => .param k v

/-- `null eq x`, `x eq null`, `x ne null` become a null test of `x` -/
def djCmp (op : CmpOp) (nl nr : Bool) (a b : OTree) : OTree :=
  let test := if op == .eq then "isnull" else "notnull"
  if nl && (op == .eq || op == .ne) then on1 test b
  else if nr then on1 test a
  else on2 (cmpLookup op) a b

abbrev djTree : Expr → OTree := tree djLeaf djCmp djPlan

theorem djVisit_tree (e : Expr) : ∀ t k, djVisit e = .ok (t, k) → t = djTree e := by
  refine expr_ind (P := fun e => ∀ t k, djVisit e = .ok (t, k) → t = djTree e) ?_ ?_ ?_ ?_ ?_ ?_ ?_ ?_ ?_ ?_ ?_ e
  · intro i t k h
    rw [djVisit] at h; cases h; rfl
  · intro o n ih t k h
    rw [djVisit] at h
    ok_inv at h
    obtain ⟨x, kx, hx, h⟩ := h
    split at h <;> cases h
    exact congrArg (attrStep n) (ih _ _ hx)
  · intro kd v t k h
    by_cases hk : kd = .null
    · subst hk; rw [djVisit] at h; cases h; rfl
    · rw [djVisit.eq_4 _ _ hk] at h
      ok_inv at h
      obtain ⟨p, hp, rfl, rfl⟩ := h
      rw [litParam_ok _ _ _ hp]
      cases kd <;> first | rfl | exact absurd rfl hk
  · intro xs ih t k h
    rw [djVisit, djVisitList_eq] at h
    ok_inv at h
    obtain ⟨items, hi, rfl, rfl⟩ := h
    exact congrArg (OTree.node "list") (visitAll_tree _ _ _ xs ih _ hi)
  · intro op l r ihl ihr t k h
    rw [djVisit] at h
    ok_inv at h
    obtain ⟨a, ka, ha, b, kb, hb, h⟩ := h
    obtain rfl := ihl _ _ ha
    obtain rfl := ihr _ _ hb
    cases ite_eq_ok nofun h
    rfl
  · intro op l r ihl ihr t k h
    rw [djVisit] at h
    show t = djCmp op (isNullLit l) (isNullLit r) (djTree l) (djTree r)
    unfold djCmp
    by_cases hc : (isNullLit l && (op == .eq || op == .ne)) = true
    · rw [if_pos hc] at h ⊢
      ok_inv at h
      obtain ⟨a, ka, ha, h⟩ := h
      obtain rfl := ihr _ _ ha
      split at h <;> cases h
      · rw [if_pos ‹_›]
      · rw [if_neg ‹_›]
    · rw [if_neg hc] at h ⊢
      by_cases hr : isNullLit r = true
      · rw [if_pos hr] at h ⊢
        ok_inv at h
        obtain ⟨a, ka, ha, h⟩ := h
        obtain rfl := ihl _ _ ha
        split at h
        · cases h; rw [if_pos ‹_›]
        · split at h <;> cases h
          rw [if_neg ‹_›]
      · rw [if_neg hr] at h ⊢
        ok_inv at h
        obtain ⟨a, ka, ha, b, kb, hb, rfl, rfl⟩ := h
        rw [ihl _ _ ha, ihr _ _ hb]
  · intro op l r ihl ihr t k h
    rw [djVisit] at h
    ok_inv at h
    obtain ⟨a, ka, ha, b, kb, hb, h⟩ := h
    obtain rfl := ihl _ _ ha
    obtain rfl := ihr _ _ hb
    cases ite_eq_ok nofun (ite_eq_ok nofun h)
    rfl
  · intro op e ih t k h
    rw [djVisit] at h
    ok_inv at h
    obtain ⟨a, ka, ha, h⟩ := h
    obtain rfl := ih _ _ ha
    cases ite_eq_ok nofun (ite_eq_ok nofun (ite_eq_ok nofun h))
    rfl
  · intro n e t k h
    rw [djVisit] at h; cases h
  · intro f args ih t k h
    rw [djVisit] at h
    have h := ite_eq_ok nofun (ite_eq_ok nofun (ite_eq_ok nofun (ite_eq_ok nofun h)))
    rw [djFunc_eq] at h
    obtain ⟨⟨items, hi, rfl⟩, -⟩ := runPlan_ok h
    exact congrArg _ (visitAll_tree _ _ _ args ih _ hi)
  · intro o op l t k h
    rw [djVisit] at h; cases h

theorem djBuild_tree {e t} (h : djBuild e = .ok t) : t = djTree e := by
  unfold djBuild at h
  split at h
  · rename_i t' k hv
    repeat' split at h
    all_goals cases h
    exact djVisit_tree e _ _ hv
  all_goals cases h

def saLeaf : LitKind → Str → OTree
  | .null, _ => .const "NULL"
  | .bool, v => .const (if pyLower v == "true".toList then "TRUE" else "FALSE")
  | k, v => .param k v

/-- `null eq x` / `null ne x` are built as `x eq null` / `x ne null` -/
def saCmp (op : CmpOp) (nl _nr : Bool) (a b : OTree) : OTree :=
  if nl && (op == .eq || op == .ne) then on2 (cmpLookup op) b a else on2 (cmpLookup op) a b

abbrev saTree : Expr → OTree := tree saLeaf saCmp saPlan

theorem saVisit_tree (fields : List Str) (core : Bool) (e : Expr) : ∀ t k, saVisit fields core e = .ok (t, k) → t = saTree e := by
  refine expr_ind (P := fun e => ∀ t k, saVisit fields core e = .ok (t, k) → t = saTree e) ?_ ?_ ?_ ?_ ?_ ?_ ?_ ?_ ?_ ?_ ?_ e
  · intro i t k h
    rw [saVisit] at h
    split at h <;> cases h
    rfl
  · intro o n _ t k h
    rw [saVisit] at h
    split at h <;> cases h
  · intro kd v t k h
    by_cases h1 : kd = .null
    · subst h1; rw [saVisit] at h; cases h; rfl
    by_cases h2 : kd = .bool
    · subst h2; rw [saVisit] at h; cases h; rfl
    by_cases h3 : kd = .guid
    · subst h3; rw [saVisit] at h; cases h; rfl
    rw [saVisit.eq_7 _ _ _ _ h1 h2 h3] at h
    ok_inv at h
    obtain ⟨p, hp, rfl, rfl⟩ := h
    rw [litParam_ok _ _ _ hp]
    cases kd <;> first | rfl | exact absurd rfl h1 | exact absurd rfl h2
  · intro xs ih t k h
    rw [saVisit, saVisitList_eq] at h
    ok_inv at h
    obtain ⟨items, hi, rfl, rfl⟩ := h
    exact congrArg (OTree.node "list") (visitAll_tree _ _ _ xs ih _ hi)
  · intro op l r ihl ihr t k h
    rw [saVisit] at h
    ok_inv at h
    obtain ⟨a, ka, ha, b, kb, hb, h⟩ := h
    obtain rfl := ihl _ _ ha
    obtain rfl := ihr _ _ hb
    cases ite_eq_ok nofun h
    rfl
  · intro op l r ihl ihr t k h
    rw [saVisit] at h
    ok_inv at h
    obtain ⟨a, ka, ha, b, kb, hb, h⟩ := h
    obtain rfl := ihl _ _ ha
    obtain rfl := ihr _ _ hb
    show t = saCmp op (isNullLit l) (isNullLit r) (saTree l) (saTree r)
    unfold saCmp
    by_cases hop : (op == CmpOp.in_) = true
    · rw [if_pos hop] at h
      cases ite_eq_ok nofun h
      rw [show op = .in_ by simpa using hop]
      split <;> rfl
    · rw [if_neg hop] at h
      cases ite_eq_ok nofun (ite_eq_ok nofun h)
      split <;> rfl
  · intro op l r ihl ihr t k h
    rw [saVisit] at h
    ok_inv at h
    obtain ⟨a, ka, ha, b, kb, hb, rfl, rfl⟩ := h
    rw [ihl _ _ ha, ihr _ _ hb]
    rfl
  · intro op e ih t k h
    rw [saVisit] at h
    ok_inv at h
    obtain ⟨a, ka, ha, h⟩ := h
    obtain rfl := ih _ _ ha
    split at h <;> cases h
    rfl
  · intro n e t k h
    rw [saVisit] at h; cases h
  · intro f args ih t k h
    rw [saVisit] at h
    have h := ite_eq_ok nofun h
    rw [saFunc_eq] at h
    obtain ⟨⟨items, hi, rfl⟩, -⟩ := runPlan_ok h
    exact congrArg _ (visitAll_tree _ _ _ args ih _ hi)
  · intro o op l t k h
    rw [saVisit] at h
    split at h <;> cases h

theorem saBuild_tree {fields core e t} (h : saBuild fields core e = .ok t) : t = saTree e := by
  unfold saBuild at h
  obtain ⟨⟨t', k⟩, hv, h⟩ := Outcome.bind_eq_ok h
  cases h
  exact saVisit_tree fields core e _ _ hv

end OQ.OrmTree
