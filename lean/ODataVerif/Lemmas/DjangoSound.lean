/- For Props/C02.lean: equations of the Django visitor model on the shapes
   the typed grammar produces, equations of `djSql`, and evaluation of the SQL nodes only Django emits (`<>`, COALESCE,
   the REPLACE chain). -/
import ODataVerif.Lemmas.OrmSound
namespace OQ.DjangoSound
open Spec SqliteSound SqliteLike OrmSound

theorem visit_ident (c : Str) : djVisit (idE c) = .ok (.col [c], .field) := by rw [idE, djVisit]

theorem visit_litInt (v : Str) : djVisit (.lit .int v) = .ok (.param .int v, .value) := by
  rw [djVisit, litParam_int]
  · rfl
  · intro h; cases h
theorem visit_litStr (v : Str) : djVisit (.lit .str v) = .ok (.param .str v, .value) := by
  rw [djVisit]
  · rfl
  · intro h; cases h
theorem visit_litBool (v : Str) : djVisit (.lit .bool v) = .ok (.param .bool v, .value) := by
  rw [djVisit]
  · rfl
  · intro h; cases h

theorem visit_binop (op l r) : djVisit (.binop op l r) = (djVisit l >>= fun p => djVisit r >>= fun q =>
    if p.2 == .list || q.2 == .list || p.2 == .cond || q.2 == .cond then .foreign "unmodelled"
    else .ok (on2 (OQ.arithName op) p.1 q.1, .expr)) := by
  rw [djVisit]; rfl

theorem visit_unary (op e) : djVisit (.unary op e) = (djVisit e >>= fun p =>
    if p.2 == .field || p.2 == .value then .lib (.type_ "filter".toList)
    else if op == .neg then .lib (.type_ "USub".toList)
    else if p.2 != .cond then .foreign "unmodelled"
    else .ok (on1 "not" p.1, .cond)) := by
  rw [djVisit]; rfl

theorem visit_boolop (op l r) : djVisit (.boolop op l r) = (djVisit l >>= fun p => djVisit r >>= fun q =>
    if p.2 == .field || p.2 == .value || q.2 == .field || q.2 == .value then
      .lib (.type_ (if op == .and_ then "And" else "Or").toList)
    else if p.2 != .cond || q.2 != .cond then .foreign "unmodelled"
    else .ok (on2 (if op == .and_ then "and" else "or") p.1 q.1, .cond)) := by
  rw [djVisit]; rfl

theorem visit_compare (op l r) (hl : isNullLit l = false) (hr : isNullLit r = false) :
    djVisit (.compare op l r) = (djVisit l >>= fun p => djVisit r >>= fun q =>
      .ok (on2 (cmpLookup op) p.1 q.1, .cond)) := by
  rw [djVisit]
  simp only [hl, hr, Bool.false_and, Bool.false_eq_true, if_false]
  rfl

theorem visit_isNull (c : Str) (negated : Bool) :
    djVisit (.compare (if negated then .ne else .eq) (idE c) (.lit .null [])) =
      .ok (on1 (if negated then "notnull" else "isnull") (.col [c]), .cond) := by
  rw [djVisit, visit_ident]
  cases negated <;> rfl

theorem visit_list (xs) : djVisit (.list xs) = (djVisitList xs >>= fun items =>
    .ok (.node "list" (OTrees.ofList items), .list)) := by
  rw [djVisit]; rfl
theorem visit_in (l : Expr) (xs : Exprs) (hl : isNullLit l = false) : djVisit (.compare .in_ l (.list xs)) =
    (djVisit l >>= fun p => djVisitList xs >>= fun items =>
      .ok (on2 "in" p.1 (.node "list" (OTrees.ofList items)), .cond)) := by
  rw [visit_compare _ _ _ hl rfl, visit_list]
  cases djVisit l <;> cases djVisitList xs <;> rfl
theorem visitList_nil : djVisitList .nil = .ok [] := by rw [djVisitList]
theorem visitList_cons (h t) : djVisitList (.cons h t) = (djVisit h >>= fun p => djVisitList t >>= fun rest =>
    .ok (p.1 :: rest)) := by
  rw [djVisitList]; rfl

/-- at each use `hk` and `hh` are closed computations over the handler tables -/
theorem visit_call {f : Ident} {args : Exprs} (key : String) (n : Nat)
    (hk : String.ofList (pyLower (funcKey f)) = key)
    (hh : (ormHandlers.contains key && !djangoGeoHandlers.contains key && djArityOk key n) = true)
    (hn : hasNamedArg args = false) (hl : args.length = n) : djVisit (.call f args) = djFunc key args := by
  subst hl
  simp only [Bool.and_eq_true, Bool.not_eq_true'] at hh
  rw [djVisit]
  simp only [hk, hh.1.1, hh.1.2, hh.2, hn, Bool.or_false, Bool.not_true, Bool.false_eq_true, if_false]

/-- the embedded terms are never named parameters (`f(x=1)`): the arguments of the calls the typed grammar builds
    bind positionally -/
theorem hasNamed_I (e : IntE) (t : Exprs) : hasNamedArg (.cons e.toExpr t) = hasNamedArg t := by
  cases e <;> rw [IntE.toExpr] <;> (try rw [idE]) <;> rw [hasNamedArg] <;> (intro _ _ h; cases h)
theorem hasNamed_S (e : StrE) (t : Exprs) : hasNamedArg (.cons e.toExpr t) = hasNamedArg t := by
  cases e <;> rw [StrE.toExpr] <;> (try rw [idE]) <;> rw [hasNamedArg] <;> (intro _ _ h; cases h)

theorem visit_length (a : StrE) : djVisit (.call ⟨"length".toList, []⟩ (.cons a.toExpr .nil)) =
    (djVisit a.toExpr >>= fun p => .ok (on1 "Length" p.1, .expr)) :=
  (visit_call "length" 1 (by decide +kernel) (by decide +kernel) (hasNamed_S _ _) rfl).trans (by rw [djFunc]; rfl)
theorem visit_tolower (a : StrE) : djVisit (.call ⟨"tolower".toList, []⟩ (.cons a.toExpr .nil)) =
    (djVisit a.toExpr >>= fun p => .ok (on1 "Lower" p.1, .expr)) :=
  (visit_call "tolower" 1 (by decide +kernel) (by decide +kernel) (hasNamed_S _ _) rfl).trans (by rw [djFunc]; rfl)
theorem visit_toupper (a : StrE) : djVisit (.call ⟨"toupper".toList, []⟩ (.cons a.toExpr .nil)) =
    (djVisit a.toExpr >>= fun p => .ok (on1 "Upper" p.1, .expr)) :=
  (visit_call "toupper" 1 (by decide +kernel) (by decide +kernel) (hasNamed_S _ _) rfl).trans (by rw [djFunc]; rfl)
theorem visit_trim (a : StrE) : djVisit (.call ⟨"trim".toList, []⟩ (.cons a.toExpr .nil)) =
    (djVisit a.toExpr >>= fun p => .ok (on1 "Trim" p.1, .expr)) :=
  (visit_call "trim" 1 (by decide +kernel) (by decide +kernel) (hasNamed_S _ _) rfl).trans (by rw [djFunc]; rfl)
theorem visit_indexof (a b : StrE) : djVisit (.call ⟨"indexof".toList, []⟩ (.cons a.toExpr (.cons b.toExpr .nil))) =
    (djVisit a.toExpr >>= fun p => djVisit b.toExpr >>= fun q =>
      .ok (on2 "-" (on2 "StrIndex" p.1 q.1) (.pint 1), .expr)) :=
  (visit_call "indexof" 2 (by decide +kernel) (by decide +kernel) (by rw [hasNamed_S, hasNamed_S]; rfl) rfl).trans
    (by rw [djFunc]; rfl)
theorem visit_concat (a b : StrE) : djVisit (.call ⟨"concat".toList, []⟩ (.cons a.toExpr (.cons b.toExpr .nil))) =
    (djVisit a.toExpr >>= fun p => djVisit b.toExpr >>= fun q => .ok (on2 "Concat" p.1 q.1, .expr)) := by
  rw [visit_call "concat" 2 (by decide +kernel) (by decide +kernel) (by rw [hasNamed_S, hasNamed_S]; rfl) rfl, djFunc,
    djVisitList, djVisitList, djVisitList]
  cases djVisit a.toExpr with
  | ok p => cases djVisit b.toExpr <;> rfl
  | _ => rfl
theorem visit_substring2 (a : StrE) (b : IntE) :
    djVisit (.call ⟨"substring".toList, []⟩ (.cons a.toExpr (.cons b.toExpr .nil))) =
    (djVisit a.toExpr >>= fun p => djVisit b.toExpr >>= fun q =>
      .ok (on2 "Substr" p.1 (on2 "+" q.1 (.pint 1)), .expr)) :=
  (visit_call "substring" 2 (by decide +kernel) (by decide +kernel) (by rw [hasNamed_S, hasNamed_I]; rfl) rfl).trans
    (by rw [djFunc]; rfl)
theorem visit_substring3 (a : StrE) (b c : IntE) :
    djVisit (.call ⟨"substring".toList, []⟩ (.cons a.toExpr (.cons b.toExpr (.cons c.toExpr .nil)))) =
    (djVisit a.toExpr >>= fun p => djVisit b.toExpr >>= fun q => djVisit c.toExpr >>= fun r =>
      .ok (on3 "Substr" p.1 (on2 "+" q.1 (.pint 1)) r.1, .expr)) :=
  (visit_call "substring" 3 (by decide +kernel) (by decide +kernel) (by rw [hasNamed_S, hasNamed_I, hasNamed_I]; rfl)
    rfl).trans (by rw [djFunc]; rfl)
theorem visit_like (k : LikeK) (a b : StrE) : djVisit (.call ⟨k.name.toList, []⟩ (.cons a.toExpr (.cons b.toExpr .nil))) =
    (djVisit a.toExpr >>= fun p => djVisit b.toExpr >>= fun q => .ok (on2 k.name p.1 q.1, .cond)) := by
  have hn : hasNamedArg (.cons a.toExpr (.cons b.toExpr .nil)) = false := by rw [hasNamed_S, hasNamed_S]; rfl
  have ht := substrTypecheck_ok (strTy_toExpr a) (strTy_toExpr b)
  cases k
  · rw [visit_call "contains" 2 (by decide +kernel) (by decide +kernel) hn rfl, djFunc]
    simp only [ht]; rfl
  · rw [visit_call "startswith" 2 (by decide +kernel) (by decide +kernel) hn rfl, djFunc]
    simp only [ht]; rfl
  · rw [visit_call "endswith" 2 (by decide +kernel) (by decide +kernel) hn rfl, djFunc]
    simp only [ht]; rfl

/-- A binary node whose name has no clause of its own in `djSql`: a LIKE when `likePre` knows the name, else an infix operator. -/
theorem sql_on2 (op : String) (a b : OTree) (h : op ∉ ["list", "in", "/", "Concat", "StrIndex", "Substr"]) :
    djSql (on2 op a b) =
      match djSql a, djSql b with
      | some x, some y =>
          (match likePre op with
           | some (pre, suf) => some (.like x (catPat pre suf (djEscape y)) (some ['\\']))
           | none => (binName op).map (fun o => .bin o x y))
      | _, _ => none := by
  simp only [List.mem_cons, List.not_mem_nil, or_false, not_or] at h
  rw [on2, djSql]
  · rfl
  · exact h.1
  · exact fun _ h' _ => h.2.1 h'
  · exact h.2.2.1
  · exact h.2.2.2.1
  · exact h.2.2.2.2.1
  · exact h.2.2.2.2.2

theorem sql_bin {op : String} {o : Str} (a b : OTree) (h : op ∉ ["list", "in", "/", "Concat", "StrIndex", "Substr"])
    (h1 : likePre op = none) (h2 : binName op = some o) : djSql (on2 op a b) = lift2 (fun x y => some (.bin o x y)) (djSql a) (djSql b) := by
  rw [sql_on2 op a b h, h1, h2]
  cases djSql a <;> cases djSql b <;> rfl

theorem sql_col (c : Str) : djSql (.col [c]) = some (.col none c) := rfl
theorem sql_param (k v) : djSql (.param k v) = paramTree k v := rfl
theorem sql_pint1 : djSql (.pint 1) = some (.num ['1']) := by decide
theorem sql_isnull (a) : djSql (on1 "isnull" a) = (djSql a).map (fun x => .bin (S "IS") x (.kw (S "NULL"))) := by
  rw [on1, djSql]; rfl
theorem sql_notnull (a) : djSql (on1 "notnull" a) = (djSql a).map (fun x => .bin (S "ISNOT") x (.kw (S "NULL"))) := by
  rw [on1, djSql]; rfl
theorem sql_not (a) : djSql (on1 "not" a) = (djSql a).map (fun x => .un (S "NOT") x) := by
  rw [on1, djSql]; rfl
theorem sql_length (a) : djSql (on1 "Length" a) = (djSql a).map (fun x => .call (S "LENGTH") (one x)) := by
  rw [on1, djSql]; rfl
theorem sql_lower (a) : djSql (on1 "Lower" a) = (djSql a).map (fun x => .call (S "LOWER") (one x)) := by
  rw [on1, djSql]; rfl
theorem sql_upper (a) : djSql (on1 "Upper" a) = (djSql a).map (fun x => .call (S "UPPER") (one x)) := by
  rw [on1, djSql]; rfl
theorem sql_trim (a) : djSql (on1 "Trim" a) = (djSql a).map (fun x => .call (S "TRIM") (one x)) := by
  rw [on1, djSql]; rfl
theorem sql_in (a items) : djSql (on2 "in" a (.node "list" items)) =
    lift2 (fun x xs => some (.inl x xs)) (djSql a) (djSqlList items) := by
  rw [on2, djSql]
  cases djSql a <;> cases djSqlList items <;> rfl
theorem sql_concat (a b) : djSql (on2 "Concat" a b) =
    lift2 (fun x y => some (.bin (S "||") (.call (S "COALESCE") (two x (.str []))) (.call (S "COALESCE") (two y (.str [])))))
      (djSql a) (djSql b) := by
  rw [on2, djSql]
  cases djSql a <;> cases djSql b <;> rfl
theorem sql_strindex (a b) : djSql (on2 "StrIndex" a b) =
    lift2 (fun x y => some (.call (S "INSTR") (two x y))) (djSql a) (djSql b) := by
  rw [on2, djSql]
  cases djSql a <;> cases djSql b <;> rfl
theorem sql_substr2 (a b) : djSql (on2 "Substr" a b) =
    lift2 (fun x y => some (.call (S "SUBSTR") (two x y))) (djSql a) (djSql b) := by
  rw [on2, djSql]
  cases djSql a <;> cases djSql b <;> rfl
theorem sql_substr3 (a b c) : djSql (on3 "Substr" a b c) =
    lift3 (fun x y z => some (.call (S "SUBSTR") (three x y z))) (djSql a) (djSql b) (djSql c) := by
  rw [on3, djSql]
  cases djSql a <;> cases djSql b <;> cases djSql c <;> rfl
theorem sqlList_nil : djSqlList .nil = some .nil := rfl
theorem sqlList_cons (h t) : djSqlList (.cons h t) = lift2 (fun x xs => some (.cons x xs)) (djSql h) (djSqlList t) := by
  rw [djSqlList]
  cases djSql h <;> cases djSqlList t <;> rfl

theorem sql_arith (op : ArithOp) (a b) :
    djSql (on2 (OQ.arithName op) a b) = lift2 (fun x y => some (.bin (Spec.arithName op) x y)) (djSql a) (djSql b) := by
  cases op
  case div =>
    -- `/` has a case of its own in `djSql`
    rw [show OQ.arithName .div = "/" from rfl, on2, djSql]
    cases djSql a <;> cases djSql b <;> rfl
  all_goals exact sql_bin a b (by decide +kernel) (by decide +kernel) (by decide +kernel)

theorem sql_plus1 (a) : djSql (on2 "+" a (.pint 1)) = (djSql a).map (fun x => .bin (S "+") x (.num ['1'])) := by
  rw [show on2 "+" a (.pint 1) = on2 (OQ.arithName .add) a (.pint 1) from rfl, sql_arith, sql_pint1]
  cases djSql a <;> rfl
theorem sql_minus1 (a) : djSql (on2 "-" a (.pint 1)) = (djSql a).map (fun x => .bin (S "-") x (.num ['1'])) := by
  rw [show on2 "-" a (.pint 1) = on2 (OQ.arithName .sub) a (.pint 1) from rfl, sql_arith, sql_pint1]
  cases djSql a <;> rfl

/-- the operator Django's lookups compile to -/
def djCmp : CmpK → Str
  | .eq => S "=" | .ne => S "<>" | .lt => S "<" | .le => S "<=" | .gt => S ">" | .ge => S ">="

theorem sql_cmp (k : CmpK) (a b) :
    djSql (on2 (cmpLookup k.toOp) a b) = lift2 (fun x y => some (.bin (djCmp k) x y)) (djSql a) (djSql b) := by
  cases k <;> exact sql_bin a b (by decide +kernel) (by decide +kernel) (by decide +kernel)
theorem sql_bool (op : BoolOp) (a b) : djSql (on2 (if op == .and_ then "and" else "or") a b) =
    lift2 (fun x y => some (.bin (if op == .and_ then S "AND" else S "OR") x y)) (djSql a) (djSql b) := by
  cases op <;> exact sql_bin a b (by decide +kernel) (by decide +kernel) (by decide +kernel)

theorem sql_like (k : LikeK) (a b) : djSql (on2 k.name a b) =
    lift2 (fun x y => some (.like x (catPat (preOf k) (sufOf k) (djEscape y)) (some ['\\']))) (djSql a) (djSql b) := by
  rw [sql_on2 _ a b (by cases k <;> decide +kernel)]
  cases djSql a <;> cases djSql b <;> try rfl
  rw [show likePre k.name = some (preOf k, sufOf k) by cases k <;> decide +kernel]; rfl

section
variable (ρ : Row)

theorem eval_paramBool (b : Bool) :
    ∃ s, paramTree .bool (if b then "true".toList else "false".toList) = some s ∧
      sqlEval ρ s = some (v3ToVal (V3.ofBool b)) := by
  cases b
  · exact ⟨.num ['0'], by decide, eval_boolLit ρ false⟩
  · exact ⟨.num ['1'], by decide, eval_boolLit ρ true⟩

theorem eval_djcmp (k : CmpK) (l r : SqlTree) (a b : SqlVal) (hl : sqlEval ρ l = some a) (hr : sqlEval ρ r = some b) :
    sqlEval ρ (.bin (djCmp k) l r) = cmpVals (cmpName k.toOp) a b :=
  -- `<>` is not `cmpName .ne` (`!=`), but `cmpVals` reads both as the same comparison
  (eval_binCmp ρ (djCmp k) l r a b hl hr (by cases k <;> decide +kernel)).trans
    (cmpVals_congr (by cases k <;> decide +kernel) a b)

theorem eval_coalesce (t : SqlTree) (x : Str) (h : sqlEval ρ t = some (.text x)) :
    sqlEval ρ (.call (S "COALESCE") (two t (.str []))) = some (.text x) := by
  rw [sqlEval, evalList_two ρ _ _ _ _ h (eval_str ρ _)]
  simp [S, sx]
end

def esc1 (c : Char) (r : Str) (s : Str) : Str := s.flatMap (fun x => if x == c then r else [x])

theorem esc1_append (c r a b) : esc1 c r (a ++ b) = esc1 c r a ++ esc1 c r b := by
  simp [esc1, List.flatMap_append]
theorem esc1_cons (c r x t) : esc1 c r (x :: t) = (if x == c then r else [x]) ++ esc1 c r t := by
  simp [esc1, List.flatMap_cons]

theorem replaceChain (y : Str) :
    esc1 '_' ['\\', '_'] (esc1 '%' ['\\', '%'] (esc1 '\\' ['\\', '\\'] y)) = likeLit y := by
  induction y with
  | nil => rfl
  | cons c t ih =>
    rw [esc1_cons, esc1_append, esc1_append, ih, likeLit]
    by_cases h1 : c = '\\'
    · subst h1; rfl
    · by_cases h2 : c = '%'
      · subst h2; rfl
      · by_cases h3 : c = '_'
        · subst h3; rfl
        · simp [esc1, h1, h2, h3]

section
variable (ρ : Row)
theorem eval_replace (t : SqlTree) (c : Char) (r : Str) (y : Option Str) (h : sqlEval ρ t = some (valS y)) :
    sqlEval ρ (.call (S "REPLACE") (three t (.str [c]) (.str r))) = some (valS (y.map (esc1 c r))) := by
  rw [sqlEval, evalList_three ρ _ _ _ _ _ _ h (eval_str ρ _) (eval_str ρ _)]
  cases y <;> simp [S, sx, esc1]

theorem eval_escape (t : SqlTree) (y : Option Str) (h : sqlEval ρ t = some (valS y)) :
    sqlEval ρ (djEscape t) = some (valS (y.map likeLit)) := by
  have h3 := eval_replace ρ _ '_' ['\\', '_'] _ (eval_replace ρ _ '%' ['\\', '%'] _ (eval_replace ρ t '\\' ['\\', '\\'] y h))
  refine h3.trans ?_
  cases y with
  | none => rfl
  | some s => simp only [Option.map_some, replaceChain]
end

def valKind (k : OKind) : Prop := k = .field ∨ k = .value ∨ k = .expr
def condKind (k : OKind) : Prop := k = .cond ∨ k = .field ∨ k = .value

/-- the three places where the visitor looks at the kinds of its operands; a bare field or literal where a condition is
    required is refused with a library exception, so there the filter must be outside the fragment `c` -/
theorem binop_res {c : Prop} {P : OTree × OKind → Prop} {a b : OTree × OKind} (t : OTree) (ha : valKind a.2) (hb : valKind b.2)
    (h : P (t, .expr)) :
    res c P (if a.2 == .list || b.2 == .list || a.2 == .cond || b.2 == .cond then .foreign "unmodelled" else .ok (t, .expr)) := by
  obtain ⟨_, ka⟩ := a
  obtain ⟨_, kb⟩ := b
  rcases ha with rfl | rfl | rfl <;> rcases hb with rfl | rfl | rfl <;> exact h
theorem boolop_res {c : Prop} {P : OTree × OKind → Prop} {a b : OTree × OKind} (e : LibExc) (t : OTree) (ha : condKind a.2)
    (hb : condKind b.2) (hc : c → a.2 = .cond ∧ b.2 = .cond) (h : P (t, .cond)) :
    res c P (if a.2 == .field || a.2 == .value || b.2 == .field || b.2 == .value then .lib e
      else if a.2 != .cond || b.2 != .cond then .foreign "unmodelled" else .ok (t, .cond)) := by
  obtain ⟨_, ka⟩ := a
  obtain ⟨_, kb⟩ := b
  rcases ha with rfl | rfl | rfl <;> rcases hb with rfl | rfl | rfl <;>
    first | exact h | exact fun h' => OKind.noConfusion (hc h').1 | exact fun h' => OKind.noConfusion (hc h').2
theorem not_res {c : Prop} {P : OTree × OKind → Prop} {a : OTree × OKind} (t : OTree) (ha : condKind a.2)
    (hc : c → a.2 = .cond) (h : P (t, .cond)) :
    res c P (if a.2 == .field || a.2 == .value then .lib (.type_ "filter".toList)
      else if UnOp.not_ == .neg then .lib (.type_ "USub".toList)
      else if a.2 != .cond then .foreign "unmodelled" else .ok (t, .cond)) := by
  obtain ⟨_, ka⟩ := a
  rcases ha with rfl | rfl | rfl <;> first | exact h | exact fun h' => OKind.noConfusion (hc h')

abbrev djDen (ρ : Row) (t : OTree) (v : SqlVal) : Prop := ∃ s, djSql t = some s ∧ sqlEval ρ s = some v
abbrev djDenList (ρ : Row) (items : List OTree) (vs : List SqlVal) : Prop :=
  ∃ ts, djSqlList (OTrees.ofList items) = some ts ∧ sqlEvalList ρ ts = some vs

section
variable {ρ : Row}
theorem cmp_djDen (k : CmpK) {a b : OTree} {va vb v : SqlVal} (ha : djDen ρ a va) (hb : djDen ρ b vb)
    (hv : cmpVals (cmpName k.toOp) va vb = some v) : djDen ρ (on2 (cmpLookup k.toOp) a b) v := by
  obtain ⟨sa, hsa, hea⟩ := ha
  obtain ⟨sb, hsb, heb⟩ := hb
  exact ⟨_, by rw [sql_cmp, hsa, hsb]; rfl, by rw [eval_djcmp ρ k sa sb _ _ hea heb, hv]⟩

theorem djDenList_cons {a : OTree} {v : SqlVal} {rest : List OTree} {vs : List SqlVal} (ha : djDen ρ a v)
    (hr : djDenList ρ rest vs) : djDenList ρ (a :: rest) (v :: vs) := by
  obtain ⟨sa, hsa, hea⟩ := ha
  obtain ⟨ts, hts, het⟩ := hr
  exact ⟨.cons sa ts, by rw [OTrees.ofList, sqlList_cons, hsa, hts]; rfl, by rw [sqlEvalList, hea, het]⟩

theorem in_djDen {a : OTree} {items : List OTree} {t : SqlVal} {vs : List SqlVal} {v : SqlVal}
    (ha : djDen ρ a t) (hi : djDenList ρ items vs)
    (hv : ∀ s ts, sqlEval ρ s = some t → sqlEvalList ρ ts = some vs → sqlEval ρ (.inl s ts) = some v) :
    djDen ρ (on2 "in" a (.node "list" (OTrees.ofList items))) v := by
  obtain ⟨sa, hsa, hea⟩ := ha
  obtain ⟨ts, hts, het⟩ := hi
  exact ⟨.inl sa ts, by rw [sql_in, hsa, hts]; rfl, hv sa ts hea het⟩
end

end OQ.DjangoSound
