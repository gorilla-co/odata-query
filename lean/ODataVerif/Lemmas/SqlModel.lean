/- Facts about the SQL visitor model (Model/Sql.lean) that the C07, C09 and C12 proofs and the template tie share:
   the call case of the visitor as one equation, the pieces of a duration literal, and the finite table of function
   templates `selectTpl` chooses from. -/
import ODataVerif.Model.SqlPieces
import ODataVerif.Lemmas.Basics
namespace OQ.SqlModel

theorem preCheck_not_ok (d key n ps) : preCheck d key n ≠ some (.ok ps) := by
  unfold preCheck
  intro h
  repeat' split at h
  all_goals cases h

/-- what `visit_Call` answers before it renders an argument: the key names no handler, or the call does not fit the
    handler's signature -/
def callPre (d : Dialect) (f : Ident) (n : Nat) : Option (Outcome (List Piece)) :=
  if !sqlHandlers.contains (String.ofList (pyLower (funcKey f))) then some (.lib (.unsupportedFunction (funcKey f)))
  else preCheck d (String.ofList (pyLower (funcKey f))) n

theorem callPre_not_ok (d f n ps) : callPre d f n ≠ some (.ok ps) := by
  unfold callPre
  split
  · nofun
  · exact preCheck_not_ok _ _ _ _

theorem sqlVisit_call (isD d al f args) : sqlVisit isD d al (.call f args) =
    match callPre d f args.length with
    | some err => err
    | none =>
        sqlVisitList isD d al args >>= fun items =>
        selectTpl d (String.ofList (pyLower (funcKey f))) (args.toList.map inferType) >>= fun tpl =>
        pure (instantiate tpl args.toList items) := by
  rw [sqlVisit, callPre]
  split
  · rfl
  · split <;> simp only [*]

def optIv (x : Option Str) (u : String) : List (List Piece) :=
  match x with
  | some n => if n.isEmpty then [] else [intervalP n u]
  | none => []

theorem mem_optIv {x u y} (h : y ∈ optIv x u) : ∃ n, x = some n ∧ y = intervalP n u := by
  cases x with
  | none => cases h
  | some n =>
    simp only [optIv] at h
    split at h
    · cases h
    · exact ⟨n, rfl, List.mem_singleton.mp h⟩

def durIvs (p : DurParts) : List (List Piece) :=
  optIv p.years "YEAR" ++ optIv p.months "MONTH" ++ optIv p.days "DAY" ++ optIv p.hours "HOUR"
    ++ optIv p.minutes "MINUTE" ++ optIv p.seconds "SECOND"

def durSign (p : DurParts) : List Piece :=
  match p.sign with
  | some c => [.tok (.op [c])]
  | none => []

theorem durationPieces_eq (isD v) : durationPieces isD v =
    match durUnpack isD v with
    | none => .foreign "ValueError"
    | some p =>
      match durIvs p with
      | [] => .lib .value
      | [one] => .ok (durSign p ++ one)
      | _ => .ok (durSign p ++ parenP (joinPlus (durIvs p))) := by
  unfold durationPieces
  cases durUnpack isD v <;> rfl

theorem durUnpack_sign (isD : Char → Bool) (v : Str) (p : DurParts) (h : durUnpack isD v = some p) :
    p.sign = none ∨ p.sign = some '+' ∨ p.sign = some '-' := by
  unfold durUnpack at h
  split at h
  rename_i sg r hm
  have hsg : p.sign = sg := by
    repeat' split at h
    all_goals first | (cases h; rfl) | cases h
  rw [hsg]
  split at hm <;> cases hm <;> simp

@[simp] theorem pieceToks_append (a b : List Piece) : pieceToks (a ++ b) = pieceToks a ++ pieceToks b := by
  induction a with
  | nil => rfl
  | cons p t ih => simp [pieceToks, ih]

/- `selectTpl` decides by a match on the handler key and tests on the dialect, the argument count and the inferred
types, but the templates it can end in are finitely many.  `tplTable` lists them per handler, each with the
dialects it is used for; a property of all templates is then a finite check over the table. -/

def dialects : List Dialect := [.std, .sqlite, .athena]

theorem mem_dialects (d : Dialect) : d ∈ dialects := by cases d <;> decide

def plus1 : List TItem := [tsp, to_ "+", tsp, tnum "1"]
def caseInd : TItem := .p (.ws "\n    ".toList)

def tplTable : List (String × List (List Dialect × List TItem)) :=
  [("concat", [(dialects, [.argW 0 5 false, tsp, to_ "||", tsp, .argW 1 5 true])]),
   ("contains", [(dialects, [.arg 0, tsp, tw "LIKE", tsp, .pat 1 ['%'] ['%']])]),
   ("endswith", [(dialects, [.arg 0, tsp, tw "LIKE", tsp, .pat 1 ['%'] []])]),
   ("startswith", [(dialects, [.arg 0, tsp, tw "LIKE", tsp, .pat 1 [] ['%']])]),
   ("indexof",
     [([.sqlite], tcall "INSTR" [[.arg 0], [.arg 1]] ++ [tsp, to_ "-", tsp, tnum "1"]),
      ([.std, .athena], [tw "POSITION", tlp, .arg 1, tsp, tw "IN", tsp, .arg 0, trp, tsp, to_ "-", tsp, tnum "1"])]),
   ("length",
     [([.sqlite, .athena], tcall "LENGTH" [[.arg 0]]),
      ([.std], tcall "CHAR_LENGTH" [[.arg 0]]),
      ([.std, .athena], tcall "CARDINALITY" [[.arg 0]])]),
   ("substring",
     [([.std], [tw "SUBSTRING", tlp, .arg 0, tsp, tw "FROM", tsp, .arg 1] ++ plus1 ++ [trp]),
      ([.std], [tw "SUBSTRING", tlp, .arg 0, tsp, tw "FROM", tsp, .arg 1] ++ plus1 ++ [tsp, tw "FOR", tsp, .arg 2, trp]),
      ([.sqlite, .athena], tcall "SUBSTR" [[.arg 0], .arg 1 :: plus1]),
      ([.sqlite, .athena], tcall "SUBSTR" [[.arg 0], .arg 1 :: plus1, [.arg 2]]),
      ([.athena], tcall "SLICE" [[.arg 0], [.arg 1]]),
      ([.athena], tcall "SLICE" [[.arg 0], [.arg 1], [.arg 2]])]),
   ("tolower", [(dialects, tcall "LOWER" [[.arg 0]])]),
   ("toupper", [(dialects, tcall "UPPER" [[.arg 0]])]),
   ("trim", [(dialects, tcall "TRIM" [[.arg 0]])]),
   ("year", [([.sqlite], extractTpl .sqlite "YEAR" "%Y"), ([.std, .athena], extractTpl .std "YEAR" "%Y")]),
   ("month", [([.sqlite], extractTpl .sqlite "MONTH" "%m"), ([.std, .athena], extractTpl .std "MONTH" "%m")]),
   ("day", [([.sqlite], extractTpl .sqlite "DAY" "%d"), ([.std, .athena], extractTpl .std "DAY" "%d")]),
   ("hour", [([.sqlite], extractTpl .sqlite "HOUR" "%H"), ([.std, .athena], extractTpl .std "HOUR" "%H")]),
   ("minute", [([.sqlite], extractTpl .sqlite "MINUTE" "%M"), ([.std, .athena], extractTpl .std "MINUTE" "%M")]),
   ("date",
     [([.sqlite], tcall "DATE" [[.arg 0]]),
      ([.std, .athena], [tw "CAST", tsp, tlp, .arg 0, tsp, tw "AS", tsp, tw "DATE", trp])]),
   ("now", [([.sqlite], tcall "DATETIME" [[tstr "now"]]), ([.std, .athena], [tw "CURRENT_TIMESTAMP"])]),
   ("round",
     [([.std], [tw "CAST", tsp, tlp, .arg 0, tsp, to_ "+", tsp, tnum "0.5", tsp, tw "AS", tsp, tw "INTEGER", trp]),
      ([.sqlite], tcall "TRUNC" [[.arg 0, tsp, to_ "+", tsp, tnum "0.5"]]),
      ([.athena], tcall "ROUND" [[.arg 0]])]),
   ("floor",
     [([.std],
        [tw "CASE", tsp, .arg 0,
         caseInd, tw "WHEN", tsp, to_ ">", tsp, tnum "0", tsp, tw "CAST", tsp, tlp, .arg 0, tsp, tw "AS", tsp, tw "INTEGER", trp,
         caseInd, tw "WHEN", tsp, to_ "<", tsp, tnum "0", tsp, tw "CAST", tsp, tlp, tnum "0", tsp, to_ "-", tsp, tlp, tw "ABS", tlp,
         .arg 0, trp, tsp, to_ "+", tsp, tnum "0.5", trp, tsp, tw "AS", tsp, tw "INTEGER", trp, trp,
         caseInd, tw "ELSE", tsp, .arg 0, .p (.ws ['\n']), tw "END"]),
      ([.sqlite, .athena], tcall "FLOOR" [[.arg 0]])]),
   ("ceiling",
     [([.std],
        [tw "CASE", tsp, .arg 0, tsp, to_ "-", tsp, tw "CAST", tsp, tlp, .arg 0, tsp, tw "AS", tsp, tw "INTEGER", trp,
         caseInd, tw "WHEN", tsp, to_ ">", tsp, tnum "0", tsp, .arg 0, to_ "+", tnum "1",
         caseInd, tw "WHEN", tsp, to_ "<", tsp, tnum "0", tsp, .arg 0, to_ "-", tnum "1",
         caseInd, tw "ELSE", tsp, .arg 0, .p (.ws ['\n']), tw "END"]),
      ([.sqlite, .athena], tcall "CEILING" [[.arg 0]])]),
   ("hassubset",
     [(dialects, tcall "CARDINALITY" [tcall "ARRAY_INTERSECT" [[.arg 0], [.arg 1]]] ++ [tsp, to_ "=", tsp]
                   ++ tcall "CARDINALITY" [[.arg 1]])])]

def listedIn (row : List (List Dialect × List TItem)) (d : Dialect) : Outcome (List TItem) → Bool
  | .ok tpl => row.any fun e => e.1.contains d && e.2 == tpl
  | .lib _ => true
  | _ => false

def Listed (d : Dialect) (key : String) : Outcome (List TItem) → Prop
  | .ok tpl => ∃ row, (key, row) ∈ tplTable ∧ ∃ e ∈ row, d ∈ e.1 ∧ e.2 = tpl
  | .lib _ => True
  | _ => False

theorem listed_row {d key o} (i : Nat) {row} (hi : tplTable[i]? = some (key, row))
    (h : listedIn row d o = true) : Listed d key o := by
  cases o with
  | ok tpl =>
    obtain ⟨e, he, h⟩ := List.any_eq_true.mp h
    simp only [Bool.and_eq_true, List.contains_iff_mem, beq_iff_eq] at h
    exact ⟨row, List.mem_of_getElem? hi, e, he, h⟩
  | lib _ => trivial
  | _ => cases h

/-- the same with the entry named as well (its index in the row): nothing is compared by evaluation -/
theorem listed_at {d key tpl} (i j : Nat) {row ds} (hi : tplTable[i]? = some (key, row))
    (hj : row[j]? = some (ds, tpl)) (hd : d ∈ ds) : Listed d key (.ok tpl) :=
  ⟨row, List.mem_of_getElem? hi, _, List.mem_of_getElem? hj, hd, rfl⟩

theorem likeTpl_listedIn {row d name pre suf} (tys)
    (h : listedIn row d (.ok [.arg 0, tsp, tw "LIKE", tsp, .pat 1 pre suf]) = true) :
    listedIn row d (likeTpl name pre suf tys) = true := by
  unfold likeTpl
  split
  · exact h
  · rfl
  · rfl

/-- Every outcome of `selectTpl` is a library exception or a template of the table.  After the match on the key
    the `i`-th goal is about the `i`-th row.  Where only the dialect decides, the entry is named by its index;
    where the argument types decide too, their tests enter as arbitrary Booleans, so that what remains is a closed
    statement for each dialect. -/
theorem selectTpl_listed (d key tys) : Listed d key (selectTpl d key tys) := by
  unfold selectTpl
  dsimp only
  split
  · exact listed_at 0 0 rfl rfl (mem_dialects d)
  · exact listed_row 1 rfl (likeTpl_listedIn tys (by cases d <;> decide +kernel))
  · exact listed_row 2 rfl (likeTpl_listedIn tys (by cases d <;> decide +kernel))
  · exact listed_row 3 rfl (likeTpl_listedIn tys (by cases d <;> decide +kernel))
  · apply listed_row 4 rfl
    cases d <;> split <;> decide +kernel
  · apply listed_row 5 rfl
    generalize (tyIsStr (tys.getD 0 none) || tys.getD 0 none == none) = a, tyIsList (tys.getD 0 none) = l
    revert a l
    cases d <;> decide +kernel
  · apply listed_row 6 rfl
    generalize (tyIsStr (tys.getD 0 none) || tys.getD 0 none == none) = a, tyIsList (tys.getD 0 none) = l,
      (tys.length == 2) = n2, (tys.length == 3) = n3
    revert a l n2 n3
    cases d <;> decide +kernel
  · exact listed_at 7 0 rfl rfl (mem_dialects d)
  · exact listed_at 8 0 rfl rfl (mem_dialects d)
  · exact listed_at 9 0 rfl rfl (mem_dialects d)
  · cases d
    · exact listed_at 10 1 rfl rfl (by decide)
    · exact listed_at 10 0 rfl rfl (by decide)
    · exact listed_at 10 1 rfl rfl (by decide)
  · cases d
    · exact listed_at 11 1 rfl rfl (by decide)
    · exact listed_at 11 0 rfl rfl (by decide)
    · exact listed_at 11 1 rfl rfl (by decide)
  · cases d
    · exact listed_at 12 1 rfl rfl (by decide)
    · exact listed_at 12 0 rfl rfl (by decide)
    · exact listed_at 12 1 rfl rfl (by decide)
  · cases d
    · exact listed_at 13 1 rfl rfl (by decide)
    · exact listed_at 13 0 rfl rfl (by decide)
    · exact listed_at 13 1 rfl rfl (by decide)
  · cases d
    · exact listed_at 14 1 rfl rfl (by decide)
    · exact listed_at 14 0 rfl rfl (by decide)
    · exact listed_at 14 1 rfl rfl (by decide)
  · cases d
    · exact listed_at 15 1 rfl rfl (by decide)
    · exact listed_at 15 0 rfl rfl (by decide)
    · exact listed_at 15 1 rfl rfl (by decide)
  · cases d
    · exact listed_at 16 1 rfl rfl (by decide)
    · exact listed_at 16 0 rfl rfl (by decide)
    · exact listed_at 16 1 rfl rfl (by decide)
  · cases d
    · exact listed_at 17 0 rfl rfl (by decide)
    · exact listed_at 17 1 rfl rfl (by decide)
    · exact listed_at 17 2 rfl rfl (by decide)
  · cases d
    · exact listed_at 18 0 rfl rfl (by decide)
    · exact listed_at 18 1 rfl rfl (by decide)
    · exact listed_at 18 1 rfl rfl (by decide)
  · cases d
    · exact listed_at 19 0 rfl rfl (by decide)
    · exact listed_at 19 1 rfl rfl (by decide)
    · exact listed_at 19 1 rfl rfl (by decide)
  · exact listed_at 20 0 rfl rfl (mem_dialects d)
  · trivial

def tplAll (P : Dialect → String → List TItem → Bool) : Bool :=
  tplTable.all fun r => r.2.all fun e => e.1.all fun d => P d r.1 e.2

theorem selectTpl_all {P : Dialect → String → List TItem → Bool} (hP : tplAll P = true)
    {d key tys tpl} (h : selectTpl d key tys = .ok tpl) : P d key tpl = true := by
  have hl := selectTpl_listed d key tys
  rw [h] at hl
  obtain ⟨row, hr, e, he, hd, rfl⟩ := hl
  exact List.all_eq_true.mp (List.all_eq_true.mp (List.all_eq_true.mp hP _ hr) e he) d hd

end OQ.SqlModel
