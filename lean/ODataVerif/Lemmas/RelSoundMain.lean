/-
  The three inductions behind Props/C04.lean: the Django plan (`dj_core`) and the SQLAlchemy
  plan (`sa_core`) evaluate to the relational reference semantics, and to each other (`agree_core`).

  All three go by induction on the fuel and, at a node, put together three kinds of facts stated once each below:
  what a translator that succeeded on the node returned (`*_ok`), what the specification and the two ORMs compute on a
  lambda node in terms of the rows of the forward path (`evalDj_*`, `evalSa_*`), and what the hypotheses on the parent
  row give for the related rows and for the specification's value of the lambda (`lam_val`).
-/
import ODataVerif.Lemmas.RelSound
import ODataVerif.Lemmas.RelStrip
namespace OQ.RelSound
open Spec
open RelStrip (lamVarsPlain lamVarsPlainList lamVarsPlainLam stripN rcBin elabRAux_boolop_some strip_elab plain_stripN)

def planBin : BoolOp → Plan → Plan → Plan
  | .and_ => .and
  | .or_ => .or
def v3Bin : BoolOp → V3 → V3 → V3
  | .and_ => V3.and
  | .or_ => V3.or

theorem evalR_bin (sch : Schema) (db : DB) (t : Str) (r : Row) (o : BoolOp) (x y : RCond) :
    evalR sch db t r (rcBin o x y) = (evalR sch db t r x).bind fun a => (evalR sch db t r y).map (v3Bin o a) := by
  cases o <;> simp only [rcBin, evalR] <;> cases evalR sch db t r x <;> cases evalR sch db t r y <;> rfl

theorem evalR_bin_isSome {sch : Schema} {db : DB} {t : Str} {r : Row} {o : BoolOp} {x y : RCond}
    (h : (evalR sch db t r (rcBin o x y)).isSome = true) :
    (evalR sch db t r x).isSome = true ∧ (evalR sch db t r y).isSome = true := by
  rw [evalR_bin] at h
  cases hx : evalR sch db t r x <;> cases hy : evalR sch db t r y <;> simp [hx, hy] at h ⊢

theorem lambdaClean_bin (sch : Schema) (db : DB) (t : Str) (r : Row) (o : BoolOp) (x y : RCond) :
    lambdaClean sch db t r (rcBin o x y) = (lambdaClean sch db t r x && lambdaClean sch db t r y) := by
  cases o <;> rfl

theorem evalDj_bin (sch : Schema) (db : DB) (t : Str) (r : Row) (o : BoolOp) (x y : Plan) :
    evalDjPlan sch db t r (planBin o x y) = v3Bin o (evalDjPlan sch db t r x) (evalDjPlan sch db t r y) := by
  cases o <;> rfl

theorem evalSa_bin (sch : Schema) (db : DB) (j : List (List Str)) (t : Str) (r : Row) (o : BoolOp) (x y : Plan) :
    evalSaPlan sch db j t r (planBin o x y) =
      (evalSaPlan sch db j t r x).bind fun a => (evalSaPlan sch db j t r y).map (v3Bin o a) := by
  cases o <;> simp only [planBin, evalSaPlan] <;> cases evalSaPlan sch db j t r x <;> cases evalSaPlan sch db j t r y <;> rfl

theorem except_bind_eq_ok {ε α β} {x : Except ε α} {f : α → Except ε β} {b : β} (h : (x >>= f) = .ok b) :
    ∃ a, x = .ok a ∧ f a = .ok b := by
  cases x with
  | error e => cases h
  | ok a => exact ⟨a, rfl, h⟩

variable {sch : Schema} {kindOf : Str → Option ColK}

theorem djPlan_boolop_ok {fuel : Nat} {root : Str} {o : BoolOp} {l r : Expr} {p : Plan}
    (h : djPlan sch kindOf (fuel + 1) root (.boolop o l r) = .ok p) :
    ∃ a b, djPlan sch kindOf fuel root l = .ok a ∧ djPlan sch kindOf fuel root r = .ok b ∧ p = planBin o a b := by
  have e : djPlan sch kindOf (fuel + 1) root (.boolop o l r) =
      (djPlan sch kindOf fuel root l >>= fun a => djPlan sch kindOf fuel root r >>= fun b => pure (planBin o a b)) := by
    cases o <;> simp only [djPlan, planBin]
  obtain ⟨a, ha, h⟩ := except_bind_eq_ok (e ▸ h)
  obtain ⟨b, hb, h⟩ := except_bind_eq_ok h
  exact ⟨a, b, ha, hb, (Except.ok.inj h).symm⟩

theorem djPlan_not_ok {fuel : Nat} {root : Str} {x : Expr} {p : Plan}
    (h : djPlan sch kindOf (fuel + 1) root (.unary .not_ x) = .ok p) :
    ∃ a, djPlan sch kindOf fuel root x = .ok a ∧ p = .not a := by
  simp only [djPlan] at h
  obtain ⟨a, ha, h⟩ := except_bind_eq_ok h
  exact ⟨a, ha, (Except.ok.inj h).symm⟩

/-- the lambda node, Django: the owner is a path that `reverse_relationship` resolves; the body is translated after
    stripping, at the related model -/
theorem djPlan_coll_ok {fuel : Nat} {root : Str} {ow : Expr} {op : CollOp} {lam : OptLam} {p : Plan}
    (h : djPlan sch kindOf (fuel + 1) root (.coll ow op lam) = .ok p) :
    ∃ segs back child, pathSegs ow = some segs ∧ reverseRelationship sch root segs = some (back, child) ∧
      match (generalizing := false) lam with
      | .none => op = .any ∧ p = .exists_ child back none
      | .some v body => ∃ pb, djPlan sch kindOf fuel child (stripN v body) = .ok pb ∧
          p = if op == .any then .exists_ child back (some pb) else .notExistsNot child back pb := by
  rw [djPlan] at h
  cases hs : pathSegs ow with
  | none => simp only [hs] at h; cases h
  | some segs =>
    cases hr : reverseRelationship sch root segs with
    | none => simp only [hs, hr] at h; cases h
    | some bc =>
      obtain ⟨back, child⟩ := bc
      refine ⟨segs, back, child, rfl, hr, ?_⟩
      simp only [hs, hr] at h
      cases lam with
      | none =>
        cases op with
        | any => exact ⟨rfl, (Except.ok.inj h).symm⟩
        | all => cases h
      | some v body =>
        simp only [RelStrip.stripVar_eq] at h
        obtain ⟨pb, hpb, h⟩ := except_bind_eq_ok h
        refine ⟨pb, hpb, ?_⟩
        cases op <;> exact (Except.ok.inj h).symm

theorem saPlanAux_boolop_ok {fuel : Nat} {root : Str} {o : BoolOp} {l r : Expr} {j : List (List Str)} {p : Plan}
    (h : saPlanAux sch kindOf (fuel + 1) root (.boolop o l r) = .ok (j, p)) :
    ∃ ja a jb b, saPlanAux sch kindOf fuel root l = .ok (ja, a) ∧ saPlanAux sch kindOf fuel root r = .ok (jb, b) ∧
      j = ja ++ jb ∧ p = planBin o a b := by
  have e : saPlanAux sch kindOf (fuel + 1) root (.boolop o l r) =
      (saPlanAux sch kindOf fuel root l >>= fun a => saPlanAux sch kindOf fuel root r >>= fun b =>
        pure (a.1 ++ b.1, planBin o a.2 b.2)) := by
    cases o <;> simp only [saPlanAux, planBin] <;> rfl
  obtain ⟨⟨ja, a⟩, ha, h⟩ := except_bind_eq_ok (e ▸ h)
  obtain ⟨⟨jb, b⟩, hb, h⟩ := except_bind_eq_ok h
  cases h
  exact ⟨ja, a, jb, b, ha, hb, rfl, rfl⟩

theorem saPlanAux_not_ok {fuel : Nat} {root : Str} {x : Expr} {j : List (List Str)} {p : Plan}
    (h : saPlanAux sch kindOf (fuel + 1) root (.unary .not_ x) = .ok (j, p)) :
    ∃ a, saPlanAux sch kindOf fuel root x = .ok (j, a) ∧ p = .not a := by
  simp only [saPlanAux] at h
  obtain ⟨⟨ja, a⟩, ha, h⟩ := except_bind_eq_ok h
  cases h
  exact ⟨a, ha, rfl⟩

/-- the lambda node, SQLAlchemy: a to-one path, then a relation of the model it reaches; the body (stripped, translated at
    the related model) may not navigate -/
theorem saPlanAux_coll_ok {fuel : Nat} {root : Str} {ow : Expr} {op : CollOp} {lam : OptLam} {j : List (List Str)} {p : Plan}
    (h : saPlanAux sch kindOf (fuel + 1) root (.coll ow op lam) = .ok (j, p)) :
    ∃ path coll tbl rel, ownerOf none ow = some (path, coll) ∧ toOneVia sch root path = some tbl ∧
      sch.rel tbl coll = some rel ∧
      match (generalizing := false) lam with
      | .none => op = .any ∧ p = .exists_ rel.dst (path ++ [coll]) none
      | .some v body => ∃ pb, saPlanAux sch kindOf fuel rel.dst (stripN v body) = .ok ([], pb) ∧
          p = if op == .any then .exists_ rel.dst (path ++ [coll]) (some pb) else .notExistsNot rel.dst (path ++ [coll]) pb := by
  rw [saPlanAux] at h
  dsimp only at h
  simp only [RelStrip.ownerOf_eq]
  revert h
  cases pathSegs ow with
  | none => intro h; cases h
  | some segs =>
    simp only [Option.map_some, RelStrip.adj_none, RelStrip.ownK]
    cases segs.reverse with
    | nil => intro h; cases h
    | cons coll revPath =>
      intro h
      simp only at h
      cases hn : navTo sch [] root none revPath.reverse with
      | none => rw [hn] at h; cases h
      | some tr =>
        cases hrel : sch.rel tr.1 coll with
        | none => simp only [hn, hrel] at h; cases h
        | some rel =>
          refine ⟨_, _, tr.1, rel, rfl, by rw [← navTo_fst sch [] root none, hn]; rfl, hrel, ?_⟩
          simp only [hn, hrel] at h
          cases lam with
          | none =>
            cases op with
            | any => cases h; exact ⟨rfl, rfl⟩
            | all => cases h
          | some v body =>
            simp only [RelStrip.stripVar_eq] at h
            obtain ⟨⟨jb, pb⟩, hpb, h⟩ := except_bind_eq_ok h
            cases jb with
            | cons _ _ => cases h
            | nil => refine ⟨pb, hpb, ?_⟩; cases op <;> (cases h; rfl)

variable {db : DB}

theorem evalR_nonEmpty_eq {t t' : Str} {r : Row} {path : List Str} {coll : Str} {rows : List Row}
    (hcr : collRows sch db t r path coll = some (t', rows)) :
    evalR sch db t r (.nonEmpty path coll) = some (V3.ofBool (!rows.isEmpty)) := by
  simp only [evalR, hcr, Option.map_some]

theorem evalR_any_eq {t t' : Str} {r : Row} {path : List Str} {coll : Str} {rows : List Row} {body : RCond} {g : Row → V3}
    (hcr : collRows sch db t r path coll = some (t', rows)) (hg : ∀ c, c ∈ rows → evalR sch db t' c body = some (g c)) :
    evalR sch db t r (.any path coll body) = some (V3.ofBool (rows.any fun c => g c == .tt)) := by
  simp [evalR, hcr, List.map_congr_left hg, Function.comp_def]

theorem evalR_all_eq {t t' : Str} {r : Row} {path : List Str} {coll : Str} {rows : List Row} {body : RCond} {g : Row → V3}
    (hcr : collRows sch db t r path coll = some (t', rows)) (hg : ∀ c, c ∈ rows → evalR sch db t' c body = some (g c)) :
    evalR sch db t r (.all path coll body) = some (V3.ofBool (rows.all fun c => g c == .tt)) := by
  simp [evalR, hcr, List.map_congr_left hg, Function.comp_def]

theorem nonEmpty_inv (hu : KeysOk sch db) {t : Str} {r : Row} {path : List Str} {coll : Str}
    (hdef : (evalR sch db t r (.nonEmpty path coll)).isSome = true) :
    ∃ t', collRows sch db t r path coll = some (t', rowsVia sch db t r (path ++ [coll])) := by
  simp only [evalR] at hdef
  cases hcr : collRows sch db t r path coll with
  | none => simp [hcr] at hdef
  | some tr =>
    obtain ⟨_, _, _, _, _, h4, _⟩ := collRows_some sch db hu t tr.1 r path coll tr.2 hcr
    exact ⟨tr.1, h4 ▸ rfl⟩

theorem any_congr_mem {α} {l : List α} {p q : α → Bool} (h : ∀ a, a ∈ l → p a = q a) : l.any p = l.any q := by
  induction l with
  | nil => rfl
  | cons x t ih =>
    rw [List.any_cons, List.any_cons, h x (List.mem_cons_self ..), ih fun a ha => h a (List.mem_cons_of_mem _ ha)]

/-- two-valuedness turns SQL's `NOT EXISTS (… AND NOT body)` into "every row satisfies the body" -/
theorem all_tt_eq {rows : List Row} {g : Row → V3} (h : ∀ c, c ∈ rows → g c ≠ .unk) :
    (!rows.any fun c => (g c).not == .tt) = rows.all fun c => g c == .tt := by
  rw [List.all_eq_not_any_not]
  congr 1
  refine any_congr_mem fun c hcm => ?_
  have := h c hcm
  cases hv : g c <;> simp_all [V3.not]

/-- what the hypotheses on the parent row of a lambda give: the collection is the set of rows of the forward path, it lies in
    one table, on each of its rows the body is clean and has a two-valued value `g c`; and so the value of the lambda, `all` in
    the form SQL computes it -/
theorem lam_val (hu : KeysOk sch db) {t : Str} {r : Row} {path : List Str} {coll : Str} {body : RCond} {op : CollOp}
    (hdef : (evalR sch db t r (if op == .any then .any path coll body else .all path coll body)).isSome = true)
    (hc : lambdaClean sch db t r (if op == .any then .any path coll body else .all path coll body) = true) :
    ∃ (t' : Str) (g : Row → V3), tblVia sch t (path ++ [coll]) = some t' ∧
      (∀ c, c ∈ rowsVia sch db t r (path ++ [coll]) →
        lambdaClean sch db t' c body = true ∧ evalR sch db t' c body = some (g c)) ∧
      evalR sch db t r (if op == .any then .any path coll body else .all path coll body) =
        some (V3.ofBool (if op == .any then (rowsVia sch db t r (path ++ [coll])).any fun c => g c == .tt
          else !(rowsVia sch db t r (path ++ [coll])).any fun c => (g c).not == .tt)) := by
  have key : (∃ p, collRows sch db t r path coll = some p ∧ ∀ c, c ∈ p.2 →
      lambdaClean sch db p.1 c body = true ∧ (evalR sch db p.1 c body).isSome = true ∧ evalR sch db p.1 c body ≠ some .unk) := by
    cases op <;>
    · simp only [beq_self_eq_true, beq_iff_eq, reduceCtorEq, if_true, if_false, evalR, lambdaClean] at hdef hc
      cases hcr : collRows sch db t r path coll with
      | none => simp [hcr] at hdef
      | some p =>
        simp only [hcr] at hdef hc
        have hsome : ∀ c, c ∈ p.2 → ¬ evalR sch db p.1 c body = none := by simpa using hdef
        refine ⟨p, rfl, fun c hcm => ?_⟩
        have h1 := List.all_eq_true.1 hc c hcm
        simp only [Bool.and_eq_true, bne_iff_ne] at h1
        exact ⟨h1.1, Option.isSome_iff_ne_none.2 (hsome c hcm), h1.2⟩
  obtain ⟨⟨t', rows⟩, hcr, hrows⟩ := key
  obtain ⟨_, _, _, _, _, h4, h5⟩ := collRows_some sch db hu t t' r path coll rows hcr
  subst h4
  have hg : ∀ c, c ∈ rowsVia sch db t r (path ++ [coll]) →
      evalR sch db t' c body = some ((evalR sch db t' c body).getD .unk) := fun c hcm => by
    obtain ⟨v, hv⟩ := Option.isSome_iff_exists.1 (hrows c hcm).2.1
    rw [hv]; rfl
  refine ⟨t', _, h5, fun c hcm => ⟨(hrows c hcm).1, hg c hcm⟩, ?_⟩
  cases op with
  | any => exact evalR_any_eq hcr hg
  | all =>
    exact (evalR_all_eq hcr hg).trans (congrArg (some ∘ V3.ofBool)
      (all_tt_eq fun c hcm h => (hrows c hcm).2.2 (h ▸ hg c hcm))).symm

theorem any_contains_and {α} [BEq α] [LawfulBEq α] (tbl rows : List α) (P : α → Bool) (hsub : ∀ x, x ∈ rows → x ∈ tbl) :
    tbl.any (fun c => rows.contains c && P c) = rows.any P := by
  rw [Bool.eq_iff_iff]
  simp only [List.any_eq_true, Bool.and_eq_true, List.contains_iff_mem]
  exact ⟨fun ⟨x, _, hx, hp⟩ => ⟨x, hx, hp⟩, fun ⟨x, hx, hp⟩ => ⟨x, hsub x hx, hx, hp⟩⟩

/-- Django's correlated sub-query ranges over the rows of the forward path -/
theorem dj_exists (hs : SchOk sch) (hd : IdsOk db)
    {root : Str} {segs back : List Str} {child : Str} (h : reverseRelationship sch root segs = some (back, child))
    {r : Row} {pk : Int} (hr : r ∈ db.table root) (hpk : idOf r = some pk) (P : Row → Bool) :
    (db.table child).any (fun c => reachesBack sch db child c back pk && P c) = (rowsVia sch db root r segs).any P := by
  rw [← any_contains_and (db.table child) (rowsVia sch db root r segs) P
    (fun x hx => rowsVia_sub sch db root child r x segs (reverse_tbl sch hs root segs back child h).1 hr hx)]
  exact any_congr_mem fun c hc => by rw [reverse_reaches' sch db hs hd root segs back child h r c pk hr hc hpk]

section
variable (hs : SchOk sch) (hd : IdsOk db) {root : Str} {segs back : List Str} {child : Str}
  (h : reverseRelationship sch root segs = some (back, child)) {r : Row} (hr : r ∈ db.table root)
include hs hd h hr

theorem evalDj_exists_none :
    evalDjPlan sch db root r (.exists_ child back none) = V3.ofBool (!(rowsVia sch db root r segs).isEmpty) := by
  obtain ⟨pk, hpk⟩ := hd.hasId root r hr
  simp only [evalDjPlan, hpk, dj_exists hs hd h hr hpk]
  cases rowsVia sch db root r segs <;> rfl

theorem evalDj_exists {pb : Plan} {g : Row → V3}
    (hg : ∀ c, c ∈ rowsVia sch db root r segs → evalDjPlan sch db child c pb = g c) :
    evalDjPlan sch db root r (.exists_ child back (some pb)) =
      V3.ofBool ((rowsVia sch db root r segs).any fun c => g c == .tt) := by
  obtain ⟨pk, hpk⟩ := hd.hasId root r hr
  simp only [evalDjPlan, hpk, dj_exists hs hd h hr hpk]
  rw [any_congr_mem fun c hc => by rw [hg c hc]]

theorem evalDj_notExistsNot {pb : Plan} {g : Row → V3}
    (hg : ∀ c, c ∈ rowsVia sch db root r segs → evalDjPlan sch db child c pb = g c) :
    evalDjPlan sch db root r (.notExistsNot child back pb) =
      V3.ofBool (!(rowsVia sch db root r segs).any fun c => (g c).not == .tt) := by
  obtain ⟨pk, hpk⟩ := hd.hasId root r hr
  simp only [evalDjPlan, hpk, dj_exists hs hd h hr hpk]
  rw [any_congr_mem fun c hc => by rw [hg c hc]]
end

theorem evalSa_exists (joins : List (List Str)) {t child : Str} {r : Row} {fwd : List Str} {pb : Plan} {g : Row → V3}
    (hg : ∀ c, c ∈ rowsVia sch db t r fwd → evalSaPlan sch db [] child c pb = some (g c)) :
    evalSaPlan sch db joins t r (.exists_ child fwd (some pb)) =
      some (V3.ofBool ((rowsVia sch db t r fwd).any fun c => g c == .tt)) := by
  simp [evalSaPlan, List.map_congr_left hg, Function.comp_def]

theorem evalSa_notExistsNot (joins : List (List Str)) {t child : Str} {r : Row} {fwd : List Str} {pb : Plan} {g : Row → V3}
    (hg : ∀ c, c ∈ rowsVia sch db t r fwd → evalSaPlan sch db [] child c pb = some (g c)) :
    evalSaPlan sch db joins t r (.notExistsNot child fwd pb) =
      some (V3.ofBool (!(rowsVia sch db t r fwd).any fun c => (g c).not == .tt)) := by
  simp [evalSaPlan, List.map_congr_left hg, Function.comp_def]

/-- the case distinction the specification and both visitors make -/
theorem shape_cases {motive : Expr → Prop} (bool : ∀ o l r, motive (.boolop o l r)) (not : ∀ x, motive (.unary .not_ x))
    (coll : ∀ ow op lam, motive (.coll ow op lam)) (leaf : ∀ e, isLeafShape e = true → motive e) : ∀ e, motive e
  | .boolop o l r => bool o l r
  | .unary .not_ x => not x
  | .coll ow op lam => coll ow op lam
  | .unary .neg _ => leaf _ rfl
  | .ident _ => leaf _ rfl
  | .attr _ _ => leaf _ rfl
  | .lit _ _ => leaf _ rfl
  | .list _ => leaf _ rfl
  | .binop _ _ _ => leaf _ rfl
  | .compare _ _ _ => leaf _ rfl
  | .named _ _ => leaf _ rfl
  | .call _ _ => leaf _ rfl

theorem any_contains_nil (hs : List Str) : (hs.any fun h => ([] : List Str).contains h) = false := by
  induction hs with
  | nil => rfl
  | cons _ _ ih => rw [List.any_cons, ih]; rfl

/-- the leaves of the translators are leaves of the specification's reading (which also reads `all()` as one) -/
theorem isLeafShape_spec {e : Expr} (h : isLeafShape e = true) : RelStrip.isLeafShape e = true := by
  cases e with
  | boolop => cases h
  | coll => cases h
  | unary o x =>
    cases o with
    | not_ => cases h
    | neg => rfl
  | _ => rfl

theorem elabRAux_leaf_some {var : Option Str} {e : Expr} {f : RCond} (hl : isLeafShape e = true)
    (h : elabRAux kindOf [] var e = some f) : ∃ b, relLeaf kindOf var e = some b ∧ f = .scalar b := by
  rw [RelStrip.elabRAux_leaf kindOf [] var e (isLeafShape_spec hl), any_contains_nil, if_neg Bool.false_ne_true] at h
  obtain ⟨b, hb, h⟩ := Option.map_eq_some_iff.1 h
  exact ⟨b, hb, h.symm⟩

theorem djPlan_leaf_ok {fuel : Nat} {root : Str} {e : Expr} {p : Plan} (hl : isLeafShape e = true)
    (h : djPlan sch kindOf (fuel + 1) root e = .ok p) : ∃ b, relLeaf kindOf none e = some b ∧ p = .leaf b := by
  rw [djPlan_leaf sch kindOf fuel root e hl] at h
  cases hb : relLeaf kindOf none e with
  | none => rw [hb] at h; cases h
  | some b => rw [hb] at h; exact ⟨b, rfl, (Except.ok.inj h).symm⟩

theorem saPlanAux_leaf_ok {fuel : Nat} {root : Str} {e : Expr} {j : List (List Str)} {p : Plan} (hl : isLeafShape e = true)
    (h : saPlanAux sch kindOf (fuel + 1) root e = .ok (j, p)) :
    ∃ b, relLeaf kindOf none e = some b ∧ j = leafJoins b ∧ p = .leaf b := by
  rw [saPlanAux_leaf sch kindOf fuel root e hl] at h
  cases hb : relLeaf kindOf none e with
  | none => rw [hb] at h; cases h
  | some b => rw [hb] at h; cases h; exact ⟨b, rfl, rfl, rfl⟩

theorem elabRAux_coll_none_some {var : Option Str} {ow : Expr} {op : CollOp} {f : RCond}
    (h : elabRAux kindOf [] var (.coll ow op .none) = some f) :
    ∃ path coll, ownerOf var ow = some (path, coll) ∧ f = .nonEmpty path coll := by
  cases op with
  | all =>
    rw [RelStrip.elabRAux_leaf kindOf [] var _ rfl, relLeaf_coll] at h
    split at h <;> cases h
  | any =>
    simp only [elabRAux, any_contains_nil, Bool.false_eq_true, if_false] at h
    obtain ⟨⟨path, coll⟩, how, h⟩ := Option.map_eq_some_iff.1 h
    exact ⟨path, coll, how, h.symm⟩

theorem elabRAux_lam_some {var : Option Str} {ow : Expr} {op : CollOp} {v : Ident} {body : Expr} {f : RCond}
    (h : elabRAux kindOf [] var (.coll ow op (.some v body)) = some f) :
    ∃ path coll bf, ownerOf var ow = some (path, coll) ∧
      elabRAux kindOf (RelStrip.extOuter var []) (some v.name) body = some bf ∧
      f = if op == .any then .any path coll bf else .all path coll bf := by
  rw [RelStrip.elabRAux_coll_some] at h
  simp only [any_contains_nil, Bool.false_eq_true, if_false] at h
  cases how : ownerOf var ow with
  | none => simp [how] at h
  | some pc =>
    cases hb : elabRAux kindOf (RelStrip.extOuter var []) (some v.name) body with
    | none => simp [how, hb] at h
    | some bf => exact ⟨pc.1, pc.2, bf, rfl, rfl, by simpa [how, hb] using h.symm⟩

theorem pathSegs_ne_nil (e : Expr) (segs : List Str) (h : pathSegs e = some segs) : segs ≠ [] :=
  RelStrip.pathSegs_ne_nil e segs h

theorem tblVia_snoc {t tm : Str} {path : List Str} {coll : Str} {rel : RelDef} (h : tblVia sch t path = some tm)
    (hr : sch.rel tm coll = some rel) : tblVia sch t (path ++ [coll]) = some rel.dst := by
  rw [tblVia_append, h]; simp [tblVia, hr]

/-! The converses of the `_ok` lemmas, for concrete filters: the path, the reversed relationship and the leaf are each
  evaluated on their own. -/

theorem djPlan_leaf_mk {fuel : Nat} {root : Str} {e : Expr} {b : BoolE} (hl : isLeafShape e = true)
    (hb : relLeaf kindOf none e = some b) : djPlan sch kindOf (fuel + 1) root e = .ok (.leaf b) := by
  rw [djPlan_leaf sch kindOf fuel root e hl, hb]; rfl

theorem djPlan_nonEmpty_mk {fuel : Nat} {root : Str} {ow : Expr} {segs back : List Str} {child : Str}
    (hs : pathSegs ow = some segs) (hr : reverseRelationship sch root segs = some (back, child)) :
    djPlan sch kindOf (fuel + 1) root (.coll ow .any .none) = .ok (.exists_ child back none) := by
  simp only [djPlan, hs, hr]; rfl

theorem djPlan_lam_mk {fuel : Nat} {root : Str} {ow : Expr} {op : CollOp} {v : Ident} {body : Expr} {segs back : List Str}
    {child : Str} {pb : Plan} (hs : pathSegs ow = some segs) (hr : reverseRelationship sch root segs = some (back, child))
    (hb : djPlan sch kindOf fuel child (stripN v body) = .ok pb) :
    djPlan sch kindOf (fuel + 1) root (.coll ow op (.some v body)) =
      .ok (if op == .any then .exists_ child back (some pb) else .notExistsNot child back pb) := by
  simp only [djPlan, hs, hr, RelStrip.stripVar_eq, hb]
  cases op <;> rfl

theorem saPlan_leaf_mk {fuel : Nat} {root : Str} {e : Expr} {b : BoolE} (hl : isLeafShape e = true)
    (hb : relLeaf kindOf none e = some b) : saPlanAux sch kindOf (fuel + 1) root e = .ok (leafJoins b, .leaf b) := by
  rw [saPlanAux_leaf sch kindOf fuel root e hl, hb]; rfl

/-- the joins recorded for the to-one prefix of a lambda owner -/
def prefixes (path : List Str) : List (List Str) := (List.range path.length).map fun i => path.take (i + 1)

theorem saPlan_nonEmpty_mk {fuel : Nat} {root : Str} {ow : Expr} {path : List Str} {coll tbl child : Str}
    (hs : pathSegs ow = some (path ++ [coll])) (ht : toOneVia sch root path = some tbl)
    (hr : (sch.rel tbl coll).map RelDef.dst = some child) :
    saPlan sch kindOf (fuel + 1) root (.coll ow .any .none) = .ok ⟨prefixes path, .exists_ child (path ++ [coll]) none⟩ := by
  rw [← navTo_fst sch [] root none] at ht
  obtain ⟨⟨tbl', rw0⟩, hn, h⟩ := Option.map_eq_some_iff.1 ht
  obtain rfl : tbl' = tbl := h
  obtain ⟨rel, hrel, rfl⟩ := Option.map_eq_some_iff.1 hr
  simp only [saPlan, saPlanAux, hs, List.reverse_append, List.reverse_cons, List.reverse_nil, List.nil_append, List.singleton_append,
    List.reverse_reverse, hn, hrel]
  rfl

theorem saPlan_lam_mk {fuel : Nat} {root : Str} {ow : Expr} {op : CollOp} {v : Ident} {body : Expr} {path : List Str}
    {coll tbl child : Str} {pb : Plan}
    (hs : pathSegs ow = some (path ++ [coll])) (ht : toOneVia sch root path = some tbl)
    (hr : (sch.rel tbl coll).map RelDef.dst = some child)
    (hb : saPlanAux sch kindOf fuel child (stripN v body) = .ok ([], pb)) :
    saPlan sch kindOf (fuel + 1) root (.coll ow op (.some v body)) =
      .ok ⟨prefixes path, if op == .any then .exists_ child (path ++ [coll]) (some pb)
        else .notExistsNot child (path ++ [coll]) pb⟩ := by
  rw [← navTo_fst sch [] root none] at ht
  obtain ⟨⟨tbl', rw0⟩, hn, h⟩ := Option.map_eq_some_iff.1 ht
  obtain rfl : tbl' = tbl := h
  obtain ⟨rel, hrel, rfl⟩ := Option.map_eq_some_iff.1 hr
  simp only [saPlan, saPlanAux, hs, List.reverse_append, List.reverse_cons, List.reverse_nil, List.nil_append, List.singleton_append,
    List.reverse_reverse, hn, hrel, RelStrip.stripVar_eq, hb]
  cases op <;> rfl

theorem dj_core (sch : Schema) (kindOf : Str → Option ColK) (db : DB) (hs : SchOk sch) (hd : IdsOk db)
    (hu : KeysOk sch db) :
    ∀ (fuel : Nat) (root : Str) (e : Expr) (f : RCond) (p : Plan),
      lamVarsPlain e = true → elabRAux kindOf [] none e = some f → djPlan sch kindOf fuel root e = .ok p →
      ∀ r, r ∈ db.table root → lambdaClean sch db root r f = true → (evalR sch db root r f).isSome = true →
        evalR sch db root r f = some (evalDjPlan sch db root r p) := by
  intro fuel
  induction fuel with
  | zero => intro root e f p _ _ hp; cases hp
  | succ fuel ih =>
    intro root e f p hpl he hp r hr hc hdef
    cases e using shape_cases with
    | bool o l x =>
      obtain ⟨a, b, h1, h2, rfl⟩ := elabRAux_boolop_some he
      obtain ⟨pa, pb, h3, h4, rfl⟩ := djPlan_boolop_ok hp
      simp only [lamVarsPlain, Bool.and_eq_true] at hpl
      rw [lambdaClean_bin, Bool.and_eq_true] at hc
      obtain ⟨d1, d2⟩ := evalR_bin_isSome hdef
      rw [evalR_bin, ih root l a pa hpl.1 h1 h3 r hr hc.1 d1, ih root x b pb hpl.2 h2 h4 r hr hc.2 d2, evalDj_bin]
      rfl
    | not x =>
      simp only [elabRAux] at he
      obtain ⟨a, h1, rfl⟩ := Option.map_eq_some_iff.1 he
      obtain ⟨pa, h3, rfl⟩ := djPlan_not_ok hp
      simp only [evalR, Option.isSome_map] at hdef ⊢
      rw [ih root x a pa hpl h1 h3 r hr hc hdef]
      rfl
    | coll ow op lam =>
      obtain ⟨segs, back, child, hsegs, hrev, hlam⟩ := djPlan_coll_ok hp
      have htc := (reverse_tbl sch hs root segs back child hrev).1
      cases lam with
      | none =>
        obtain ⟨rfl, rfl⟩ := hlam
        obtain ⟨path, coll, how, rfl⟩ := elabRAux_coll_none_some he
        obtain rfl := Option.some.inj (hsegs.symm.trans (ownerOf_none ow path coll how))
        obtain ⟨t', hcr⟩ := nonEmpty_inv hu hdef
        rw [evalR_nonEmpty_eq hcr, evalDj_exists_none hs hd hrev hr]
      | some v body =>
        obtain ⟨pb, hpb, rfl⟩ := hlam
        obtain ⟨path, coll, bf, how, hb, rfl⟩ := elabRAux_lam_some he
        obtain rfl := Option.some.inj (hsegs.symm.trans (ownerOf_none ow path coll how))
        simp only [lamVarsPlain, lamVarsPlainLam, Bool.and_eq_true, List.isEmpty_iff] at hpl
        have IH := ih child (stripN v body) bf pb ((plain_stripN v body).trans hpl.2.2) (strip_elab kindOf v hpl.2.1 _ body bf hb) hpb
        obtain ⟨t', g, htbl, hrows, hval⟩ := lam_val hu hdef hc
        obtain rfl := Option.some.inj (htc.symm.trans htbl)
        have hg : ∀ c, c ∈ rowsVia sch db root r (path ++ [coll]) → evalDjPlan sch db child c pb = g c := fun c hcm =>
          Option.some.inj ((IH c (rowsVia_sub sch db root child r c _ htc hr hcm) (hrows c hcm).1
            (by rw [(hrows c hcm).2]; rfl)).symm.trans (hrows c hcm).2)
        rw [hval]
        cases op with
        | any => exact congrArg some (evalDj_exists hs hd hrev hr hg).symm
        | all => exact congrArg some (evalDj_notExistsNot hs hd hrev hr hg).symm
    | leaf e hl =>
      obtain ⟨b, hb, rfl⟩ := elabRAux_leaf_some hl he
      obtain ⟨b', hb', rfl⟩ := djPlan_leaf_ok hl hp
      obtain rfl := Option.some.inj (hb.symm.trans hb')
      rfl

theorem sa_core (sch : Schema) (kindOf : Str → Option ColK) (db : DB) (hu : KeysOk sch db) :
    ∀ (fuel : Nat) (root : Str) (e : Expr) (f : RCond) (j : List (List Str)) (p : Plan),
      lamVarsPlain e = true → elabRAux kindOf [] none e = some f → saPlanAux sch kindOf fuel root e = .ok (j, p) →
      ∀ r, lambdaClean sch db root r f = true → (evalR sch db root r f).isSome = true →
      ∀ joins : List (List Str), (∀ x, x ∈ j → x ∈ joins) →
        evalSaPlan sch db joins root r p = evalR sch db root r f := by
  intro fuel
  induction fuel with
  | zero => intro root e f j p _ _ hp; cases hp
  | succ fuel ih =>
    intro root e f j p hpl he hp r hc hdef joins hj
    cases e using shape_cases with
    | bool o l x =>
      obtain ⟨a, b, h1, h2, rfl⟩ := elabRAux_boolop_some he
      obtain ⟨ja, pa, jb, pb, h3, h4, rfl, rfl⟩ := saPlanAux_boolop_ok hp
      simp only [lamVarsPlain, Bool.and_eq_true] at hpl
      rw [lambdaClean_bin, Bool.and_eq_true] at hc
      obtain ⟨d1, d2⟩ := evalR_bin_isSome hdef
      rw [evalSa_bin, evalR_bin, ih root l a ja pa hpl.1 h1 h3 r hc.1 d1 joins fun x hx => hj x (List.mem_append_left _ hx),
        ih root x b jb pb hpl.2 h2 h4 r hc.2 d2 joins fun x hx => hj x (List.mem_append_right _ hx)]
    | not x =>
      simp only [elabRAux] at he
      obtain ⟨a, h1, rfl⟩ := Option.map_eq_some_iff.1 he
      obtain ⟨pa, h3, rfl⟩ := saPlanAux_not_ok hp
      simp only [evalR, Option.isSome_map] at hdef ⊢
      rw [evalSaPlan, ih root x a j pa hpl h1 h3 r hc hdef joins hj]
    | coll ow op lam =>
      obtain ⟨path, coll, tbl, rel, how, htm, hrel, hlam⟩ := saPlanAux_coll_ok hp
      have htc := tblVia_snoc (toOneVia_tblVia sch root tbl path htm) hrel
      cases lam with
      | none =>
        obtain ⟨rfl, rfl⟩ := hlam
        obtain ⟨path', coll', how', rfl⟩ := elabRAux_coll_none_some he
        obtain ⟨rfl, rfl⟩ := Prod.mk.inj (Option.some.inj (how.symm.trans how'))
        obtain ⟨t', hcr⟩ := nonEmpty_inv hu hdef
        rw [evalR_nonEmpty_eq hcr]; rfl
      | some v body =>
        obtain ⟨pb, hpb, rfl⟩ := hlam
        obtain ⟨path', coll', bf, how', hb, rfl⟩ := elabRAux_lam_some he
        obtain ⟨rfl, rfl⟩ := Prod.mk.inj (Option.some.inj (how.symm.trans how'))
        simp only [lamVarsPlain, lamVarsPlainLam, Bool.and_eq_true, List.isEmpty_iff] at hpl
        have IH := ih rel.dst (stripN v body) bf [] pb ((plain_stripN v body).trans hpl.2.2) (strip_elab kindOf v hpl.2.1 _ body bf hb) hpb
        obtain ⟨t', g, htbl, hrows, hval⟩ := lam_val hu hdef hc
        obtain rfl := Option.some.inj (htc.symm.trans htbl)
        have hg : ∀ c, c ∈ rowsVia sch db root r (path ++ [coll]) → evalSaPlan sch db [] rel.dst c pb = some (g c) :=
          fun c hcm => (IH c (hrows c hcm).1 (by rw [(hrows c hcm).2]; rfl) [] fun _ h => h).trans (hrows c hcm).2
        rw [hval]
        cases op with
        | any => exact evalSa_exists joins hg
        | all => exact evalSa_notExistsNot joins hg
    | leaf e hl =>
      obtain ⟨b, hb, rfl⟩ := elabRAux_leaf_some hl he
      obtain ⟨b', hb', rfl, rfl⟩ := saPlanAux_leaf_ok hl hp
      obtain rfl := Option.some.inj (hb.symm.trans hb')
      rw [evalSaPlan, if_pos (List.all_eq_true.2 fun x hx => List.contains_iff_mem.2 (hj x hx))]; rfl

theorem agree_core (sch : Schema) (kindOf : Str → Option ColK) (db : DB) (hs : SchOk sch) (hd : IdsOk db) :
    ∀ (fuel : Nat) (root : Str) (e : Expr) (p : Plan) (j : List (List Str)) (q : Plan),
      djPlan sch kindOf fuel root e = .ok p → saPlanAux sch kindOf fuel root e = .ok (j, q) →
      ∀ r, r ∈ db.table root → ∀ joins : List (List Str), (∀ x, x ∈ j → x ∈ joins) →
        evalSaPlan sch db joins root r q = some (evalDjPlan sch db root r p) := by
  intro fuel
  induction fuel with
  | zero => intro root e p j q hp; cases hp
  | succ fuel ih =>
    intro root e p j q hp hq r hr joins hj
    cases e using shape_cases with
    | bool o l x =>
      obtain ⟨pa, pb, h1, h2, rfl⟩ := djPlan_boolop_ok hp
      obtain ⟨ja, qa, jb, qb, h3, h4, rfl, rfl⟩ := saPlanAux_boolop_ok hq
      rw [evalSa_bin, ih root l pa ja qa h1 h3 r hr joins fun x hx => hj x (List.mem_append_left _ hx),
        ih root x pb jb qb h2 h4 r hr joins fun x hx => hj x (List.mem_append_right _ hx), evalDj_bin]
      rfl
    | not x =>
      obtain ⟨pa, h1, rfl⟩ := djPlan_not_ok hp
      obtain ⟨qa, h3, rfl⟩ := saPlanAux_not_ok hq
      rw [evalSaPlan, ih root x pa j qa h1 h3 r hr joins hj]
      rfl
    | coll ow op lam =>
      obtain ⟨segs, back, child, hsegs, hrev, hlamD⟩ := djPlan_coll_ok hp
      obtain ⟨path, coll, tbl, rel, how, htm, hrel, hlamS⟩ := saPlanAux_coll_ok hq
      obtain rfl := Option.some.inj (hsegs.symm.trans (ownerOf_none ow path coll how))
      have htc := (reverse_tbl sch hs root _ back child hrev).1
      obtain rfl := Option.some.inj (htc.symm.trans (tblVia_snoc (toOneVia_tblVia sch root tbl path htm) hrel))
      cases lam with
      | none =>
        obtain ⟨_, rfl⟩ := hlamD
        obtain ⟨_, rfl⟩ := hlamS
        rw [evalDj_exists_none hs hd hrev hr]; rfl
      | some v body =>
        obtain ⟨pb, hpb, rfl⟩ := hlamD
        obtain ⟨qb, hqb, rfl⟩ := hlamS
        have hvs : ∀ c, c ∈ rowsVia sch db root r (path ++ [coll]) →
            evalSaPlan sch db [] rel.dst c qb = some (evalDjPlan sch db rel.dst c pb) :=
          fun c hcm => ih rel.dst _ pb [] qb hpb hqb c (rowsVia_sub sch db root rel.dst r c _ htc hr hcm) [] fun _ h => h
        cases op with
        | any => exact (evalSa_exists joins hvs).trans (congrArg some (evalDj_exists hs hd hrev hr fun _ _ => rfl).symm)
        | all => exact (evalSa_notExistsNot joins hvs).trans (congrArg some (evalDj_notExistsNot hs hd hrev hr fun _ _ => rfl).symm)
    | leaf e hl =>
      obtain ⟨b, hb, rfl⟩ := djPlan_leaf_ok hl hp
      obtain ⟨b', hb', rfl, rfl⟩ := saPlanAux_leaf_ok hl hq
      obtain rfl := Option.some.inj (hb.symm.trans hb')
      rw [evalSaPlan, if_pos (List.all_eq_true.2 fun x hx => List.contains_iff_mem.2 (hj x hx))]; rfl

theorem bin_isSome {t : Str} {r : Row} (o : BoolOp) {x y : RCond} (hx : (evalR sch db t r x).isSome = true)
    (hy : (evalR sch db t r y).isSome = true) : (evalR sch db t r (rcBin o x y)).isSome = true := by
  obtain ⟨a, ha⟩ := Option.isSome_iff_exists.1 hx
  obtain ⟨b, hb⟩ := Option.isSome_iff_exists.1 hy
  rw [evalR_bin, ha, hb]; rfl

theorem lam_isSome {t t' : Str} {r : Row} {path : List Str} {coll : Str} {body f : RCond}
    (hf : f = .any path coll body ∨ f = .all path coll body) (hct : collTarget sch t path coll = some t')
    (ih : ∀ c, (evalR sch db t' c body).isSome = true) : (evalR sch db t r f).isSome = true := by
  rw [← collRows_fst sch db t r path coll] at hct
  obtain ⟨⟨t'', rows⟩, hcr, h⟩ := Option.map_eq_some_iff.1 hct
  obtain rfl : t'' = t' := h
  have hn : ((rows.map fun c => evalR sch db t'' c body).any (· == none)) = false :=
    List.any_eq_false.2 fun v hv => by
      obtain ⟨c, _, rfl⟩ := List.mem_map.1 hv
      cases h : evalR sch db t'' c body with
      | none => have := ih c; rw [h] at this; cases this
      | some _ => simp
  rcases hf with rfl | rfl <;> simp only [evalR, hcr, hn, Bool.false_eq_true, if_false, Option.isSome_some]

theorem relTyped_isSome (sch : Schema) (db : DB) (f : RCond) : ∀ (t : Str) (r : Row),
    relTyped sch t f = true → (evalR sch db t r f).isSome = true := by
  induction f with
  | scalar b => exact fun _ _ _ => rfl
  | and x y ihx ihy =>
    intro t r h
    simp only [relTyped, Bool.and_eq_true] at h
    exact bin_isSome .and_ (ihx t r h.1) (ihy t r h.2)
  | or x y ihx ihy =>
    intro t r h
    simp only [relTyped, Bool.and_eq_true] at h
    exact bin_isSome .or_ (ihx t r h.1) (ihy t r h.2)
  | not x ih =>
    intro t r h
    simp only [evalR, Option.isSome_map]
    exact ih t r h
  | nonEmpty path coll =>
    intro t r h
    simpa only [relTyped, evalR, ← collRows_fst sch db t r path coll, Option.isSome_map] using h
  | any path coll body ih =>
    intro t r h
    simp only [relTyped] at h
    cases hct : collTarget sch t path coll with
    | none => simp [hct] at h
    | some t' => rw [hct] at h; exact lam_isSome (.inl rfl) hct fun c => ih t' c h
  | all path coll body ih =>
    intro t r h
    simp only [relTyped] at h
    cases hct : collTarget sch t path coll with
    | none => simp [hct] at h
    | some t' => rw [hct] at h; exact lam_isSome (.inr rfl) hct fun c => ih t' c h

theorem v3_not_eq_tt (x : V3) : (V3.not x == V3.tt) = (x == V3.ff) := by cases x <;> rfl

end OQ.RelSound
