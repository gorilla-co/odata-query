/- For C12 on the raw SQL dialects: every step of the visitor model ends in a value or a library exception,
   given that duration literals unpack and that calls fit the handlers' signatures. -/
import ODataVerif.Model.Sql
import ODataVerif.Spec.RefPrinter
import ODataVerif.Lemmas.SqlAlias
namespace OQ.SqlTotal
open Spec SqlAlias SqlModel

/-- a value or one of the library's exceptions — not a foreign error, not NotImplementedError -/
def clean {α} : Outcome α → Bool
  | .ok _ | .lib _ => true
  | _ => false

theorem clean_bind {α β} (x : Outcome α) (f : α → Outcome β) (hx : clean x = true)
    (hf : ∀ a, clean (f a) = true) : clean (x >>= f) = true := by
  cases x with
  | ok a => exact hf a
  | lib e => rfl
  | notImplemented => cases hx
  | foreign c => cases hx

theorem selectTpl_clean (d key tys) : clean (selectTpl d key tys) = true := by
  have h := SqlModel.selectTpl_listed d key tys
  cases hs : selectTpl d key tys <;> first | rfl | (rw [hs] at h; exact h.elim)

/-- every duration literal of the tree unpacks (what the lexer's DURATION rule guarantees) -/
def durLitOk (isD : Char → Bool) (k : LitKind) (v : Str) : Bool :=
  match k with
  | .duration => (durUnpack isD v).isSome
  | _ => true

mutual
def durOk (isD : Char → Bool) : Expr → Bool
  | .ident _ => true
  | .attr o _ => durOk isD o
  | .lit k v => durLitOk isD k v
  | .list xs => durOkList isD xs
  | .binop _ l r => durOk isD l && durOk isD r
  | .compare _ l r => durOk isD l && durOk isD r
  | .boolop _ l r => durOk isD l && durOk isD r
  | .unary _ e => durOk isD e
  | .named _ e => durOk isD e
  | .call _ args => durOkList isD args
  | .coll o _ l => durOk isD o && durOkLam isD l
def durOkList (isD : Char → Bool) : Exprs → Bool
  | .nil => true
  | .cons h t => durOk isD h && durOkList isD t
def durOkLam (isD : Char → Bool) : OptLam → Bool
  | .none => true
  | .some _ b => durOk isD b
end

theorem litPieces_clean (isD d k v) (h : durLitOk isD k v = true) : clean (litPieces isD d k v) = true := by
  cases k <;> simp only [litPieces]
  case duration =>
    rw [durationPieces_eq]
    simp only [durLitOk] at h
    cases hu : durUnpack isD v with
    | none => simp [hu] at h
    | some p =>
      dsimp only
      split <;> rfl
  case bool | date | time => split <;> rfl
  case datetime => cases d <;> rfl
  all_goals rfl

def preClean (d : Dialect) (key : String) (n : Nat) : Bool :=
  match preCheck d key n with
  | some o => clean o
  | none => true

/-- finite check: for every function of the OData table, every admissible argument count and every dialect,
    the handler selected for its lower-cased name accepts that many arguments -/
def arityTable : Bool :=
  builtins.all (fun e =>
    dialects.all (fun d =>
      (List.range (e.2.2 + 1)).all (fun n =>
        decide (n < e.2.1) || preClean d (String.ofList (pyLower (funcKey ⟨e.1.toList, []⟩))) n)))

theorem arityTable_holds : arityTable = true := by decide +kernel

theorem preClean_of_callOk (d : Dialect) (f : Ident) (n : Nat) (hns : f.ns = []) (h : callOk f n = true) :
    preClean d (String.ofList (pyLower (funcKey f))) n = true := by
  obtain ⟨name, ns⟩ := f
  subst hns
  have hsp : spellIdent ⟨name, []⟩ = name := rfl
  simp only [callOk, true_or, ↓reduceIte, hsp, arity] at h
  cases he : builtins.find? (fun e => e.1.toList == name) with
  | none => rw [he] at h; cases h
  | some e =>
    obtain ⟨nm, lo, hi⟩ := e
    rw [he] at h
    have hname : nm.toList = name := by simpa using List.find?_some he
    simp only [Bool.and_eq_true, decide_eq_true_eq] at h
    have h3 := List.all_eq_true.mp (List.all_eq_true.mp (List.all_eq_true.mp arityTable_holds _
      (List.mem_of_find?_eq_some he)) d (mem_dialects d)) n (List.mem_range.mpr (Nat.lt_succ_of_le h.2))
    have hlt : decide (n < lo) = false := decide_eq_false (by omega)
    rw [hlt, Bool.false_or, hname] at h3
    exact h3

/-- a namespaced call never reaches a handler: every handler name is letters only, the key contains `__` -/
theorem key_underscore (f : Ident) (h : f.ns ≠ []) : '_' ∈ pyLower (funcKey f) := by
  unfold funcKey pyLower
  rw [List.mem_map]
  refine ⟨'_', ?_, by decide⟩
  rw [List.mem_flatMap]
  refine ⟨'.', ?_, by simp⟩
  cases hn : f.ns with
  | nil => exact absurd hn h
  | cons a r =>
    have : ∀ (x : Str) (rest : List Str), rest ≠ [] → '.' ∈ joinWith ['.'] (x :: rest) := by
      intro x rest hr
      cases rest with
      | nil => exact absurd rfl hr
      | cons y ys => simp [joinWith]
    exact this a (r ++ [f.name]) (by simp)

theorem handlers_no_underscore : ∀ h ∈ sqlHandlers, '_' ∉ h.toList := by decide +kernel

theorem not_handler_of_ns (f : Ident) (h : f.ns ≠ []) :
    sqlHandlers.contains (String.ofList (pyLower (funcKey f))) = false := by
  apply Bool.eq_false_iff.mpr
  intro hc
  rw [List.contains_iff_mem] at hc
  have := handlers_no_underscore _ hc
  simp only [String.toList_ofList] at this
  exact this (key_underscore f h)

end OQ.SqlTotal
