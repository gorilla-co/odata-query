/- One walk over the ten parser functions for two runs of the parser: on a token list and on a rewriting `g` of it that
   the parser cannot tell apart (`ParseSim`: every token keeps its kind, only literal payloads may change, a WS token may
   appear directly behind a unary minus), with the trees related by a map `N` that the grammar actions commute with.
   `ParseSim.inv`: a successful run carries over (value `N x`, rest `g r`); if `g` keeps lengths (`strict`), so does a
   failing one, with the same error.  Lemmas/ParseSep.lean and Lemmas/ParseNorm.lean are instances. -/
import ODataVerif.Model.Parser
namespace OQ

def Tok.plain : Tok → Bool
  | .uminus | .lit _ _ => false
  | _ => true

def mapO (N : Expr → Expr) : Outcome Expr → Outcome Expr
  | .ok e => .ok (N e)
  | .lib x => .lib x
  | .notImplemented => .notImplemented
  | .foreign c => .foreign c

theorem mapO_id (o : Outcome Expr) : mapO id o = o := by cases o <;> rfl

structure ParseSim (strict : Prop) where
  g : List Tok → List Tok
  N : Expr → Expr
  Ns : Exprs → Exprs
  Nl : OptLam → OptLam
  nil : g [] = []
  plain : ∀ t r, t.plain = true → g (t :: r) = t :: g r
  lit : ∀ k v r, ∃ v', g (.lit k v :: r) = .lit k v' :: g r ∧ N (.lit k v) = .lit k v'
  /-- what `parsePrefix` reads behind a unary minus does not change -/
  uminus : ∀ r, ∃ tl, g (.uminus :: r) = .uminus :: tl ∧ skipWs tl = g (skipWs r)
  len : strict → ∀ ts, (g ts).length = ts.length
  ident : ∀ i, N (.ident i) = .ident i
  unary : ∀ o e, N (.unary o e) = .unary o (N e)
  binop : ∀ o l r, N (.binop o l r) = .binop o (N l) (N r)
  boolop : ∀ o l r, N (.boolop o l r) = .boolop o (N l) (N r)
  compare : ∀ o l r, N (.compare o l r) = .compare o (N l) (N r)
  list : ∀ xs, N (.list xs) = .list (Ns xs)
  named : ∀ n e, N (.named n e) = .named n (N e)
  coll : ∀ i op l, N (.coll (.ident i) op l) = .coll (.ident i) op (Nl l)
  lamNone : Nl .none = .none
  lamSome : ∀ v b, Nl (.some v b) = .some v (N b)
  nilS : Ns .nil = .nil
  snoc : ∀ xs e, Ns (xs.snoc e) = (Ns xs).snoc (N e)
  call : ∀ i args, functionCall i (Ns args) = mapO N (functionCall i args)
  path : ∀ i tail, pathCons i (N tail) = mapO N (pathCons i tail)

namespace ParseSim
variable {strict : Prop} (S : ParseSim strict) {α β : Type}

def Kind (t t' : Tok) : Prop := t = t' ∨ ∃ k v v', t = .lit k v ∧ t' = .lit k v'

theorem head (t : Tok) (r : List Tok) :
    ∃ t' r', S.g (t :: r) = t' :: r' ∧ Kind t t' ∧ (t.plain = true → r' = S.g r) ∧ (strict → r'.length = r.length) := by
  have hl : strict → ∀ t' r', S.g (t :: r) = t' :: r' → r'.length = r.length := fun hs t' r' e => by
    have := S.len hs (t :: r); rw [e] at this; exact Nat.succ.inj this
  by_cases hp : t.plain = true
  · exact ⟨_, _, S.plain t r hp, .inl rfl, fun _ => rfl, fun hs => hl hs _ _ (S.plain t r hp)⟩
  · cases t with
    | uminus => obtain ⟨tl, e, _⟩ := S.uminus r; exact ⟨_, _, e, .inl rfl, nofun, fun hs => hl hs _ _ e⟩
    | lit k v =>
      obtain ⟨v', e, _⟩ := S.lit k v r
      exact ⟨_, _, e, .inr ⟨k, v, v', rfl, rfl⟩, nofun, fun hs => hl hs _ _ e⟩
    | _ => exact absurd rfl hp

theorem head_ne {t0 : Tok} (h0 : ∀ k v, t0 ≠ .lit k v) {ts : List Tok} (h : ∀ r, ts ≠ t0 :: r) : ∀ r, S.g ts ≠ t0 :: r := by
  intro r e
  cases ts with
  | nil => rw [S.nil] at e; cases e
  | cons u r0 =>
    obtain ⟨t', r', e', hk, -, _⟩ := S.head u r0
    rw [e'] at e
    obtain ⟨rfl, rfl⟩ := List.cons.inj e
    rcases hk with rfl | ⟨k, v, v', _, e2⟩
    · exact h r0 rfl
    · exact h0 _ _ e2

theorem skip (ts : List Tok) : skipWs (S.g ts) = S.g (skipWs ts) := by
  cases ts with
  | nil => show skipWs (S.g []) = S.g []; rw [S.nil]; rfl
  | cons t r =>
    obtain ⟨t', r', e, hk, -, _⟩ := S.head t r
    rcases hk with rfl | ⟨k, v, v', rfl, rfl⟩
    · cases t with
      | ws => rw [S.plain .ws r rfl]; rfl
      | _ => rw [e]; exact e.symm
    · rw [e]; exact e.symm

theorem one (e : Expr) : S.Ns (.cons e .nil) = .cons (S.N e) .nil := by
  have := S.snoc .nil e
  rw [S.nilS] at this
  exact this

def Rel (n : α → α) (p q : Except PErr (α × List Tok)) : Prop :=
  match p with
  | .ok (a, r) => q = .ok (n a, S.g r)
  | .error e => strict → q = .error e

variable {S}

namespace Rel

theorem ok {n : α → α} {a : α} {r : List Tok} {q : Except PErr (α × List Tok)} (h : q = .ok (n a, S.g r)) :
    S.Rel n (.ok (a, r)) q := h

theorem bind {n : α → α} {n' : β → β} {p q : Except PErr (α × List Tok)}
    {k k' : α × List Tok → Except PErr (β × List Tok)}
    (h : S.Rel n p q) (hk : ∀ x r, S.Rel n' (k (x, r)) (k' (n x, S.g r))) : S.Rel n' (p >>= k) (q >>= k') := by
  cases p with
  | error e => exact fun hs => by rw [h hs]; rfl
  | ok a => have e : q = _ := h; rw [e]; exact hk a.1 a.2

theorem fail {n : α → α} {t u : Tok} {r r' : List Tok} (hl : strict → r'.length = r.length) :
    S.Rel n (.error (failAt false (t :: r))) (.error (failAt false (u :: r'))) :=
  fun hs => by simp only [failAt, List.length_cons, hl hs]

end Rel

theorem rel_failAt {n : α → α} (ts : List Tok) : S.Rel n (.error (failAt false ts)) (.error (failAt false (S.g ts))) := by
  cases ts with
  | nil => rw [S.nil]; exact fun _ => rfl
  | cons t r => obtain ⟨t', r', e, -, -, hl⟩ := S.head t r; rw [e]; exact Rel.fail hl

theorem rel_liftOutcome (o : Outcome Expr) (rest : List Tok) :
    S.Rel S.N (liftOutcome o rest) (liftOutcome (mapO S.N o) (S.g rest)) := by
  cases o with
  | ok a => exact Rel.ok rfl
  | _ => exact fun _ => rfl

theorem rel_finishCall (i : Ident) (args : Exprs) (rest : List Tok) :
    S.Rel S.N (finishCall false i args rest) (finishCall false i (S.Ns args) (S.g rest)) := by
  cases rest with
  | nil =>
    have := rel_liftOutcome (S := S) (functionCall i args) []
    rw [S.nil, ← S.call] at this
    rw [S.nil]
    exact this
  | cons t r0 =>
    obtain ⟨t', r', e, hk, -, hl⟩ := S.head t r0
    have := rel_liftOutcome (S := S) (functionCall i args) (t :: r0)
    rw [e, ← S.call] at this
    rw [e]
    have hf : isFollow t' = isFollow t := by
      rcases hk with rfl | ⟨k, v, v', rfl, rfl⟩ <;> rfl
    simp only [finishCall, hf]
    split
    · exact this
    · exact fun hs => by rw [List.length_cons, List.length_cons, hl hs]

theorem rel_close {n : α → α} {A B A' B' : List Tok → Except PErr (α × List Tok)}
    (hA : ∀ r, S.Rel n (A r) (A' (S.g r))) (hB : ∀ r, S.Rel n (B r) (B' (S.g r))) (y : List Tok) :
    S.Rel n (match y with | .rp :: r => A r | .comma :: r => B r | r => .error (failAt false r))
      (match S.g y with | .rp :: r => A' r | .comma :: r => B' r | r => .error (failAt false r)) := by
  cases y with
  | nil => rw [S.nil]; exact fun _ => rfl
  | cons t y0 =>
    obtain ⟨t', r', e, hk, hp, hl⟩ := S.head t y0
    rw [e]
    rcases hk with rfl | ⟨k, v, v', rfl, rfl⟩
    · cases t with
      | rp => cases hp rfl; exact hA _
      | comma => cases hp rfl; exact hB _
      | _ => exact Rel.fail hl
    · exact Rel.fail hl

theorem rel_rpOr {n : α → α} {A B A' B' : List Tok → Except PErr (α × List Tok)}
    (hA : ∀ r, S.Rel n (A r) (A' (S.g r))) (hB : ∀ r, S.Rel n (B r) (B' (S.g r))) (z : List Tok) :
    S.Rel n (match z with | .rp :: r => A r | r => B r) (match S.g z with | .rp :: r => A' r | r => B' r) := by
  cases z with
  | nil => have := hB []; rw [S.nil] at this ⊢; exact this
  | cons t z0 =>
    obtain ⟨t', r', e, hk, hp, -⟩ := S.head t z0
    have hb := hB (t :: z0)
    rw [e] at hb ⊢
    rcases hk with rfl | ⟨k, v, v', rfl, rfl⟩
    · cases t with
      | rp => cases hp rfl; exact hA z0
      | _ => exact hb
    · exact hb

theorem rel_expectRp (x : Expr) (ts : List Tok) :
    S.Rel S.N (do let r3 ← expectRp false ts; pure (x, r3)) (do let r3 ← expectRp false (S.g ts); pure (S.N x, r3)) := by
  cases ts with
  | nil => rw [S.nil]; exact fun _ => rfl
  | cons t r0 =>
    obtain ⟨t', r', e, hk, hp, hl⟩ := S.head t r0
    rw [e]
    rcases hk with rfl | ⟨k, v, v', rfl, rfl⟩
    · cases t with
      | rp => cases hp rfl; exact Rel.ok rfl
      | _ => exact Rel.fail hl
    · exact Rel.fail hl

structure Inv (S : ParseSim strict) (f : Nat) : Prop where
  expr : ∀ m ts, S.Rel S.N (parseExpr false f m ts) (parseExpr false f m (S.g ts))
  loop : ∀ m lhs ts, S.Rel S.N (parseLoop false f m lhs ts) (parseLoop false f m (S.N lhs) (S.g ts))
  pre : ∀ ts, S.Rel S.N (parsePrefix false f ts) (parsePrefix false f (S.g ts))
  paren : ∀ ts, S.Rel S.N (parseParen false f ts) (parseParen false f (S.g ts))
  items : ∀ acc ts, S.Rel S.Ns (parseItems false f acc ts) (parseItems false f (S.Ns acc) (S.g ts))
  listE : ∀ ts, S.Rel S.N (parseListExpr false f ts) (parseListExpr false f (S.g ts))
  callArgs : ∀ i ts, S.Rel S.N (parseCallArgs false f i ts) (parseCallArgs false f i (S.g ts))
  namedRest : ∀ i acc ts, S.Rel S.N (parseNamedRest false f i acc ts) (parseNamedRest false f i (S.Ns acc) (S.g ts))
  path : ∀ i ts, S.Rel S.N (parsePath false f i ts) (parsePath false f i (S.g ts))
  lam : ∀ ts, S.Rel S.Nl (parseLambda false f ts) (parseLambda false f (S.g ts))

theorem inv_zero : S.Inv 0 := by
  constructor <;> intros <;> exact fun _ => rfl

theorem step_expr {f : Nat} (ih : S.Inv f) (m ts) :
    S.Rel S.N (parseExpr false (f+1) m ts) (parseExpr false (f+1) m (S.g ts)) := by
  simp only [parseExpr]
  exact (ih.pre ts).bind fun lhs r => ih.loop m lhs r

section step
variable {f : Nat} (ih : S.Inv f)
include ih

theorem rel_operator {m l : Nat} {lhs : Expr} (t : Tok) (ht : t.plain = true) (r0 : List Tok) (mk : Expr → Expr → Expr)
    (hmk : ∀ a b, S.N (mk a b) = mk (S.N a) (S.N b)) {p p' : Except PErr (Expr × List Tok)} (hp : S.Rel S.N p p') :
    S.Rel S.N (if l ≥ m then (do let (rhs, r') ← p; parseLoop false f m (mk lhs rhs) r') else .ok (lhs, t :: r0))
      (if l ≥ m then (do let (rhs, r') ← p'; parseLoop false f m (mk (S.N lhs) rhs) r') else .ok (S.N lhs, t :: S.g r0)) := by
  split
  · refine hp.bind fun rhs r' => ?_
    dsimp only
    rw [← hmk]; exact ih.loop m _ r'
  · exact Rel.ok (by rw [S.plain t r0 ht])

theorem step_loop (m lhs ts) :
    S.Rel S.N (parseLoop false (f+1) m lhs ts) (parseLoop false (f+1) m (S.N lhs) (S.g ts)) := by
  cases ts with
  | nil => exact Rel.ok (by rw [S.nil]; rfl)
  | cons t r0 =>
    obtain ⟨t', r', e, hk, -, _⟩ := S.head t r0
    rcases hk with rfl | ⟨k, v, v', rfl, rfl⟩
    · cases t with
      | bool o =>
        rw [S.plain (.bool o) _ rfl]
        exact rel_operator ih (.bool o) rfl r0 (.boolop o) (S.boolop o) (ih.expr _ r0)
      | arith o =>
        rw [S.plain (.arith o) _ rfl]
        exact rel_operator ih (.arith o) rfl r0 (.binop o) (S.binop o) (ih.expr _ r0)
      | cmp o =>
        rw [S.plain (.cmp o) _ rfl]
        by_cases ho : o = .in_
        · subst ho
          exact rel_operator ih (.cmp .in_) rfl r0 (.compare .in_) (S.compare .in_) (ih.listE r0)
        · rw [parseLoop.eq_4 _ _ _ _ _ _ ho, parseLoop.eq_4 _ _ _ _ _ _ ho]
          exact rel_operator ih (.cmp o) rfl r0 (.compare o) (S.compare o) (ih.expr _ r0)
      | _ => exact Rel.ok (by rw [e]; rfl)
    · exact Rel.ok (by rw [e]; rfl)

theorem step_pre (ts) : S.Rel S.N (parsePrefix false (f+1) ts) (parsePrefix false (f+1) (S.g ts)) := by
  cases ts with
  | nil => rw [S.nil]; exact fun _ => rfl
  | cons t r0 =>
    cases t with
    | not_ =>
      rw [S.plain .not_ _ rfl]
      refine (ih.expr _ r0).bind fun e r' => Rel.ok ?_
      rw [S.unary]; rfl
    | uminus =>
      obtain ⟨tl, e, hsk⟩ := S.uminus r0
      rw [e]
      simp only [parsePrefix]
      rw [hsk]
      refine (ih.expr _ _).bind fun e r' => Rel.ok ?_
      rw [S.unary]; rfl
    | lit k v =>
      obtain ⟨v', e, hn⟩ := S.lit k v r0
      rw [e]; exact Rel.ok (by rw [hn]; rfl)
    | lp =>
      rw [S.plain .lp _ rfl]
      simp only [parsePrefix]
      rw [S.skip]
      exact ih.paren _
    | ident i =>
      rw [S.plain (.ident i) _ rfl]
      by_cases h1 : ∃ r1, r0 = .lp :: r1
      · obtain ⟨r1, rfl⟩ := h1
        rw [S.plain .lp _ rfl]
        by_cases h2 : ∃ r2, r1 = .rp :: r2
        · obtain ⟨r2, rfl⟩ := h2
          rw [S.plain .rp _ rfl]
          have := rel_finishCall (S := S) i .nil r2
          rw [S.nilS] at this
          exact this
        · have h2' : ∀ r', r1 ≠ .rp :: r' := fun r' he => h2 ⟨r', he⟩
          rw [parsePrefix.eq_7 _ _ _ _ h2', parsePrefix.eq_7 _ _ _ _ (S.head_ne (t0 := .rp) (fun _ _ => nofun) h2'), S.skip]
          exact ih.callArgs _ _
      · have h1' : ∀ r', r0 ≠ .lp :: r' := fun r' he => h1 ⟨r', he⟩
        have h1'' := S.head_ne (t0 := .lp) (fun _ _ => nofun) h1'
        rw [parsePrefix.eq_8 _ _ _ _ (fun _ => h1' _) h1', parsePrefix.eq_8 _ _ _ _ (fun _ => h1'' _) h1'']
        exact ih.path _ _
    | _ => rw [S.plain _ r0 rfl]; exact Rel.fail fun hs => S.len hs r0

theorem step_items (acc ts) :
    S.Rel S.Ns (parseItems false (f+1) acc ts) (parseItems false (f+1) (S.Ns acc) (S.g ts)) := by
  simp only [parseItems]
  refine (ih.expr 0 ts).bind fun e r => ?_
  rw [S.skip, ← S.snoc]
  exact rel_close (fun r' => Rel.ok rfl) (fun r' => by rw [S.skip]; exact ih.items _ _) _

theorem rel_afterComma (e : Expr) (k k' : Exprs → List Tok → Except PErr (Expr × List Tok))
    (hk : ∀ items r, S.Rel S.N (k items r) (k' (S.Ns items) (S.g r))) (z : List Tok) :
    S.Rel S.N (match z with
        | .rp :: r'' => k (.cons e .nil) r''
        | r'' => do
            let (items, r3) ← parseItems false f (.cons e .nil) r''
            k items r3)
      (match S.g z with
        | .rp :: r'' => k' (.cons (S.N e) .nil) r''
        | r'' => do
            let (items, r3) ← parseItems false f (.cons (S.N e) .nil) r''
            k' items r3) := by
  refine rel_rpOr (fun r => ?_) (fun z => ?_) z
  · rw [← S.one]; exact hk _ r
  · rw [← S.one]; exact (ih.items _ z).bind fun items r3 => hk items r3

theorem step_paren (ts) : S.Rel S.N (parseParen false (f+1) ts) (parseParen false (f+1) (S.g ts)) := by
  simp only [parseParen]
  refine (ih.expr 0 ts).bind fun e r => ?_
  rw [S.skip]
  refine rel_close (fun r' => Rel.ok rfl) (fun r' => ?_) _
  rw [S.skip]
  exact rel_afterComma ih e (fun items r => pure (.list items, r)) (fun items r => pure (.list items, r))
    (fun items r => Rel.ok (by rw [S.list]; rfl)) _

theorem step_listE (ts) : S.Rel S.N (parseListExpr false (f+1) ts) (parseListExpr false (f+1) (S.g ts)) := by
  by_cases h : ∃ r0, ts = .lp :: r0
  · obtain ⟨r0, rfl⟩ := h
    rw [S.plain .lp _ rfl]
    simp only [parseListExpr]
    rw [S.skip]
    refine (ih.expr 0 _).bind fun e r1 => ?_
    rw [S.skip]
    generalize skipWs r1 = y
    cases y with
    | nil => rw [S.nil]; exact fun _ => rfl
    | cons t y0 =>
      obtain ⟨t', r', e', hk, hp, hl⟩ := S.head t y0
      rw [e']
      rcases hk with rfl | ⟨k, v, v', rfl, rfl⟩
      · cases t with
        | comma =>
          cases hp rfl
          simp only []
          rw [S.skip]
          exact rel_afterComma ih e (fun items r => pure (.list items, r)) (fun items r => pure (.list items, r))
            (fun items r => Rel.ok (by rw [S.list]; rfl)) _
        | _ => exact Rel.fail hl
      · exact Rel.fail hl
  · have h' : ∀ r0, ts ≠ .lp :: r0 := fun r0 e => h ⟨r0, e⟩
    rw [parseListExpr.eq_3 _ _ _ h', parseListExpr.eq_3 _ _ _ (S.head_ne (t0 := .lp) (fun _ _ => nofun) h')]
    exact rel_failAt ts

theorem step_lam (ts) : S.Rel S.Nl (parseLambda false (f+1) ts) (parseLambda false (f+1) (S.g ts)) := by
  by_cases h : ∃ v r0, ts = .ident v :: r0
  · obtain ⟨v, r0, rfl⟩ := h
    rw [S.plain (.ident v) _ rfl]
    simp only [parseLambda]
    rw [S.skip]
    generalize skipWs r0 = y
    cases y with
    | nil => rw [S.nil]; exact fun _ => rfl
    | cons t y0 =>
      obtain ⟨t', r', e', hk, hp, hl⟩ := S.head t y0
      rw [e']
      rcases hk with rfl | ⟨k, v, v', rfl, rfl⟩
      · cases t with
        | colon =>
          cases hp rfl
          simp only []
          rw [S.skip]
          exact (ih.expr 0 _).bind fun b r'' => Rel.ok (by rw [S.lamSome]; rfl)
        | _ => exact Rel.fail hl
      · exact Rel.fail hl
  · have h' : ∀ v r0, ts = .ident v :: r0 → False := fun v r0 e => h ⟨v, r0, e⟩
    rw [parseLambda.eq_3 _ _ _ h', parseLambda.eq_3 _ _ _ fun v r0 e =>
      S.head_ne (t0 := .ident v) (fun _ _ => nofun) (fun r e' => h' v r e') r0 e]
    exact rel_failAt ts

theorem step_namedRest (i acc ts) :
    S.Rel S.N (parseNamedRest false (f+1) i acc ts) (parseNamedRest false (f+1) i (S.Ns acc) (S.g ts)) := by
  simp only [parseNamedRest]
  rw [S.skip]
  refine rel_close (fun r => rel_finishCall i acc r) (fun r => ?_) _
  rw [S.skip]
  generalize skipWs r = z
  cases z with
  | nil => rw [S.nil]; exact fun _ => rfl
  | cons t1 z0 =>
    obtain ⟨t', r', e', hk, hp, hl⟩ := S.head t1 z0
    rw [e']
    rcases hk with rfl | ⟨k, v, v', rfl, rfl⟩
    · cases t1 with
      | ident n =>
        cases hp rfl
        cases z0 with
        | nil => rw [S.nil]; exact fun _ => rfl
        | cons t2 z1 =>
          obtain ⟨t2', r2', e2, hk2, hp2, hl2⟩ := S.head t2 z1
          rw [e2]
          rcases hk2 with rfl | ⟨k, v, v', rfl, rfl⟩
          · cases t2 with
            | eqs =>
              cases hp2 rfl
              refine (ih.expr 0 z1).bind fun e r1 => ?_
              have := ih.namedRest i (acc.snoc (.named n e)) r1
              rw [S.snoc, S.named] at this
              exact this
            | _ => exact Rel.fail hl2
          · exact Rel.fail hl2
      | _ => exact Rel.fail hl
    · exact Rel.fail hl

theorem rel_lamTail (i : Ident) (op : CollOp) (z : List Tok) :
    S.Rel S.N (do let (lam, r2) ← parseLambda false f z
                  let r3 ← expectRp false (skipWs r2)
                  pure (Expr.coll (.ident i) op lam, r3))
      (do let (lam, r2) ← parseLambda false f (S.g z)
          let r3 ← expectRp false (skipWs r2)
          pure (Expr.coll (.ident i) op lam, r3)) := by
  refine (ih.lam z).bind fun lam r2 => ?_
  dsimp only
  rw [S.skip, ← S.coll]
  exact rel_expectRp _ _

theorem step_path (i ts) : S.Rel S.N (parsePath false (f+1) i ts) (parsePath false (f+1) i (S.g ts)) := by
  by_cases hs : ∃ r0, ts = .slash :: r0
  · obtain ⟨r0, rfl⟩ := hs
    rw [S.plain .slash _ rfl]
    cases r0 with
    | nil => rw [S.nil]; exact fun _ => rfl
    | cons t r1 =>
      obtain ⟨t', r', e', hk, hp, hl⟩ := S.head t r1
      rw [e']
      rcases hk with rfl | ⟨k, v, v', rfl, rfl⟩
      · cases t with
        | ident j =>
          cases hp rfl
          simp only [parsePath]
          refine (ih.path j r1).bind fun tail r' => ?_
          rw [S.path]; exact rel_liftOutcome _ _
        | any =>
          cases hp rfl
          by_cases h : ∃ r2, r1 = .lp :: r2
          · obtain ⟨r2, rfl⟩ := h
            rw [S.plain .lp _ rfl]
            simp only [parsePath]
            rw [S.skip]
            exact rel_rpOr (fun _ => Rel.ok (by rw [S.coll, S.lamNone]; rfl)) (rel_lamTail ih i .any) _
          · have h' : ∀ r2, r1 ≠ .lp :: r2 := fun r2 e => h ⟨r2, e⟩
            rw [parsePath.eq_5 _ _ _ _ h', parsePath.eq_5 _ _ _ _ (S.head_ne (t0 := .lp) (fun _ _ => nofun) h')]
            exact rel_failAt r1
        | all =>
          cases hp rfl
          by_cases h : ∃ r2, r1 = .lp :: r2
          · obtain ⟨r2, rfl⟩ := h
            rw [S.plain .lp _ rfl]
            simp only [parsePath]
            rw [S.skip]
            exact rel_lamTail ih i .all _
          · have h' : ∀ r2, r1 ≠ .lp :: r2 := fun r2 e => h ⟨r2, e⟩
            rw [parsePath.eq_6 _ _ _ _ h', parsePath.eq_6 _ _ _ _ (S.head_ne (t0 := .lp) (fun _ _ => nofun) h')]
            exact rel_failAt r1
        | _ => exact Rel.fail hl
      · exact Rel.fail hl
  · have hs' : ∀ r', ts ≠ .slash :: r' := fun r' he => hs ⟨r', he⟩
    have hs'' := S.head_ne (t0 := .slash) (fun _ _ => nofun) hs'
    rw [parsePath.eq_8 _ _ _ _ (fun _ _ => hs' _) (fun _ => hs' _) (fun _ => hs' _) (fun _ => hs' _) (fun _ => hs' _) hs',
      parsePath.eq_8 _ _ _ _ (fun _ _ => hs'' _) (fun _ => hs'' _) (fun _ => hs'' _) (fun _ => hs'' _) (fun _ => hs'' _) hs'']
    exact Rel.ok (by rw [S.ident])

theorem step_callArgs (i ts) : S.Rel S.N (parseCallArgs false (f+1) i ts) (parseCallArgs false (f+1) i (S.g ts)) := by
  by_cases hn : ∃ n r0, ts = .ident n :: .eqs :: r0
  · obtain ⟨n, r0, rfl⟩ := hn
    rw [S.plain (.ident n) _ rfl, S.plain .eqs _ rfl]
    simp only [parseCallArgs]
    refine (ih.expr 0 r0).bind fun e r1 => ?_
    have := ih.namedRest i (.cons (.named n e) .nil) r1
    rw [S.one, S.named] at this
    exact this
  · have hn' : ∀ n r0, ts = .ident n :: .eqs :: r0 → False := fun n r0 he => hn ⟨n, r0, he⟩
    have hn'' : ∀ n r0, S.g ts = .ident n :: .eqs :: r0 → False := by
      intro n r0 he
      cases ts with
      | nil => rw [S.nil] at he; cases he
      | cons t w =>
        have h1 : ∀ r, t :: w ≠ .ident n :: r := fun r e => by
          obtain ⟨rfl, rfl⟩ := List.cons.inj e
          rw [S.plain (.ident n) _ rfl] at he
          exact S.head_ne (t0 := .eqs) (fun _ _ => nofun) (fun r e' => hn' n r (by rw [e'])) r0 (List.cons.inj he).2
        exact S.head_ne (t0 := .ident n) (fun _ _ => nofun) h1 _ he
    rw [parseCallArgs.eq_3 _ _ _ _ hn', parseCallArgs.eq_3 _ _ _ _ hn'']
    refine (ih.expr 0 ts).bind fun e r1 => ?_
    dsimp only
    rw [S.skip]
    have hfin : ∀ items r, S.Rel S.N (finishCall false i items r) (finishCall false i (S.Ns items) (S.g r)) :=
      rel_finishCall i
    refine rel_close (fun r => ?_) (fun r => ?_) _
    · rw [← S.one]; exact hfin _ r
    · rw [S.skip]
      exact rel_afterComma ih e (finishCall false i) (finishCall false i) hfin _

end step

theorem inv (S : ParseSim strict) : ∀ f, S.Inv f
  | 0 => inv_zero
  | f + 1 =>
    have ih := inv S f
    ⟨step_expr ih, step_loop ih, step_pre ih, step_paren ih, step_items ih, step_listE ih, step_callArgs ih,
     step_namedRest ih, step_path ih, step_lam ih⟩

end ParseSim
end OQ
