/- Inversion of an `Outcome` bind, and comparisons of characters read as comparisons of code points. -/
import ODataVerif.Model.Basic
import ODataVerif.Spec.SqlLex
namespace OQ

theorem Outcome.bind_eq_ok {α β} {x : Outcome α} {f : α → Outcome β} {b : β} (h : (x >>= f) = .ok b) :
    ∃ a, x = .ok a ∧ f a = .ok b := by
  cases x with
  | ok a => exact ⟨a, rfl, h⟩
  | _ => cases h

theorem le_char_iff (a c : Char) : a ≤ c ↔ a.toNat ≤ c.toNat := by
  rw [Char.le_def, UInt32.le_iff_toNat_le]; rfl

theorem beq_char_iff (c k : Char) : (c == k) = true ↔ c.toNat = k.toNat := by
  simp [← Char.toNat_inj]

theorem isDig_iff (c : Char) : Spec.isDig c = true ↔ 48 ≤ c.toNat ∧ c.toNat ≤ 57 := by
  simp only [Spec.isDig, Bool.and_eq_true, decide_eq_true_eq, le_char_iff]; rfl

end OQ
