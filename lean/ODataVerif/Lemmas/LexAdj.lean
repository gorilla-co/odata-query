/- Lemmas/LexAdj.lean — what the chains of tokens are stated with: the per-token hypotheses `TokOk`, the classes of tokens and
   the adjacency condition `adj` / `chainOk`, what the lexer reads from a rendering (`sep`); and the facts about one rule on
   a text with another tail that both the C13 and the C19 chain use. -/
import ODataVerif.Lemmas.LexTok
namespace OQ.LexRender
open Spec
set_option linter.unusedSimpArgs false

def isLI : Tok → Bool
  | .lit _ _ => true
  | .ident _ => true
  | _ => false

/-- what is assumed of a literal / identifier token: spelled alone, in front of a blank, and between blanks,
    it is read back as itself (the blank in front as a WS token) -/
structure TokOk (t : Tok) : Prop where
  alone : lexOne E (spellTok t) = some (t, [])
  before : ∃ r, lexOne E (spellTok t ++ [' ']) = some (t, r)
  between : ∃ r, lexOne E (' ' :: spellTok t ++ [' ']) = some (.ws, r)

/-- tokens that can start an operand -/
def startT : Tok → Bool
  | .lit _ _ | .ident _ | .not_ | .uminus | .lp => true
  | _ => false

/-- tokens that may follow a literal: `)`, `,`, a blank, a binary operator -/
def closeT : Tok → Bool
  | .rp | .comma | .ws | .arith _ | .cmp _ | .bool _ => true
  | _ => false

/-- tokens that may follow an identifier -/
def identFollowT : Tok → Bool
  | .lp | .slash | .colon | .eqs => true
  | t => closeT t

/-- may `t` be followed by `nxt` (`none`: end of text)?  `strict`: no unary minus directly before an unsigned number. -/
def adj (strict : Bool) (t : Tok) (nxt : Option Tok) : Bool :=
  match t with
  | .lit _ _ => (match nxt with | none => true | some u => closeT u)
  | .ident _ => (match nxt with | none => true | some u => identFollowT u)
  | .arith _ | .cmp _ | .bool _ | .not_ => (match nxt with | none => false | some u => startT u)
  | .uminus => (match nxt with | none => false | some u => (u == .ws || startT u) && !(strict && isUnsignedNumber u))
  | .any | .all => nxt == some .lp
  | .ws => (match nxt with | none => false | some u => startT u || u == .rp || u == .comma || u == .colon)
  | .lp | .rp | .comma | .slash | .colon | .eqs => true

def chainOk (strict : Bool) : List Tok → Prop
  | [] => True
  | t :: r => (isLI t = true → TokOk t) ∧ adj strict t r.head? = true ∧ chainOk strict r

/-- what the lexer reads: a WS token between a unary minus and an unsigned number (where `render` writes a blank) -/
def sep : List Tok → List Tok
  | [] => []
  | .uminus :: t :: rest =>
      if isUnsignedNumber t then .uminus :: .ws :: sep (t :: rest) else .uminus :: sep (t :: rest)
  | t :: rest => t :: sep rest

theorem closeT_identFollow {u : Tok} (h : closeT u = true) : identFollowT u = true := by
  cases u <;> simp_all [identFollowT, closeT]


theorem adj_strict {t : Tok} {n : Option Tok} (h : t = .uminus → ∀ u, n = some u → isUnsignedNumber u = false) :
    adj true t n = adj false t n := by
  cases t <;> first | rfl | skip
  cases n with
  | none => rfl
  | some u => simp only [adj, h rfl u rfl, Bool.and_false, Bool.false_and]


def isBinT : Tok → Bool
  | .arith _ | .cmp _ | .bool _ => true
  | _ => false

def opWord : Tok → List Char
  | .arith o => (spellArith o).toList
  | .cmp o => (spellCmp o).toList
  | .bool o => (spellBool o).toList
  | _ => []

theorem opTok_spell (t : Tok) (h : isBinT t = true) :
    (t, opWord t) ∈ allOps ∧ spellTok t = ' ' :: opWord t ++ [' '] ∧ (opWord t).map asciiLower = opWord t := by
  cases t with
  | arith o => cases o <;> decide +kernel
  | cmp o => cases o <;> decide +kernel
  | bool o => cases o <;> decide +kernel
  | _ => cases h

theorem allOps_pat : ∀ e ∈ allOps, ∀ p ∈ e.2, p ∈ patChars := by decide +kernel

theorem allOps_ne : ∀ e ∈ allOps, e.2 ≠ [] := by decide +kernel


theorem range_sub {c : Char} (h : inCharRange '0' '9' c = false) :
    inCharRange '0' '1' c = false ∧ c ≠ '2' := by
  simp only [inCharRange, le_char_iff, Bool.and_eq_false_iff, decide_eq_false_iff_not] at h ⊢
  have e0 : '0'.toNat = 48 := rfl
  have e1 : '1'.toNat = 49 := rfl
  have e9 : '9'.toNat = 57 := rfl
  refine ⟨by omega, ?_⟩
  rintro rfl
  have : '2'.toNat = 50 := rfl
  omega

theorem space_headFacts {c : Char} (h : E.isSpace c = true) : HeadFacts E c ∧ c ≠ '\'' ∧ c ≠ '+' ∧ c ≠ '-' := by
  obtain ⟨hdg, hid, hci, hq, hp, hm, hhex, h09⟩ := space_imp c h
  obtain ⟨h01, h2⟩ := range_sub h09
  exact ⟨⟨hci _ (by decide), hci _ (by decide), hci _ (by decide), hci _ (by decide), hci _ (by decide),
    hci _ (by decide), hhex, h01, h2, hdg, hid⟩, hq, hp, hm⟩

theorem li_head_ns {c : Char} {x r : List Char} {t : Tok} (ht : isLI t = true) (h : lexOne E (c :: x) = some (t, r)) :
    E.isSpace c = false := by
  cases hs : E.isSpace c with
  | false => rfl
  | true =>
    exfalso
    obtain ⟨hf, hq, hp, hm⟩ := space_headFacts hs
    cases t with
    | lit k v =>
      have := lexOne_lit_inv h
      rw [litRules_head _ hf hq hp hm] at this
      cases this
    | ident i =>
      have hl := src_ident_letter (lexOne_src h)
      have := (letter_imp c hl).2.1
      rw [hs] at this; cases this
    | _ => simp [isLI] at ht

theorem span1_stable {r0 : List Char} (h : span1 E.isSpace (r0 ++ [' ']) = none) (tl : List Char) :
    span1 E.isSpace (r0 ++ tl) = none := by
  cases r0 with
  | nil => simp [span1, span, space_blank] at h
  | cons c r1 =>
    have hc : E.isSpace c = false := by
      cases hc : E.isSpace c with
      | false => rfl
      | true => simp [span1, span, hc] at h
    exact span1_head hc

/-- a keyword and the whitespace after it: what is not matched in front of a blank is not matched in front of any
    delimiter or the end of the text -/
theorem kwSpace_stable {w s : List Char} (hw : ∀ p ∈ w, p ∈ patChars)
    (h : ((kw E w (s ++ [' '])).bind fun p => (span1 E.isSpace p.2).map (·.2)) = none) {tl : List Char}
    (htl : AtDelim E tl) : ((kw E w (s ++ tl)).bind fun p => (span1 E.isSpace p.2).map (·.2)) = none := by
  have kwt : ∀ {tl}, AtDelim E tl → kw E w (s ++ tl) = ext (kw E w s) tl := fun ht =>
    ext_of (fun s => kw_pat CaseMap.caseMap_id ht w s hw) s
  rw [kwt (.cons delim_blank [])] at h
  rw [kwt htl]
  cases hk : kw E w s with
  | none => rfl
  | some y =>
    rw [hk] at h
    simp only [ext_some, Option.bind_some, Option.map_eq_none_iff] at h ⊢
    exact span1_stable h tl

theorem scanNot_stable {s : List Char} (h : scanNot E (s ++ [' ']) = none) {d : Char} (hd : Delim E d)
    (rest : List Char) : scanNot E (s ++ d :: rest) = none := by
  rw [scanNot_eq] at h ⊢
  exact kwSpace_stable (by decide +kernel) h (.cons hd rest)

theorem scanOp_stable {w s : List Char} {c : Char} {s0 : List Char} (hs : s = c :: s0) (hc : E.isSpace c = false)
    (hw : ∀ p ∈ w, p ∈ patChars)
    (h : scanOp E w (' ' :: s ++ [' ']) = none) {tl : List Char} (htl : AtDelim E tl) :
    scanOp E w (' ' :: s ++ tl) = none := by
  subst hs
  have hx : ∀ y, headNS ((c :: s0) ++ y) := fun y => headNS_cons hc
  rw [List.cons_append, scanOp_blank w (hx _)] at h ⊢
  exact kwSpace_stable hw h htl

theorem scanOp_kw_none {w x : List Char} (hx : headNS x) (hk : kw E w x = none) : scanOp E w (' ' :: x) = none := by
  rw [scanOp_blank w hx, hk]; rfl

theorem ops_none_head {c : Char} (x : List Char) (hc : E.isSpace c = false) (hci : ∀ p ∈ patChars, ciChar E p c = false) :
    ∀ e ∈ allOps, scanOp E e.2 (' ' :: c :: x) = none := by
  intro e he
  apply scanOp_kw_none (headNS_cons hc)
  have hne := allOps_ne e he
  have hp := allOps_pat e he
  cases hw : e.2 with
  | nil => exact absurd hw hne
  | cons p ps => exact kw_head (hci p (hp p (by rw [hw]; exact List.mem_cons_self)))

theorem minus_ci : ∀ p ∈ patChars, ciChar E p '-' = false := by decide +kernel
theorem not_kw : ∀ e ∈ allOps, kw E e.2 ['n', 'o', 't'] = none := by decide +kernel

theorem lexFuel_step {f pos : Nat} {cs r : List Char} {t : Tok} (h : lexOne E cs = some (t, r)) :
    lexFuel E (f + 1) pos cs =
      ⟨t :: (lexFuel E f (pos + (cs.length - r.length)) r).toks, (lexFuel E f (pos + (cs.length - r.length)) r).err⟩ := by
  cases cs with
  | nil => rw [lexOne_nil] at h; cases h
  | cons c x => simp only [lexFuel, h]

end OQ.LexRender
