/-
  Lemmas/TypedShape.lean — shape facts about the image of the typed grammar (Spec/ODataSem.lean) in the parser's
  AST, used by Props/C01.lean: the printers' side condition `sqlSafe`, the literal shapes `litOk`, and totality of the
  SQLite visitor on that image.
-/
import ODataVerif.Lemmas.SqliteSound
namespace OQ.TypedShape
open OQ OQ.Spec SqliteSound

structure StrShape (d : Dialect) (e : Expr) : Prop where
  safe : sqlSafe d e = true
  prec : 5 ≤ sqlPrec e
  notArith : isArithE e = false
  notMul : isMulE e = false

structure IntShape (d : Dialect) (e : Expr) : Prop where
  safe : sqlSafe d e = true
  prec : 5 ≤ sqlPrec e
  notConcat : isConcatE e = false

theorem notList_of_strTy {t : Option Ty} (h : strTy t) : isListTy t = false := by
  rcases h with h | h <;> rw [h] <;> rfl

variable (d : Dialect)

/-- a call is a string operand when it binds at least as tightly as `+` and is not `indexof` (printed as a subtraction) -/
theorem str_call {n : Str} {args : Exprs} (hn : (decide (5 ≤ funcPrec (pyLower n)) && String.ofList n != "indexof") = true)
    (hs : sqlSafe d (.call ⟨n, []⟩ args) = true) : StrShape d (.call ⟨n, []⟩ args) := by
  rw [Bool.and_eq_true, decide_eq_true_eq, bne_iff_ne] at hn
  exact ⟨hs, hn.1, by simp [isArithE, isBinopE, isBuiltin, hn.2], rfl⟩

/-- … and an integer operand when it is not `concat` -/
theorem int_call {n : Str} {args : Exprs} (hn : (decide (5 ≤ funcPrec (pyLower n)) && String.ofList n != "concat") = true)
    (hs : sqlSafe d (.call ⟨n, []⟩ args) = true) : IntShape d (.call ⟨n, []⟩ args) := by
  rw [Bool.and_eq_true, decide_eq_true_eq, bne_iff_ne] at hn
  exact ⟨hs, hn.1, by simp [isConcatE, isBuiltin, hn.2]⟩

mutual
theorem intShape : (e : IntE) → IntShape d e.toExpr
  | .lit _ _ => ⟨rfl, by simp [IntE.toExpr, sqlPrec], rfl⟩
  | .col c => ⟨rfl, by simp [IntE.toExpr, idE, sqlPrec], rfl⟩
  | .neg e => ⟨(intShape e).safe, by simp [IntE.toExpr, sqlPrec], rfl⟩
  | .arith k l r =>
      ⟨by simp [IntE.toExpr, sqlSafe, (intShape l).safe, (intShape r).safe, (intShape l).notConcat],
       by cases k <;> simp [IntE.toExpr, ArK.toOp, sqlPrec], rfl⟩
  | .length s => int_call d (by decide +kernel) (by simp [sqlSafe, sqlSafeList, (strShape s).safe])
  | .indexof a b =>
      int_call d (by decide +kernel)
        (by simp [sqlSafe, sqlSafeList, (strShape a).safe, (strShape b).safe, (strShape a).prec, (strShape b).prec])
theorem strShape : (s : StrE) → StrShape d s.toExpr
  | .lit s => ⟨rfl, by simp [StrE.toExpr, sqlPrec], rfl, rfl⟩
  | .col c => ⟨rfl, by simp [StrE.toExpr, idE, sqlPrec], rfl, rfl⟩
  | .concat a b =>
      str_call d (by decide +kernel)
        (by simp [sqlSafe, sqlSafeList, (strShape a).safe, (strShape b).safe, (strShape a).notArith, (strShape b).notMul])
  | .substring s i =>
      str_call d (by decide +kernel)
        (by simp [sqlSafe, sqlSafeList, (strShape s).safe, (intShape i).safe, notList_of_strTy (strTy_toExpr s),
              (intShape i).prec, (intShape i).notConcat, (strShape s).prec])
  | .substring3 s i n =>
      str_call d (by decide +kernel)
        (by simp [sqlSafe, sqlSafeList, (strShape s).safe, (intShape i).safe, (intShape n).safe,
              notList_of_strTy (strTy_toExpr s), (intShape i).prec, (intShape i).notConcat, (strShape s).prec,
              (intShape n).prec])
  | .tolower s => str_call d (by decide +kernel) (by simp [sqlSafe, sqlSafeList, (strShape s).safe])
  | .toupper s => str_call d (by decide +kernel) (by simp [sqlSafe, sqlSafeList, (strShape s).safe])
  | .trim s => str_call d (by decide +kernel) (by simp [sqlSafe, sqlSafeList, (strShape s).safe])
end

theorem ints_safe : (xs : List IntE) → sqlSafeList d (intsToExprs xs) = true
  | [] => by simp [intsToExprs, sqlSafeList]
  | e :: t => by simp [intsToExprs, sqlSafeList, (intShape d e).safe, ints_safe t]
theorem strs_safe : (xs : List StrE) → sqlSafeList d (strsToExprs xs) = true
  | [] => by simp [strsToExprs, sqlSafeList]
  | e :: t => by simp [strsToExprs, sqlSafeList, (strShape d e).safe, strs_safe t]

theorem like_safe (k : LikeK) {a b : Expr} (ha : StrShape d a) (hb : StrShape d b) :
    sqlSafe d (.call ⟨k.name.toList, []⟩ (.cons a (.cons b .nil))) = true := by
  cases k <;> simp [LikeK.name, sqlSafe, sqlSafeList, ha.safe, hb.safe, ha.prec, hb.notMul]

theorem bool_safe : (b : BoolE) → sqlSafe d b.toExpr = true
  | .cmpI _ l r => by rw [BoolE.toExpr, sqlSafe, (intShape d l).safe, (intShape d r).safe]; rfl
  | .cmpS _ l r => by rw [BoolE.toExpr, sqlSafe, (strShape d l).safe, (strShape d r).safe]; rfl
  | .cmpB _ l r => by rw [BoolE.toExpr, sqlSafe, bool_safe l, bool_safe r]; rfl
  | .isNull _ c n => rfl
  | .inI e xs => by rw [BoolE.toExpr, sqlSafe, sqlSafe, (intShape d e).safe, ints_safe d xs]; rfl
  | .inS e xs => by rw [BoolE.toExpr, sqlSafe, sqlSafe, (strShape d e).safe, strs_safe d xs]; rfl
  | .and l r => by rw [BoolE.toExpr, sqlSafe, bool_safe l, bool_safe r]; rfl
  | .or l r => by rw [BoolE.toExpr, sqlSafe, bool_safe l, bool_safe r]; rfl
  | .not e => by rw [BoolE.toExpr, sqlSafe]; exact bool_safe e
  | .like k a b => like_safe d k (strShape d a) (strShape d b)
  | .col c => rfl
  | .lit b => rfl

theorem takeWhile_all {α} (p : α → Bool) : (l : List α) → l.all p = true → l.takeWhile p = l
  | [], _ => rfl
  | a :: t, h => by
      simp only [List.all_cons, Bool.and_eq_true] at h
      simp [h.1, takeWhile_all p t h.2]

theorem isNumBody_digits {ds : Str} (h : asciiDigits ds = true) : isNumBody ds = true := by
  unfold asciiDigits at h
  simp only [Bool.and_eq_true] at h
  have htw : ds.takeWhile isDig = ds := takeWhile_all _ _ h.2
  unfold isNumBody
  simp only [htw, List.drop_length, h.1]
  rfl

theorem isNumText_digits {ds : Str} (h : asciiDigits ds = true) : isNumText ds = true := by
  have hb := isNumBody_digits h
  unfold isNumText
  split
  · simp [asciiDigits, isDig] at h
  · simp [asciiDigits, isDig] at h
  · exact hb

theorem isNumText_neg {ds : Str} (h : asciiDigits ds = true) : isNumText ('-' :: ds) = true := by
  unfold isNumText; exact isNumBody_digits h

theorem boolText_true : boolText "true".toList = true := by decide +kernel
theorem boolText_false : boolText "false".toList = true := by decide +kernel

theorem athenaClean_noquote (c : Str) : '"' ∉ athenaClean c := by
  unfold athenaClean
  rw [List.mem_flatMap]
  rintro ⟨x, _, hx⟩
  dsimp only at hx
  split at hx
  · simp at hx
  · split at hx
    · rename_i hw
      simp only [List.mem_singleton] at hx
      rw [← hx] at hw
      exact absurd hw (by decide)
    · simp at hx

theorem nameOk_of (d : Dialect) {c : Str} (h : (!c.contains '"') = true) : nameOk d c = true := by
  unfold nameOk
  split
  · simpa using athenaClean_noquote c
  · exact h

section
variable {isD : Char → Bool} {d : Dialect} {a b c : Expr}

theorem litOk_call1 (f : Ident) (ha : litOk isD d a = true) : litOk isD d (.call f (.cons a .nil)) = true := by
  rw [litOk, litOkList, litOkList, ha]; rfl
theorem litOk_call2 (f : Ident) (ha : litOk isD d a = true) (hb : litOk isD d b = true) :
    litOk isD d (.call f (.cons a (.cons b .nil))) = true := by
  rw [litOk, litOkList, litOkList, litOkList, ha, hb]; rfl
theorem litOk_call3 (f : Ident) (ha : litOk isD d a = true) (hb : litOk isD d b = true) (hc : litOk isD d c = true) :
    litOk isD d (.call f (.cons a (.cons b (.cons c .nil)))) = true := by
  rw [litOk, litOkList, litOkList, litOkList, litOkList, ha, hb, hc]; rfl
theorem litOk_compare (op : CmpOp) (ha : litOk isD d a = true) (hb : litOk isD d b = true) :
    litOk isD d (.compare op a b) = true := by
  rw [litOk, ha, hb]; rfl
theorem litOk_boolop (op : BoolOp) (ha : litOk isD d a = true) (hb : litOk isD d b = true) :
    litOk isD d (.boolop op a b) = true := by
  rw [litOk, ha, hb]; rfl
end

section
variable (isD : Char → Bool) (al : Option Str)

def Vis (e : Expr) : Prop := ∃ ps, sqlVisit isD .sqlite al e = .ok ps
def VisL (xs : Exprs) : Prop := ∃ items, sqlVisitList isD .sqlite al xs = .ok items

variable {isD al}

theorem visL_nil : VisL isD al .nil := ⟨_, by rw [sqlVisitList]⟩
theorem visL_cons {h : Expr} {t : Exprs} (hh : Vis isD al h) (ht : VisL isD al t) : VisL isD al (.cons h t) := by
  obtain ⟨a, ha⟩ := hh
  obtain ⟨b, hb⟩ := ht
  rw [VisL, sqlVisitList, ha, hb]; exact ⟨_, rfl⟩

theorem vis_lit_int (v : Str) : Vis isD al (.lit .int v) := by rw [Vis, sqlVisit]; exact ⟨_, rfl⟩
theorem vis_lit_str (v : Str) : Vis isD al (.lit .str v) := by rw [Vis, sqlVisit]; exact ⟨_, rfl⟩
theorem vis_lit_bool (v : Str) : Vis isD al (.lit .bool v) := by rw [Vis, sqlVisit]; exact ⟨_, rfl⟩
theorem vis_lit_null (v : Str) : Vis isD al (.lit .null v) := by rw [Vis, sqlVisit]; exact ⟨_, rfl⟩
theorem vis_id (c : Str) : Vis isD al (idE c) := by rw [Vis, idE, sqlVisit]; exact ⟨_, rfl⟩
theorem vis_list {xs : Exprs} (h : VisL isD al xs) : Vis isD al (.list xs) := by
  obtain ⟨a, ha⟩ := h
  rw [Vis, sqlVisit, ha]; exact ⟨_, rfl⟩
theorem vis_unary (op : UnOp) {e : Expr} (h : Vis isD al e) : Vis isD al (.unary op e) := by
  obtain ⟨a, ha⟩ := h
  rw [Vis, sqlVisit, ha]; exact ⟨_, rfl⟩
theorem vis_binop (op : ArithOp) {l r : Expr} (hl : Vis isD al l) (hr : Vis isD al r) : Vis isD al (.binop op l r) := by
  obtain ⟨a, ha⟩ := hl
  obtain ⟨b, hb⟩ := hr
  rw [Vis, sqlVisit, ha, hb]; exact ⟨_, rfl⟩
theorem vis_compare (op : CmpOp) {l r : Expr} (hl : Vis isD al l) (hr : Vis isD al r) : Vis isD al (.compare op l r) := by
  obtain ⟨a, ha⟩ := hl
  obtain ⟨b, hb⟩ := hr
  rw [Vis, sqlVisit, ha, hb]
  by_cases hc : (isNullLit l && (op == CmpOp.eq || op == CmpOp.ne)) = true
  · exact ⟨_, by simp only [Outcome.bind_ok, if_pos hc]; rfl⟩
  · exact ⟨_, by simp only [Outcome.bind_ok, if_neg hc]; rfl⟩
theorem vis_boolop (op : BoolOp) {l r : Expr} (hl : Vis isD al l) (hr : Vis isD al r) : Vis isD al (.boolop op l r) := by
  obtain ⟨a, ha⟩ := hl
  obtain ⟨b, hb⟩ := hr
  rw [Vis, sqlVisit, ha, hb]; exact ⟨_, rfl⟩

theorem vis_call (name : Str) (key : String) (n : Nat) (args : Exprs)
    (hk : (String.ofList (pyLower (funcKey ⟨name, []⟩)) == key && sqlHandlers.contains key &&
      (preCheck .sqlite key n).isNone) = true)
    (hn : args.length = n)
    (hl : VisL isD al args)
    (hs : ∃ tpl, selectTpl .sqlite key (args.toList.map inferType) = .ok tpl) :
    Vis isD al (.call ⟨name, []⟩ args) := by
  obtain ⟨items, hi⟩ := hl
  obtain ⟨tpl, ht⟩ := hs
  simp only [Bool.and_eq_true, beq_iff_eq, Option.isNone_iff_eq_none] at hk
  rw [Vis, sqlVisit]
  simp only [hk.1.1, hk.1.2, hn, hk.2, hi, ht]
  exact ⟨_, rfl⟩

theorem vis_un (name : Str) (key : String) {a : Expr}
    (hk : (String.ofList (pyLower (funcKey ⟨name, []⟩)) == key && sqlHandlers.contains key &&
      (preCheck .sqlite key 1).isNone) = true)
    (hs : ∀ t, ∃ tpl, selectTpl .sqlite key [t] = .ok tpl)
    (ha : Vis isD al a) : Vis isD al (.call ⟨name, []⟩ (.cons a .nil)) :=
  vis_call _ key 1 _ hk rfl (visL_cons ha visL_nil) (hs _)

theorem overload_str {t0 t1 : Option Ty} (h0 : strTy t0) (h1 : strTy t1) : overloadOf [t0, t1] = .str :=
  if_pos (strOverload_of_strTy h0 h1)

theorem selectTpl_indexof {t0 t1 : Option Ty} (h0 : strTy t0) (h1 : strTy t1) :
    ∃ tpl, selectTpl .sqlite "indexof" [t0, t1] = .ok tpl := by
  simp only [selectTpl, overload_str h0 h1]; exact ⟨_, rfl⟩

theorem selectTpl_like (k : LikeK) {t0 t1 : Option Ty} (h0 : strTy t0) (h1 : strTy t1) :
    ∃ tpl, selectTpl .sqlite k.name [t0, t1] = .ok tpl := by
  cases k <;> simp only [LikeK.name, selectTpl, likeTpl, overload_str h0 h1] <;> exact ⟨_, rfl⟩

theorem selectTpl_substring {t0 : Option Ty} (h : strTy t0) (t1 : Option Ty) (rest : List (Option Ty))
    (hr : rest.length ≤ 1) : ∃ tpl, selectTpl .sqlite "substring" (t0 :: t1 :: rest) = .ok tpl := by
  match rest, hr with
  | [], _ => rcases h with rfl | rfl <;> exact ⟨_, rfl⟩
  | [_], _ => rcases h with rfl | rfl <;> exact ⟨_, rfl⟩

mutual
theorem visI : (e : IntE) → Vis isD al e.toExpr
  | .lit _ _ => vis_lit_int _
  | .col c => vis_id c
  | .neg e => vis_unary _ (visI e)
  | .arith _ l r => vis_binop _ (visI l) (visI r)
  | .length s => vis_un _ "length" (by decide +kernel) (fun _ => ⟨_, rfl⟩) (visS s)
  | .indexof a b =>
      vis_call _ "indexof" 2 _ (by decide +kernel) rfl (visL_cons (visS a) (visL_cons (visS b) visL_nil))
        (selectTpl_indexof (strTy_toExpr a) (strTy_toExpr b))
theorem visS : (s : StrE) → Vis isD al s.toExpr
  | .lit s => vis_lit_str s
  | .col c => vis_id c
  | .concat a b => vis_call _ "concat" 2 _ (by decide +kernel) rfl (visL_cons (visS a) (visL_cons (visS b) visL_nil)) ⟨_, rfl⟩
  | .substring s i =>
      vis_call _ "substring" 2 _ (by decide +kernel) rfl (visL_cons (visS s) (visL_cons (visI i) visL_nil))
        (selectTpl_substring (strTy_toExpr s) _ [] (Nat.zero_le 1))
  | .substring3 s i n =>
      vis_call _ "substring" 3 _ (by decide +kernel) rfl (visL_cons (visS s) (visL_cons (visI i) (visL_cons (visI n) visL_nil)))
        (selectTpl_substring (strTy_toExpr s) _ [_] (Nat.le_refl 1))
  | .tolower s => vis_un _ "tolower" (by decide +kernel) (fun _ => ⟨_, rfl⟩) (visS s)
  | .toupper s => vis_un _ "toupper" (by decide +kernel) (fun _ => ⟨_, rfl⟩) (visS s)
  | .trim s => vis_un _ "trim" (by decide +kernel) (fun _ => ⟨_, rfl⟩) (visS s)
end

theorem visIs : (xs : List IntE) → VisL isD al (intsToExprs xs)
  | [] => by rw [intsToExprs]; exact visL_nil
  | e :: t => by rw [intsToExprs]; exact visL_cons (visI e) (visIs t)
theorem visSs : (xs : List StrE) → VisL isD al (strsToExprs xs)
  | [] => by rw [strsToExprs]; exact visL_nil
  | e :: t => by rw [strsToExprs]; exact visL_cons (visS e) (visSs t)

theorem visB : (b : BoolE) → Vis isD al b.toExpr
  | .cmpI _ l r => vis_compare _ (visI l) (visI r)
  | .cmpS _ l r => vis_compare _ (visS l) (visS r)
  | .cmpB _ l r => vis_compare _ (visB l) (visB r)
  | .isNull _ c _ => vis_compare _ (vis_id c) (vis_lit_null _)
  | .inI e xs => vis_compare _ (visI e) (vis_list (visIs xs))
  | .inS e xs => vis_compare _ (visS e) (vis_list (visSs xs))
  | .and l r => vis_boolop _ (visB l) (visB r)
  | .or l r => vis_boolop _ (visB l) (visB r)
  | .not e => vis_unary _ (visB e)
  | .like k a b =>
      vis_call _ k.name 2 _ (by cases k <;> decide +kernel) rfl (visL_cons (visS a) (visL_cons (visS b) visL_nil))
        (selectTpl_like k (strTy_toExpr a) (strTy_toExpr b))
  | .col c => vis_id c
  | .lit _ => vis_lit_bool _
end

end OQ.TypedShape
