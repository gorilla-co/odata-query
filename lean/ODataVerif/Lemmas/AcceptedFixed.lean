/-
  The fixed-format rules (GUID, date, time, datetime): the matched text alone is matched again,
  completely; a failure on a text is a failure on each of its prefixes; a `-` in fifth or a `:` in third position rules a GUID out.
-/
import ODataVerif.Lemmas.AcceptedNum
namespace OQ.AcceptedLex
open OQ.LexRender OQ.Spec
set_option linter.unusedSimpArgs false

theorem scanGuid_ps {cs v r : Str} (h : scanGuid E cs = some (v, r)) :
    cs = v ++ r ∧ (∀ y, scanGuid E (v ++ y) = some (v, y)) ∧
    (∃ c1 c2 c3 c4 t, v = c1 :: c2 :: c3 :: c4 :: t ∧ isHex E c1 = true) ∧
    (∀ c ∈ v, isHex E c = true ∨ c = '-') :=
  have ⟨hv, hcs⟩ := scanGuid_eq_some_iff.1 h
  ⟨hcs, fun _ => scanGuid_eq_some_iff.2 ⟨hv, rfl⟩, hv.head4, hv.chars⟩

/-- a rule that matches what it matched again in front of any continuation fails on every prefix of a text it fails on -/
theorem none_of_append {f : Str → Option (Str × Str)}
    (hps : ∀ {cs v r}, f cs = some (v, r) → cs = v ++ r ∧ ∀ y, f (v ++ y) = some (v, y))
    {a r : Str} (h : f (a ++ r) = none) : f a = none := by
  cases hs : f a with
  | none => rfl
  | some x =>
    obtain ⟨rfl, hf⟩ := hps hs
    rw [List.append_assoc, hf] at h
    cases h

theorem scanGuid_prefix {a r : Str} (h : scanGuid E (a ++ r) = none) : scanGuid E a = none :=
  none_of_append (fun hs => ⟨(scanGuid_ps hs).1, (scanGuid_ps hs).2.1⟩) h

theorem scanGuid_dash5 (y1 y2 y3 y4 : Char) (t : Str) : scanGuid E (y1 :: y2 :: y3 :: y4 :: '-' :: t) = none :=
  scanGuid_stop (a := [y1, y2, y3, y4]) (by simp) LitLex.isHex_minus t

theorem scanGuid_colon3 (h1 h2 : Char) (t : Str) : scanGuid E (h1 :: h2 :: ':' :: t) = none :=
  scanGuid_stop (a := [h1, h2]) (by simp) LitLex.isHex_colon t

theorem scanDatePart_ps {cs v r : Str} (h : scanDatePart E cs = some (v, r)) :
    cs = v ++ r ∧ (∀ y, scanDatePart E (v ++ y) = some (v, y)) ∧
    (∃ y1 y2 y3 y4 t, v = y1 :: y2 :: y3 :: y4 :: '-' :: t ∧ E.isDigit y1 = true) := by
  unfold scanDatePart at h
  split at h
  · rename_i y1 y2 y3 y4 m1 m2 d1 d2 r0
    split at h <;> simp only [Option.some.injEq, Prod.mk.injEq, reduceCtorEq] at h
    rename_i hcond
    obtain ⟨rfl, rfl⟩ := h
    refine ⟨rfl, ?_, ⟨y1, y2, y3, y4, _, rfl, ?_⟩⟩
    · intro y
      simp only [List.cons_append, List.nil_append, scanDatePart, hcond, if_true]
    · simp only [Bool.and_eq_true] at hcond
      exact hcond.1.1.1.1.1
  · simp at h

theorem scanDatePart_prefix {a r : Str} (h : scanDatePart E (a ++ r) = none) : scanDatePart E a = none :=
  none_of_append (fun hs => ⟨(scanDatePart_ps hs).1, (scanDatePart_ps hs).2.1⟩) h

theorem r01_cases {c : Char} (h : inCharRange '0' '1' c = true) : c = '0' ∨ c = '1' := by
  simp only [inCharRange, Bool.and_eq_true, decide_eq_true_eq, le_char_iff] at h
  have e0 : '0'.toNat = 48 := rfl
  have e1 : '1'.toNat = 49 := rfl
  have : c.toNat = 48 ∨ c.toNat = 49 := by omega
  rcases this with h | h
  · exact Or.inl (Char.toNat_inj.1 h)
  · exact Or.inr (Char.toNat_inj.1 h)

theorem scanHourMinute_ps {cs v r : Str} (h : scanHourMinute E cs = some (v, r)) :
    cs = v ++ r ∧ (∀ y, scanHourMinute E (v ++ y) = some (v, y)) ∧
    (∃ h1 h2 m1 m2, v = [h1, h2, ':', m1, m2] ∧ (h1 = '0' ∨ h1 = '1' ∨ h1 = '2')) := by
  unfold scanHourMinute at h
  split at h
  · rename_i h1 h2 m1 m2 r0
    split at h <;> simp only [Option.some.injEq, Prod.mk.injEq, reduceCtorEq] at h
    rename_i hcond
    obtain ⟨rfl, rfl⟩ := h
    refine ⟨rfl, ?_, ⟨h1, h2, m1, m2, rfl, ?_⟩⟩
    · intro y
      simp only [List.cons_append, List.nil_append, scanHourMinute, hcond, if_true]
    · simp only [Bool.and_eq_true, Bool.or_eq_true, beq_iff_eq] at hcond
      rcases hcond.1.1 with h | h
      · rcases r01_cases h.1 with e | e
        · exact Or.inl e
        · exact Or.inr (Or.inl e)
      · exact Or.inr (Or.inr h.1)
  · simp at h

/-- what may follow the seconds of a clock for the match to stay the same: nothing, or neither a digit nor a `.` -/
def FracEnd (y : Str) : Prop := ∀ c t, y = c :: t → c ≠ '.' ∧ E.isDigit c = false

theorem fracEnd_nil : FracEnd [] := by intro c t h; cases h

theorem scanFraction_none {y : Str} (hy : FracEnd y) : scanFraction E y = ([], y) := by
  cases y with
  | nil => rfl
  | cons c t =>
    have := (hy c t rfl).1
    unfold scanFraction
    split
    · rename_i heq; simp at heq; exact absurd heq.1 this
    · rfl

theorem scanFraction_ps {cs f r : Str} (h : scanFraction E cs = (f, r)) :
    cs = f ++ r ∧ ∀ y, FracEnd y → scanFraction E (f ++ y) = (f, y) := by
  unfold scanFraction at h
  split at h
  · rename_i r0
    obtain ⟨h1, h2, h3⟩ := takeUpTo_inv E.isDigit 12 r0
    split at h
    · rename_i r' heq
      simp only [Prod.mk.injEq] at h
      obtain ⟨rfl, rfl⟩ := h
      exact ⟨rfl, fun y hy => by simpa using scanFraction_none hy⟩
    · rename_i ds r' hne heq
      rw [heq] at h1 h2 h3
      dsimp only at h1 h2 h3
      simp only [Prod.mk.injEq] at h
      obtain ⟨rfl, rfl⟩ := h
      refine ⟨by rw [h1]; simp, ?_⟩
      intro y hy
      have := LitLex.takeUpTo_all' E.isDigit 12 ds y h2 h3 (fun c t e => (hy c t e).2)
      cases ds with
      | nil => exact (hne rfl).elim
      | cons d ds' =>
        simp only [List.cons_append] at this ⊢
        simp only [scanFraction, this]
  · simp only [Prod.mk.injEq] at h
    obtain ⟨rfl, rfl⟩ := h
    exact ⟨rfl, fun y hy => by simpa using scanFraction_none hy⟩

theorem scanSeconds_ps {cs s r : Str} (h : scanSeconds E cs = some (s, r)) :
    cs = s ++ r ∧ (∃ t, s = ':' :: t) ∧ ∀ y, FracEnd y → scanSeconds E (s ++ y) = some (s, y) := by
  unfold scanSeconds at h
  split at h
  · rename_i s1 s2 r0
    obtain ⟨hd, hf⟩ := scanFraction_ps (cs := r0) (f := (scanFraction E r0).1) (r := (scanFraction E r0).2) rfl
    split at h <;> simp only [Option.some.injEq, Prod.mk.injEq, reduceCtorEq] at h
    rename_i hcond
    obtain ⟨rfl, rfl⟩ := h
    refine ⟨by simp [← hd], ⟨_, rfl⟩, ?_⟩
    intro y hy
    simp only [List.cons_append, scanSeconds, hcond, if_true, hf y hy]
  · rename_i s1 s2 r0 hne
    obtain ⟨hd, hf⟩ := scanFraction_ps (cs := r0) (f := (scanFraction E r0).1) (r := (scanFraction E r0).2) rfl
    split at h <;> simp only [Option.some.injEq, Prod.mk.injEq, reduceCtorEq] at h
    rename_i hcond
    obtain ⟨rfl, rfl⟩ := h
    refine ⟨by simp [← hd], ⟨_, rfl⟩, ?_⟩
    intro y hy
    have hs1 : s1 ≠ ':' := by
      rintro rfl
      simp only [Bool.and_eq_true] at hcond
      exact absurd hcond.1 (by decide)
    simp only [List.cons_append]
    rw [LexRender.scanSeconds_single s1 s2 _ hs1]
    simp only [hcond, if_true, hf y hy]
  · simp at h

theorem scanSeconds_head {c : Char} {t : Str} (h : c ≠ ':') : scanSeconds E (c :: t) = none := by
  unfold scanSeconds
  split
  · rename_i heq; simp at heq; exact absurd heq.1 h
  · rename_i heq; simp at heq; exact absurd heq.1 h
  · rfl

theorem scanSeconds_nil : scanSeconds E [] = none := rfl

/-- an offset is empty or starts with `Z` or a sign: nothing the seconds or the fraction could take -/
theorem scanOffset_ps {cs o r : Str} (h : scanOffset E cs = (o, r)) :
    cs = o ++ r ∧ scanOffset E o = (o, []) ∧ FracEnd o ∧ scanSeconds E o = none := by
  have hcs : cs = o ++ r := by have := scanOffset_append (env := E) cs; rwa [h] at this
  suffices hs : scanOffset E o = (o, []) ∧ (o = [] ∨ ∃ c t, o = c :: t ∧ (c = 'z' ∨ c = 'Z' ∨ c = '+' ∨ c = '-')) by
    refine ⟨hcs, hs.1, ?_⟩
    rcases hs.2 with rfl | ⟨c, t, rfl, hc⟩
    · exact ⟨fracEnd_nil, rfl⟩
    · refine ⟨fun c' t' e => ?_, scanSeconds_head (by rcases hc with rfl | rfl | rfl | rfl <;> decide)⟩
      obtain ⟨rfl, -⟩ := List.cons.inj e
      rcases hc with rfl | rfl | rfl | rfl <;> exact ⟨by decide, by decide +kernel⟩
  unfold scanOffset at h
  split at h
  · rename_i c r0
    split at h
    · rename_i hz
      obtain ⟨rfl, rfl⟩ := Prod.mk.inj h
      exact ⟨by simp [scanOffset, hz], Or.inr ⟨c, [], rfl, (z_cases hz).elim Or.inl (fun e => Or.inr (Or.inl e))⟩⟩
    · rename_i hz
      split at h
      · rename_i hpm
        split at h
        · rename_i hm r' heq
          obtain ⟨rfl, rfl⟩ := Prod.mk.inj h
          obtain ⟨rfl, hf, -⟩ := scanHourMinute_ps heq
          have := hf []
          rw [List.append_nil] at this
          simp only [Bool.or_eq_true, beq_iff_eq] at hpm
          exact ⟨by simp [scanOffset, hz, hpm, this], Or.inr ⟨c, hm, rfl, Or.inr (Or.inr hpm)⟩⟩
        · obtain ⟨rfl, rfl⟩ := Prod.mk.inj h; exact ⟨rfl, Or.inl rfl⟩
      · obtain ⟨rfl, rfl⟩ := Prod.mk.inj h; exact ⟨rfl, Or.inl rfl⟩
  · obtain ⟨rfl, rfl⟩ := Prod.mk.inj h; exact ⟨rfl, Or.inl rfl⟩

theorem scanTime_trim {cs v r : Str} (h : scanTime E cs = some (v, r)) :
    cs = v ++ r ∧ scanTime E v = some (v, []) ∧
    (∃ h1 h2 t, v = h1 :: h2 :: ':' :: t ∧ E.isDigit h1 = true) := by
  unfold scanTime at h
  simp only [Option.bind_eq_bind, Option.bind_eq_some_iff] at h
  obtain ⟨⟨hm, r1⟩, h1, ⟨s, r2⟩, h2, h⟩ := h
  simp only [Option.pure_def, Option.some.injEq, Prod.mk.injEq] at h
  obtain ⟨rfl, rfl⟩ := h
  obtain ⟨rfl, fhm, ⟨a, b, c, d, rfl, ha⟩⟩ := scanHourMinute_ps h1
  obtain ⟨rfl, -, fs⟩ := scanSeconds_ps h2
  refine ⟨by simp, ?_, ⟨a, b, _, rfl, by rcases ha with rfl | rfl | rfl <;> decide +kernel⟩⟩
  have e1 := fhm s
  have e2 := fs [] fracEnd_nil
  rw [List.append_nil] at e2
  simp only [scanTime, Option.bind_eq_bind, e1, Option.bind_some, e2, Option.pure_def]

/-- the optional seconds of a DATETIME: what was taken (possibly nothing) is taken again in front of anything that neither
    continues a fraction nor is itself read as seconds -/
theorem optSeconds_ps {r s r' : Str}
    (h : (match scanSeconds E r with | some (s, r') => (s, r') | none => ([], r)) = (s, r')) :
    r = s ++ r' ∧ ∀ y, FracEnd y → scanSeconds E y = none →
      (match scanSeconds E (s ++ y) with | some (s, r') => (s, r') | none => ([], s ++ y)) = (s, y) := by
  cases hs : scanSeconds E r with
  | none =>
    rw [hs] at h
    obtain ⟨rfl, rfl⟩ := Prod.mk.inj h
    exact ⟨rfl, fun y _ hy => by rw [List.nil_append, hy]⟩
  | some p =>
    rw [hs] at h
    obtain ⟨rfl, rfl⟩ := Prod.mk.inj h
    obtain ⟨hr, -, fs⟩ := scanSeconds_ps hs
    exact ⟨hr, fun y hy _ => by rw [fs y hy]⟩

theorem scanDateTime_trim {cs v r : Str} (h : scanDateTime E cs = some (v, r)) :
    ∃ a, cs = a ++ r ∧ v = a.map asciiUpper ∧ scanDateTime E a = some (v, []) ∧
      (∃ y1 y2 y3 y4 t, a = y1 :: y2 :: y3 :: y4 :: '-' :: t ∧ E.isDigit y1 = true) := by
  unfold scanDateTime at h
  simp only [Option.bind_eq_bind, Option.bind_eq_some_iff] at h
  obtain ⟨⟨d, r1⟩, h1, h⟩ := h
  obtain ⟨rfl, fd, ⟨y1, y2, y3, y4, td, rfl, hy1⟩⟩ := scanDatePart_ps h1
  split at h
  · rename_i _ t r2 heq
    dsimp only at heq
    subst heq
    split at h
    · rename_i ht
      simp only [Option.bind_eq_bind, Option.bind_eq_some_iff] at h
      obtain ⟨⟨hm, r3⟩, h2, h⟩ := h
      dsimp only at h
      obtain ⟨rfl, fhm, -⟩ := scanHourMinute_ps h2
      -- `scanOffset.match_1` is the `match` on an optional pair that `scanDateTime` applies to the seconds
      generalize hs : scanOffset.match_1 (fun _ => Str × List Char) (scanSeconds E r3) _ _ = p at h
      obtain ⟨s, r4⟩ := p
      simp only [Option.pure_def, Option.some.injEq, Prod.mk.injEq] at h
      obtain ⟨rfl, rfl⟩ := h
      obtain ⟨rfl, fs⟩ := optSeconds_ps hs
      obtain ⟨ho, fo, foe, fos⟩ := scanOffset_ps (cs := r4) (o := (scanOffset E r4).1) (r := (scanOffset E r4).2) rfl
      refine ⟨(y1 :: y2 :: y3 :: y4 :: '-' :: td) ++ t :: hm ++ s ++ (scanOffset E r4).1, ?_, by simp, ?_,
        ⟨y1, y2, y3, y4, _, rfl, hy1⟩⟩
      · conv => lhs; rw [ho]
        simp
      · have e1 := fd (t :: (hm ++ (s ++ (scanOffset E r4).1)))
        have e2 := fhm (s ++ (scanOffset E r4).1)
        have e3 : scanOffset.match_1 (fun _ => Str × List Char) (scanSeconds E (s ++ (scanOffset E r4).1)) _ _ = _ :=
          fs _ foe fos
        have e0 : (y1 :: y2 :: y3 :: y4 :: '-' :: td) ++ t :: hm ++ s ++ (scanOffset E r4).1
            = (y1 :: y2 :: y3 :: y4 :: '-' :: td) ++ (t :: (hm ++ (s ++ (scanOffset E r4).1))) := by simp
        rw [e0]
        simp only [scanDateTime, Option.bind_eq_bind, e1, Option.bind_some, ht, if_true, e2, e3, fo,
          Option.pure_def, List.append_nil]
        simp
    · simp at h
  · simp at h

end OQ.AcceptedLex
