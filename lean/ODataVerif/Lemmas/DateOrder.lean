/- For Props/DateOrder.lean: on fixed-width decimal numerals, of any width, the ordinal order `strLt` is the order of the numbers. -/
import ODataVerif.Spec.DateSem
import ODataVerif.Lemmas.Basics
namespace OQ.DateSem
open Spec

theorem digitChar_toNat (k : Nat) : (digitChar k).toNat = 48 + k % 10 := by
  unfold digitChar
  have h : (48 + k % 10).isValidChar := by
    left; omega
  simp [Char.ofNat, h, Char.ofNatAux, Char.toNat]
  omega

theorem digitChar_eq_iff (a b : Nat) : digitChar a = digitChar b ↔ a % 10 = b % 10 := by
  rw [← Char.toNat_inj, digitChar_toNat, digitChar_toNat]; omega

theorem digitVal_digitChar (k : Nat) : digitVal (digitChar k) = some (k % 10) := by
  have z : '0'.toNat = 48 := by decide
  have n : '9'.toNat = 57 := by decide
  have h : '0' ≤ digitChar k ∧ digitChar k ≤ '9' := by
    rw [le_char_iff, le_char_iff, digitChar_toNat, z, n]; omega
  unfold digitVal
  rw [if_pos h, digitChar_toNat]; simp

theorem strLt_cons (a b : Char) (as bs : Str) :
    strLt (a :: as) (b :: bs) = (decide (a.toNat < b.toNat) || (a == b && strLt as bs)) := by
  simp [strLt]

theorem strLt_nil : strLt [] [] = false := rfl

theorem strLt_cons_self (c : Char) (s t : Str) : strLt (c :: s) (c :: t) = strLt s t := by
  rw [strLt_cons, decide_eq_false (Nat.lt_irrefl _), beq_self_eq_true]; rfl

theorem strLt_append : (p q s t : Str) → p.length = q.length →
    strLt (p ++ s) (q ++ t) = (strLt p q || (p == q && strLt s t))
  | [], [], _, _, _ => rfl
  | a :: p, b :: q, s, t, h => by
      rw [List.cons_append, List.cons_append, strLt_cons, strLt_cons, strLt_append p q s t (Nat.succ.inj h),
        List.cons_beq_cons]
      cases decide (a.toNat < b.toNat) <;> cases a == b <;> rfl

/-- the `n` low decimal digits of `k`, most significant first -/
def digs : Nat → Nat → Str
  | 0, _ => []
  | n + 1, k => digs n (k / 10) ++ [digitChar k]

theorem digs_length : (n k : Nat) → (digs n k).length = n
  | 0, _ => rfl
  | n + 1, k => by rw [digs, List.length_append, digs_length n]; rfl

theorem digs_length_eq (n k k' : Nat) : (digs n k).length = (digs n k').length := by
  rw [digs_length, digs_length]

theorem dig2_eq (k : Nat) : dig2 k = digs 2 k := rfl
theorem dig4_eq (k : Nat) : dig4 k = digs 4 k := by
  simp only [digs, dig4, Nat.div_div_eq_div_mul, List.nil_append, List.cons_append]

theorem iso_eq (a : DateV) : a.iso = digs 4 a.y ++ '-' :: (digs 2 a.m ++ '-' :: digs 2 a.d) := by
  rw [DateV.iso, dig4_eq, dig2_eq, dig2_eq, List.append_assoc, List.cons_append]

theorem digs_inj : (n : Nat) → {k k' : Nat} → k < 10 ^ n → k' < 10 ^ n → (digs n k = digs n k' ↔ k = k')
  | 0, k, k', h, h' => by simp only [digs, true_iff]; omega
  | n + 1, k, k', h, h' => by
      rw [Nat.pow_succ] at h h'
      refine ⟨fun e => ?_, fun e => e ▸ rfl⟩
      obtain ⟨e1, e2⟩ := List.append_inj' e rfl
      have := (digs_inj n (k := k / 10) (k' := k' / 10) (by omega) (by omega)).1 e1
      have := (digitChar_eq_iff k k').1 (List.cons.inj e2).1
      omega

theorem digs_beq (n : Nat) {k k' : Nat} (h : k < 10 ^ n) (h' : k' < 10 ^ n) : (digs n k == digs n k') = (k == k') := by
  rw [Bool.eq_iff_iff, beq_iff_eq, beq_iff_eq]; exact digs_inj n h h'

theorem digs_lt : (n : Nat) → {k k' : Nat} → k < 10 ^ n → k' < 10 ^ n → strLt (digs n k) (digs n k') = decide (k < k')
  | 0, k, k', h, h' => by rw [digs, digs, strLt_nil]; exact (decide_eq_false (by omega)).symm
  | n + 1, k, k', h, h' => by
      rw [Nat.pow_succ] at h h'
      rw [digs, digs, strLt_append _ _ _ _ (digs_length_eq ..), digs_lt n (by omega) (by omega),
        digs_beq n (by omega) (by omega), strLt_cons, strLt_nil, digitChar_toNat, digitChar_toNat, Bool.and_false,
        Bool.or_false, Bool.eq_iff_iff]
      simp only [Bool.or_eq_true, Bool.and_eq_true, decide_eq_true_iff, beq_iff_eq]
      omega

end OQ.DateSem
