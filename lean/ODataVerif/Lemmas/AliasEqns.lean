/-
  What `alias`, `subst` and `scopeOk` do at a node, stated once.
  The rewriter and its specification dispatch alike: five node kinds have a `visit_*` method of their own, which
  applies when the fields have the shape it expects (`Special`); every other node is rebuilt from its visited fields.
  `rewrite_induct` is the induction along that dispatch.
-/
import ODataVerif.Model.Rewrite
import ODataVerif.Spec.Subst
namespace OQ.C14
open Spec

theorem aliasItems_cons (m : List (Tree × Tree)) (x : Tree) (r : TreeList) :
    aliasItems m (.cons x r) = .cons (alias m x) (aliasItems m r) := by
  cases x <;> rfl

theorem substItems_cons (m : List (Tree × Tree)) (b : List Tree) (x : Tree) (r : TreeList) :
    substItems m b (.cons x r) = .cons (subst m b x) (substItems m b r) := by
  cases x <;> rfl

/-- a field that is a Python list has its items visited; any other field is visited itself -/
def aliasElem (m : List (Tree × Tree)) : Tree → Tree
  | .list items => .list (aliasItems m items)
  | x => alias m x

def substElem (m : List (Tree × Tree)) (b : List Tree) : Tree → Tree
  | .list items => .list (substItems m b items)
  | x => subst m b x

theorem substElem_node (m : List (Tree × Tree)) (b : List Tree) (k : String) (fs : TreeList) :
    substElem m b (.node k fs) = subst m b (.node k fs) := rfl

theorem aliasElem_eq (m : List (Tree × Tree)) {x : Tree} (h : ∀ items, x ≠ .list items) : aliasElem m x = alias m x := by
  cases x with
  | list items => exact absurd rfl (h items)
  | _ => rfl

theorem substElem_eq (m : List (Tree × Tree)) (b : List Tree) {x : Tree} (h : ∀ items, x ≠ .list items) :
    substElem m b x = subst m b x := by
  cases x with
  | list items => exact absurd rfl (h items)
  | _ => rfl

theorem aliasFields_cons (m : List (Tree × Tree)) (x : Tree) (r : TreeList) :
    aliasFields m (.cons x r) = .cons (aliasElem m x) (aliasFields m r) := by
  cases x <;> rfl

theorem substFields_cons (m : List (Tree × Tree)) (b : List Tree) (x : Tree) (r : TreeList) :
    substFields m b (.cons x r) = .cons (substElem m b x) (substFields m b r) := by
  cases x <;> rfl

inductive Shape
  | strPair    -- `[_, str]`
  | listPair   -- `[_, list]`
  | pair       -- any other two fields
  | other

def shape : TreeList → Shape
  | .cons _ (.cons (.str _) .nil) => .strPair
  | .cons _ (.cons (.list _) .nil) => .listPair
  | .cons _ (.cons _ .nil) => .pair
  | _ => .other

theorem shape_strPair {fs : TreeList} (h : shape fs = .strPair) : ∃ o a, fs = .cons o (.cons (.str a) .nil) := by
  unfold shape at h
  split at h <;> first | exact ⟨_, _, rfl⟩ | cases h

theorem shape_listPair {fs : TreeList} (h : shape fs = .listPair) :
    ∃ f args, fs = .cons f (.cons (.list args) .nil) := by
  unfold shape at h
  split at h <;> first | exact ⟨_, _, rfl⟩ | cases h

theorem shape_pair {fs : TreeList} (h : shape fs ≠ .other) : ∃ x y, fs = .cons x (.cons y .nil) := by
  unfold shape at h
  split at h <;> first | exact ⟨_, _, rfl⟩ | exact absurd rfl h

theorem shape_long (x y z : Tree) (r : TreeList) : shape (.cons x (.cons y (.cons z r))) = .other := by
  cases y <;> rfl

theorem shape_cons_cons (x y : Tree) : shape (.cons x (.cons y .nil)) ≠ .other := by
  cases y <;> simp [shape]

/-- one of the rewriter's own `visit_*` methods applies to `.node k fs` -/
def Special (k : String) (fs : TreeList) : Prop :=
  k = "Identifier" ∨ (k = "Attribute" ∧ shape fs = .strPair) ∨ (k = "Call" ∧ shape fs = .listPair) ∨
    ((k = "NamedParam" ∨ k = "Lambda") ∧ shape fs ≠ .other)

/-- the cases every proof about the rewriter goes through -/
inductive NodeKind : String → TreeList → Prop
  | ident (fs : TreeList) : NodeKind "Identifier" fs
  | attr (o : Tree) (a : Str) : NodeKind "Attribute" (.cons o (.cons (.str a) .nil))
  | call (f : Tree) (args : TreeList) : NodeKind "Call" (.cons f (.cons (.list args) .nil))
  | named (n p : Tree) : NodeKind "NamedParam" (.cons n (.cons p .nil))
  | lambda (i body : Tree) : NodeKind "Lambda" (.cons i (.cons body .nil))
  | generic {k : String} {fs : TreeList} (h : ¬ Special k fs) : NodeKind k fs

theorem nodeKind (k : String) (fs : TreeList) : NodeKind k fs := by
  by_cases h : Special k fs
  · rcases h with rfl | ⟨rfl, h⟩ | ⟨rfl, h⟩ | ⟨rfl | rfl, h⟩
    · exact .ident fs
    · obtain ⟨o, a, rfl⟩ := shape_strPair h; exact .attr o a
    · obtain ⟨f, args, rfl⟩ := shape_listPair h; exact .call f args
    · obtain ⟨n, p, rfl⟩ := shape_pair h; exact .named n p
    · obtain ⟨i, body, rfl⟩ := shape_pair h; exact .lambda i body
  · exact .generic h

theorem alias_call (m : List (Tree × Tree)) (f : Tree) (args : TreeList) :
    alias m (.node "Call" (.cons f (.cons (.list args) .nil))) =
      .node "Call" (.cons f (.cons (.list (aliasItems m args)) .nil)) := by
  conv => lhs; unfold alias
  rfl

theorem alias_named (m : List (Tree × Tree)) (n p : Tree) :
    alias m (.node "NamedParam" (.cons n (.cons p .nil))) = .node "NamedParam" (.cons n (.cons (alias m p) .nil)) := by
  conv => lhs; unfold alias
  rfl

theorem alias_lambda (m : List (Tree × Tree)) (i body : Tree) :
    alias m (.node "Lambda" (.cons i (.cons body .nil))) =
      .node "Lambda" (.cons i (.cons (alias (m.filter (fun kv => rootOf kv.1 != i)) body) .nil)) := by
  conv => lhs; unfold alias
  rfl

theorem alias_generic (m : List (Tree × Tree)) {k : String} {fs : TreeList} (h : ¬ Special k fs) :
    alias m (.node k fs) = .node k (aliasFields m fs) := by
  unfold alias
  by_cases h1 : k = "Identifier"
  · exact absurd (.inl h1) h
  rw [if_neg h1]
  by_cases h2 : k = "Attribute"
  · rw [if_pos h2]
    split
    · exact absurd (.inr (.inl ⟨h2, rfl⟩)) h
    · rfl
  rw [if_neg h2]
  by_cases h3 : k = "Call"
  · rw [if_pos h3]
    split
    · exact absurd (.inr (.inr (.inl ⟨h3, rfl⟩))) h
    · rfl
  rw [if_neg h3]
  by_cases h4 : k = "NamedParam"
  · rw [if_pos h4]
    split
    · exact absurd (.inr (.inr (.inr ⟨.inl h4, shape_cons_cons _ _⟩))) h
    · rfl
  rw [if_neg h4]
  by_cases h5 : k = "Lambda"
  · rw [if_pos h5]
    split
    · exact absurd (.inr (.inr (.inr ⟨.inr h5, shape_cons_cons _ _⟩))) h
    · rfl
  rw [if_neg h5]

theorem subst_ident (m : List (Tree × Tree)) (b : List Tree) (fs : TreeList) :
    subst m b (.node "Identifier" fs) =
      if Tree.node "Identifier" fs ∈ b then .node "Identifier" fs
      else (lookupRepl m (.node "Identifier" fs)).getD (.node "Identifier" fs) := by
  conv => lhs; unfold subst
  simp only [↓reduceIte, List.contains_iff_mem]
  cases lookupRepl m (.node "Identifier" fs) <;> rfl

theorem subst_attr (m : List (Tree × Tree)) (b : List Tree) (o : Tree) (a : Str) :
    subst m b (.node "Attribute" (.cons o (.cons (.str a) .nil))) =
      if rootOf o ∈ b then .node "Attribute" (.cons o (.cons (.str a) .nil))
      else (lookupRepl m (.node "Attribute" (.cons o (.cons (.str a) .nil)))).getD (mkAttr (subst m b o) a) := by
  conv => lhs; unfold subst
  simp only [String.reduceEq, ↓reduceIte, List.contains_iff_mem]
  cases lookupRepl m (.node "Attribute" (.cons o (.cons (.str a) .nil))) <;> rfl

theorem subst_call (m : List (Tree × Tree)) (b : List Tree) (f : Tree) (args : TreeList) :
    subst m b (.node "Call" (.cons f (.cons (.list args) .nil))) =
      .node "Call" (.cons f (.cons (.list (substItems m b args)) .nil)) := by
  conv => lhs; unfold subst
  rfl

theorem subst_named (m : List (Tree × Tree)) (b : List Tree) (n p : Tree) :
    subst m b (.node "NamedParam" (.cons n (.cons p .nil))) =
      .node "NamedParam" (.cons n (.cons (subst m b p) .nil)) := by
  conv => lhs; unfold subst
  rfl

theorem subst_lambda (m : List (Tree × Tree)) (b : List Tree) (i body : Tree) :
    subst m b (.node "Lambda" (.cons i (.cons body .nil))) =
      .node "Lambda" (.cons i (.cons (subst m (i :: b) body) .nil)) := by
  conv => lhs; unfold subst
  rfl

theorem subst_generic (m : List (Tree × Tree)) (b : List Tree) {k : String} {fs : TreeList} (h : ¬ Special k fs) :
    subst m b (.node k fs) = .node k (substFields m b fs) := by
  unfold subst
  by_cases h1 : k = "Identifier"
  · exact absurd (.inl h1) h
  rw [if_neg h1]
  by_cases h2 : k = "Attribute"
  · rw [if_pos h2]
    split
    · exact absurd (.inr (.inl ⟨h2, rfl⟩)) h
    · rfl
  rw [if_neg h2]
  by_cases h3 : k = "Call"
  · rw [if_pos h3]
    split
    · exact absurd (.inr (.inr (.inl ⟨h3, rfl⟩))) h
    · rfl
  rw [if_neg h3]
  by_cases h4 : k = "NamedParam"
  · rw [if_pos h4]
    split
    · exact absurd (.inr (.inr (.inr ⟨.inl h4, shape_cons_cons _ _⟩))) h
    · rfl
  rw [if_neg h4]
  by_cases h5 : k = "Lambda"
  · rw [if_pos h5]
    split
    · exact absurd (.inr (.inr (.inr ⟨.inr h5, shape_cons_cons _ _⟩))) h
    · rfl
  rw [if_neg h5]

theorem scopeOkList_cons {x : Tree} {r : TreeList} :
    scopeOkList (.cons x r) = true ↔ scopeOk x = true ∧ scopeOkList r = true := by
  rw [scopeOkList, Bool.and_eq_true]

theorem scopeOk_attr (o : Tree) (a : Str) :
    scopeOk (.node "Attribute" (.cons o (.cons (.str a) .nil))) = ((isIdentNode o || isAttr o) && scopeOk o) := by
  conv => lhs; unfold scopeOk
  simp [scopeOkList, scopeOk]

theorem scopeOk_lambda (i body : Tree) :
    scopeOk (.node "Lambda" (.cons i (.cons body .nil))) = (isIdentNode i && (scopeOk i && scopeOk body)) := by
  conv => lhs; unfold scopeOk
  simp [scopeOkList]

theorem scopeOk_node {k : String} {fs : TreeList} (h2 : k ≠ "Attribute") (h5 : k ≠ "Lambda") :
    scopeOk (.node k fs) = scopeOkList fs := by
  unfold scopeOk
  rw [if_neg h2, if_neg h5, Bool.true_and]

theorem scopeOk_generic {k : String} {fs : TreeList} (h : ¬ Special k fs) :
    scopeOk (.node k fs) = scopeOkList fs := by
  by_cases h2 : k = "Attribute"
  · unfold scopeOk
    rw [if_pos h2]
    split
    · exact absurd (.inr (.inl ⟨h2, rfl⟩)) h
    · rw [Bool.true_and]
  by_cases h5 : k = "Lambda"
  · unfold scopeOk
    rw [if_neg h2, if_pos h5]
    split
    · exact absurd (.inr (.inr (.inr ⟨.inr h5, shape_cons_cons _ _⟩))) h
    · rw [Bool.true_and]
  exact scopeOk_node h2 h5

/-- Induction along the rewriter's dispatch: `P` at a value (the five `visit_*` methods, then the generic
    rebuild), `Q` down the fields of a node, `R` down the items of a list-valued field. -/
theorem rewrite_induct {P : Tree → Prop} {Q R : TreeList → Prop}
    (ident : ∀ fs, P (.node "Identifier" fs))
    (attr : ∀ o a, P o → P (.node "Attribute" (.cons o (.cons (.str a) .nil))))
    (call : ∀ f args, R args → P (.node "Call" (.cons f (.cons (.list args) .nil))))
    (named : ∀ n p, P p → P (.node "NamedParam" (.cons n (.cons p .nil))))
    (lambda : ∀ i body, P body → P (.node "Lambda" (.cons i (.cons body .nil))))
    (generic : ∀ k fs, ¬ Special k fs → Q fs → P (.node k fs))
    (list : ∀ items, P (.list items)) (tuple : ∀ l, P (.tuple l)) (str : ∀ s, P (.str s)) (none : P .none)
    (fnil : Q .nil)
    (flist : ∀ items rest, R items → Q rest → Q (.cons (.list items) rest))
    (fcons : ∀ x rest, (∀ items, x ≠ .list items) → P x → Q rest → Q (.cons x rest))
    (inil : R .nil) (icons : ∀ x rest, P x → R rest → R (.cons x rest)) :
    (∀ t, P t) ∧ (∀ fs, Q fs) ∧ (∀ xs, R xs) :=
  ⟨tree, fields, items⟩
where
  tree : (t : Tree) → P t
    | .node k fs =>
        -- a `match` (not `cases`) on the node's kind: only through a matcher does Lean see that the calls
        -- below are on fields of this node, and so keep the recursion structural
        match k, fs, nodeKind k fs with
        | _, _, .ident fs => ident fs
        | _, _, .attr o a => attr o a (tree o)
        | _, _, .call f args => call f args (items args)
        | _, _, .named n p => named n p (tree p)
        | _, _, .lambda i body => lambda i body (tree body)
        | k, fs, .generic hg => generic k fs hg (fields fs)
    | .list xs => list xs
    | .tuple l => tuple l
    | .str s => str s
    | .none => none
  fields : (fs : TreeList) → Q fs
    | .nil => fnil
    | .cons (.list xs) rest => flist xs rest (items xs) (fields rest)
    | .cons (.node k fs) rest => fcons _ rest (fun _ => nofun) (tree (.node k fs)) (fields rest)
    | .cons (.tuple l) rest => fcons _ rest (fun _ => nofun) (tuple l) (fields rest)
    | .cons (.str s) rest => fcons _ rest (fun _ => nofun) (str s) (fields rest)
    | .cons .none rest => fcons _ rest (fun _ => nofun) none (fields rest)
  items : (xs : TreeList) → R xs
    | .nil => inil
    | .cons x rest => icons x rest (tree x) (items rest)
end OQ.C14
