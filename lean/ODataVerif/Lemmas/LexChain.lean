/- Lemmas/LexChain.lean — lexing a rendered token list (for Props/C13Text.lean): a rendering is the text of the chain of
   pieces in which every token of `sep ts` is written as `spellTok` writes it, so `lex_chain` is `Respelling.lex_pieces`. -/
import ODataVerif.Lemmas.RespellChain
namespace OQ.LexRender
open Spec Respelling
set_option linter.unusedSimpArgs false
set_option linter.unusedVariables false

theorem TokOk.follow {t : Tok} (ht : isLI t = true) (h : TokOk t) {d : Char} (rest : List Char)
    (hd : isDelim d = true) (hcolon : d = ':' → ∃ i, t = .ident i) :
    lexOne E (spellTok t ++ d :: rest) = some (t, d :: rest) :=
  (TextOk.ofTok h).follow ht rest (Or.inl hd) hcolon

theorem spellTok_length_pos (t : Tok) (ht : isLI t = false) : 1 ≤ (spellTok t).length := by
  have hbin : isBinT t = true → 1 ≤ (spellTok t).length := fun hb => by
    rw [(opTok_spell t hb).2.1]; exact Nat.succ_le_succ (Nat.zero_le _)
  cases t with
  | arith o => exact hbin rfl
  | cmp o => exact hbin rfl
  | bool o => exact hbin rfl
  | lit k v => cases ht
  | ident i => cases ht
  | _ => decide +kernel

theorem blank1 : isBlankRun E [' '] := ⟨nofun, by rw [List.all_cons, space_blank]; rfl⟩

theorem pieceOk_spell {t : Tok} (hok : isLI t = true → TokOk t) : PieceOk ⟨t, spellTok t⟩ := by
  have hbin : isBinT t = true → ∃ w1 k w2, spellTok t = w1 ++ k ++ w2 ∧ isBlankRun E w1 ∧ isBlankRun E w2 ∧
      k.map asciiLower = opWord t := fun hb =>
    ⟨[' '], opWord t, [' '], (opTok_spell t hb).2.1, blank1, blank1, (opTok_spell t hb).2.2⟩
  cases t with
  | lit k v => exact TextOk.ofTok (hok rfl)
  | ident i => exact TextOk.ofTok (hok rfl)
  -- `PieceOk` is unfolded by its equation: as a definitional unfolding the check evaluates the spelling
  | arith o => simp only [PieceOk]; exact hbin rfl
  | cmp o => simp only [PieceOk]; exact hbin rfl
  | bool o => simp only [PieceOk]; exact hbin rfl
  | not_ => exact ⟨"not".toList, [' '], by decide +kernel,
      (by decide +kernel : "not".toList.map asciiLower = "not".toList), blank1⟩
  | any => exact (by decide +kernel : "any".toList.map asciiLower = "any".toList)
  | all => exact (by decide +kernel : "all".toList.map asciiLower = "all".toList)
  | ws => exact blank1
  | uminus | lp | rp | comma | slash | colon | eqs => rfl

/-- the tokens the lexer reads from a rendering, each with its canonical spelling -/
def pieces (ts : List Tok) : List Piece := (sep ts).map fun t => ⟨t, spellTok t⟩

theorem sep_cons_ne {t : Tok} (h : t ≠ .uminus) (r : List Tok) : sep (t :: r) = t :: sep r := by
  cases t <;> first | rfl | exact absurd rfl h

theorem pieces_cons {t : Tok} (ht : t ≠ .uminus) (r : List Tok) : pieces (t :: r) = ⟨t, spellTok t⟩ :: pieces r := by
  rw [pieces, sep_cons_ne ht]; rfl

theorem nextTok_pieces (ts : List Tok) : nextTok (pieces ts) = ts.head? := by
  cases ts with
  | nil => rfl
  | cons t r =>
    by_cases ht : t = .uminus
    · subst ht
      cases r with
      | nil => rfl
      | cons u r' => simp only [pieces, sep]; split <;> rfl
    · rw [pieces_cons ht]; rfl

theorem pieces_render : ∀ ts : List Tok, chainOk false ts → flat (pieces ts) = render ts ∧ pchainOk (pieces ts)
  | [], _ => ⟨rfl, trivial⟩
  | t :: r, ⟨hok, ha, hr⟩ => by
      obtain ⟨ih1, ih2⟩ := pieces_render r hr
      by_cases ht : t = .uminus
      · subst ht
        cases r with
        | nil => cases ha
        | cons u r' =>
          cases hu : isUnsignedNumber u with
          | true =>
            -- `- ` in front of a number: the blank is a piece of its own
            have hs : pieces (.uminus :: u :: r') = ⟨.uminus, ['-']⟩ :: ⟨.ws, [' ']⟩ :: pieces (u :: r') := by
              simp only [pieces, sep, hu, if_true, List.map_cons]; rfl
            have hst : startT u = true := by cases u <;> first | rfl | cases hu
            rw [hs, show render (.uminus :: u :: r') = '-' :: ' ' :: render (u :: r') by simp only [render, hu, if_true]]
            exact ⟨by rw [flat, flat, ih1]; rfl,
              rfl, rfl, blank1, by rw [nextTok_pieces]; simp [adj, hst], ih2⟩
          | false =>
            have hs : pieces (.uminus :: u :: r') = ⟨.uminus, ['-']⟩ :: pieces (u :: r') := by
              simp only [pieces, sep, hu, List.map_cons]; rfl
            rw [hs, show render (.uminus :: u :: r') = '-' :: render (u :: r') by simp only [render, hu, Bool.false_eq_true, if_false]]
            refine ⟨by rw [flat, ih1]; rfl, rfl, ?_, ih2⟩
            rw [nextTok_pieces, adj_strict fun _ v hv => by cases hv; exact hu]
            exact ha
      · rw [pieces_cons ht, show render (t :: r) = spellTok t ++ render r by
          cases t <;> first | rfl | exact absurd rfl ht]
        refine ⟨by rw [flat, ih1], pieceOk_spell hok, ?_, ih2⟩
        rw [nextTok_pieces, adj_strict fun e => absurd e ht]
        exact ha

/-- a rendered token list satisfying the adjacency condition lexes back to its tokens, with a WS
    token where `render` separated a unary minus from an unsigned number -/
theorem lex_chain (ts : List Tok) (h : chainOk false ts) (f pos : Nat) (hf : (render ts).length < f) :
    lexFuel E f pos (render ts) = ⟨sep ts, none⟩ := by
  obtain ⟨hfl, hpc⟩ := pieces_render ts h
  rw [← hfl] at hf ⊢
  rw [lex_pieces _ hpc f pos hf, pieces, List.map_map]
  exact congrArg (LexResult.mk · none) (List.map_id' _)

theorem lexAll_chain (ts : List Tok) (h : chainOk false ts) : lexAll E (render ts) = ⟨sep ts, none⟩ :=
  lex_chain ts h _ 0 (Nat.lt_succ_self _)

theorem adj_mono {t : Tok} {nxt : Option Tok} (h : adj true t nxt = true) : adj false t nxt = true := by
  cases t <;> first | exact h | (cases nxt <;> simp_all [adj])

theorem chainOk_mono : ∀ (ts : List Tok), chainOk true ts → chainOk false ts
  | [], _ => trivial
  | t :: r, h => ⟨h.1, adj_mono h.2.1, chainOk_mono r h.2.2⟩

theorem sep_strict : ∀ (ts : List Tok), chainOk true ts → sep ts = ts
  | [], _ => rfl
  | [t], _ => by cases t <;> rfl
  | t :: u :: r, h => by
      have ih := sep_strict (u :: r) h.2.2
      by_cases ht : t = .uminus
      · subst ht
        have ha : isUnsignedNumber u = false := by
          have := h.2.1
          simp [adj] at this
          exact this.2
        simp only [sep, ha, ih]
        simp
      · rw [sep_cons_ne ht, ih]

end OQ.LexRender
