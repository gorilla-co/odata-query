/-
  The parser side of the SQL round trip (C09): which token lists `Spec.pExpr` reads as which trees, one lemma per
  operator / special form of the parser.  Nothing here mentions the printers.
-/
import ODataVerif.Spec.SqlParse
namespace OQ.SqlPratt
open Spec

def wordLvl (w : Str) : Nat :=
  if w == "OR".toList then 1
  else if w == "AND".toList then 2
  else if w == "IS".toList then 4
  else if w == "IN".toList then 4
  else if w == "LIKE".toList then 4
  else 0

def opLvl (s : Str) : Nat :=
  if isCmpOp s then 4 else if isAddOp s || isCatOp s then 5 else if isMulOp s then 6 else 100

/-- an operator loop at minimum level `k` (and every expression read at a level `≥ k`) ends in front of
    `ts`: the head is `)`, `,`, a neutral word, or an operator of level `< k`.  Never `ESCAPE`, an
    unknown operator, or a token that would extend an atom (`.`, `(`, a literal). -/
def stops (k : Nat) : List SqlTok → Bool
  | [] => true
  | .rp :: _ => true
  | .comma :: _ => true
  | .word w :: _ => (wordLvl w == 0 || wordLvl w < k) && w != "ESCAPE".toList
  | .op s :: _ => decide (opLvl s < k) && decide (opLvl s ≤ 6)
  | _ => false

/-- what must not follow an expression whose top operator has level `L` -/
def bnd (L : Nat) : Nat := if L = 4 then 4 else L + 1

abbrev EvE (N m : Nat) (ts : List SqlTok) (R : SqlTree × Bool × List SqlTok) : Prop :=
  ∀ f, N ≤ f → pExpr f m ts = some R
abbrev EvL (N m : Nat) (lhs : SqlTree) (a : Bool) (ts : List SqlTok) (R : SqlTree × Bool × List SqlTok) : Prop :=
  ∀ f, N ≤ f → pLoop f m lhs a ts = some R
abbrev EvP (N m : Nat) (ts : List SqlTok) (R : SqlTree × Bool × List SqlTok) : Prop :=
  ∀ f, N ≤ f → pPrefix f m ts = some R
abbrev EvA (N : Nat) (ts : List SqlTok) (R : SqlTrees × List SqlTok) : Prop :=
  ∀ f, N ≤ f → pArgs f ts = some R

/-- two words given as literals are compared as strings, by `String.reduceEq`; deciding the equality of their
    character lists is slow -/
theorem toList_beq (a b : String) : ((a.toList == b.toList) = true) = (a = b) := by
  simp only [beq_iff_eq, String.toList_inj]

theorem stops_mono {k k' : Nat} {ts : List SqlTok} (h : stops k ts = true) (hk : k ≤ k') : stops k' ts = true := by
  cases ts with
  | nil => rfl
  | cons t r =>
    cases t <;> simp [stops] at h ⊢
    · rcases h with ⟨h | h, h2⟩
      · exact ⟨Or.inl h, h2⟩
      · exact ⟨Or.inr (by omega), h2⟩
    · omega

theorem wordLvl_cases (w : Str) : wordLvl w = 0 ∨ wordLvl w = 1 ∨ wordLvl w = 2 ∨ wordLvl w = 4 := by
  unfold wordLvl; repeat' split
  all_goals simp

theorem opLvl_cases (s : Str) : opLvl s = 4 ∨ opLvl s = 5 ∨ opLvl s = 6 ∨ opLvl s = 100 := by
  unfold opLvl; repeat' split
  all_goals simp

/-- the levels of the infix operators are 1, 2, 4, 5, 6: where none of them lies in `[k', k)`, stopping at `k` is
    stopping at `k'` -/
theorem stops_gap {k k' : Nat} (hg : ∀ L ∈ [1, 2, 4, 5, 6], L < k → L < k') {ts : List SqlTok} (h : stops k ts = true) :
    stops k' ts = true := by
  simp only [List.mem_cons, List.not_mem_nil, or_false, forall_eq_or_imp, forall_eq] at hg
  cases ts with
  | nil => rfl
  | cons t r =>
    cases t with
    | word w =>
      simp only [stops, Bool.and_eq_true, Bool.or_eq_true, beq_iff_eq, decide_eq_true_eq] at h ⊢
      refine ⟨?_, h.2⟩
      rcases wordLvl_cases w with h' | h' | h' | h' <;> omega
    | op s =>
      simp only [stops, Bool.and_eq_true, decide_eq_true_eq] at h ⊢
      rcases opLvl_cases s with h' | h' | h' | h' <;> omega
    | _ => exact h

theorem bnd_ge (L : Nat) : L ≤ bnd L := by unfold bnd; split <;> omega
theorem bnd_mono {L L' : Nat} (h : L ≤ L') : bnd L ≤ bnd L' := by unfold bnd; split <;> split <;> omega

theorem cmpHead_of_stops4 {ts : List SqlTok} (h : stops 4 ts = true) : cmpHead ts = false := by
  cases ts with
  | nil => rfl
  | cons t r =>
    cases t <;> simp [stops] at h <;> simp [cmpHead]
    · rename_i w
      refine ⟨⟨?_, ?_⟩, ?_⟩ <;> intro hw <;> subst hw <;> revert h <;> decide
    · rename_i s
      unfold opLvl at h
      split at h
      · omega
      · rename_i hc; simpa using hc

theorem loop_stop (f m lhs a ts) (h : stops m ts = true) :
    pLoop (f+1) m lhs a ts = some (lhs, a, ts) := by
  cases ts with
  | nil => simp only [pLoop]
  | cons t r =>
    cases t with
    | word w =>
      simp only [stops, Bool.and_eq_true, Bool.or_eq_true, beq_iff_eq, decide_eq_true_eq, bne_iff_ne] at h
      obtain ⟨h, -⟩ := h
      unfold wordLvl at h
      simp only [pLoop]
      split at h
      · rename_i h1; rw [if_pos h1, if_neg (by omega)]
      rename_i h1; rw [if_neg h1]
      split at h
      · rename_i h2; rw [if_pos h2, if_neg (by omega)]
      rename_i h2; rw [if_neg h2]
      split at h
      · rename_i h3; rw [if_pos h3, if_neg (by omega)]
      rename_i h3; rw [if_neg h3]
      split at h
      · rename_i h4; rw [if_pos h4, if_neg (by omega)]
      rename_i h4; rw [if_neg h4]
      split at h
      · rename_i h5; rw [if_pos h5, if_neg (by omega)]
      rename_i h5; rw [if_neg h5]
    | op s =>
      simp only [stops, Bool.and_eq_true, decide_eq_true_eq] at h
      obtain ⟨h, h6⟩ := h
      unfold opLvl at h h6
      simp only [pLoop]
      split at h
      · rename_i h1; rw [if_pos h1, if_neg (by omega)]
      rename_i h1; rw [if_neg h1]
      split at h
      · rename_i h2; rw [if_pos h2, if_neg (by omega)]
      rename_i h2; rw [if_neg h2]
      split at h
      · rename_i h3; rw [if_pos h3, if_neg (by omega)]
      · rename_i h3; simp [h1, h2, h3] at h6
    | rp | comma => simp only [pLoop]
    | _ => cases h

theorem expr_step (f m ts t a r) (h : pPrefix f m ts = some (t, a, r)) :
    pExpr (f+1) m ts = pLoop f m t a r := by simp [pExpr, h]

theorem lt_bnd {k L : Nat} (h : k ≤ L) (h' : k ≠ 4) : k < bnd L := by
  unfold bnd; split <;> omega

theorem lt_bnd_of_lt {k L : Nat} (h : k < L) : k < bnd L := Nat.lt_of_lt_of_le h (bnd_ge L)

theorem pExpr_rp_none (f m r) : pExpr f m (.rp :: r) = none := by
  cases f with
  | zero => simp [pExpr]
  | succ f => cases f <;> simp [pExpr, pPrefix]

theorem args_nil (f r) : pArgs (f+1) (.rp :: r) = some (.nil, r) := by simp [pArgs]

theorem args_last (f ts e ea r) (h : pExpr f 0 ts = some (e, ea, .rp :: r)) :
    pArgs (f+1) ts = some (.cons e .nil, r) := by
  cases ts with
  | nil => simp [pArgs, h]
  | cons t r0 =>
    cases t <;> first | (rw [pExpr_rp_none] at h; simp at h) | simp [pArgs, h]

theorem args_more (f ts e ea r rest r') (h : pExpr f 0 ts = some (e, ea, .comma :: r))
    (h2 : pArgs f r = some (rest, r')) :
    pArgs (f+1) ts = some (.cons e rest, r') := by
  cases ts with
  | nil => simp [pArgs, h, h2]
  | cons t r0 =>
    cases t <;> first | (rw [pExpr_rp_none] at h; simp at h) | simp [pArgs, h, h2]

/-- `T` reads as an operand whose top operator has level `L`, in continuation-passing form: whatever the
    operator loop makes of the tree `t` (with atomicity flag `a`) in front of `rest`, `pExpr` makes of `T ++ rest` -/
def Opd (L : Nat) (T : List SqlTok) (t : SqlTree) (a : Bool) : Prop :=
  ∀ (m : Nat) (rest : List SqlTok) (R : SqlTree × Bool × List SqlTok) (N : Nat), 1 ≤ N → m ≤ L →
    stops (bnd L) rest = true → EvL N m t a rest R → EvE (N + 4 * T.length + 1) m (T ++ rest) R

/-- `pPrefix` reads `T` completely, as an atom -/
def Atom (T : List SqlTok) (t : SqlTree) : Prop :=
  ∀ (m : Nat) (rest : List SqlTok), stops 9 rest = true → EvP (4 * T.length) m (T ++ rest) (t, true, rest)

/-- `pExpr` at level `m` reads exactly `T` -/
def ReadsAt (m : Nat) (T : List SqlTok) (t : SqlTree) : Prop :=
  ∀ rest, stops m rest = true → ∃ a, EvE (4 * T.length + 2) m (T ++ rest) (t, a, rest)

theorem evl_stop {m : Nat} {rest : List SqlTok} (t : SqlTree) (a : Bool) (h : stops m rest = true) :
    EvL 1 m t a rest (t, a, rest) := by
  intro f hf
  obtain ⟨f', rfl⟩ : ∃ f', f = f' + 1 := ⟨f - 1, by omega⟩
  exact loop_stop _ _ _ _ _ h

theorem opd_mono {L L' T t a} (h : Opd L T t a) (hL : L' ≤ L) : Opd L' T t a := by
  intro m rest R N hN hm hst hl
  exact h m rest R N hN (by omega) (stops_mono hst (bnd_mono hL)) hl

theorem atom_opd {T t} (h : Atom T t) : Opd 8 T t true := by
  intro m rest R N hN _ hst hl f hf
  obtain ⟨f', rfl⟩ : ∃ f', f = f' + 1 := ⟨f - 1, by omega⟩
  rw [expr_step _ _ _ _ _ _ (h m rest hst f' (by omega))]
  exact hl f' (by omega)

theorem opd_reads' {L T t a m} (h : Opd L T t a) (hm : m ≤ L) {rest} (hst : stops m rest = true) :
    EvE (4 * T.length + 2) m (T ++ rest) (t, a, rest) := by
  have := h m rest (t, a, rest) 1 (Nat.le_refl 1) hm (stops_mono hst (Nat.le_trans hm (bnd_ge L))) (evl_stop t a hst)
  intro f hf
  exact this f (by omega)

theorem opd_reads {L T t a m} (h : Opd L T t a) (hm : m ≤ L) : ReadsAt m T t :=
  fun _ hst => ⟨a, opd_reads' h hm hst⟩

/-- fuel bookkeeping for `Atom`: one unit for `pPrefix` itself, the rest for what it calls -/
theorem atom_intro {tk : SqlTok} {T : List SqlTok} {t : SqlTree}
    (h : ∀ f m rest, 4 * (T.length + 1) ≤ f + 1 → stops 9 rest = true →
      pPrefix (f+1) m (tk :: (T ++ rest)) = some (t, true, rest)) : Atom (tk :: T) t := by
  intro m rest hst f hf
  obtain ⟨f', rfl⟩ : ∃ f', f = f' + 1 := ⟨f - 1, by simp only [List.length_cons] at hf; omega⟩
  exact h f' m rest hf hst

theorem atom_num (s : Str) : Atom [.num s] (.num s) :=
  atom_intro fun _ _ _ _ _ => by simp only [pPrefix, List.nil_append]
theorem atom_str (s : Str) : Atom [.str s] (.str s) :=
  atom_intro fun _ _ _ _ _ => by simp only [pPrefix, List.nil_append]
theorem atom_qcol (a b : Str) : Atom [.qid a, .dot, .qid b] (.col (some a) b) :=
  atom_intro fun _ _ _ _ _ => by simp only [pPrefix, List.cons_append, List.nil_append]
theorem atom_interval (n u : Str) : Atom [.word "INTERVAL".toList, .str n, .word u] (.interval n u) :=
  atom_intro fun _ _ _ _ _ => by simp only [toList_beq, String.reduceEq, pPrefix, List.cons_append, List.nil_append, if_true, if_false]

/-- a column name alone: what follows is not the `.` of a qualified name -/
theorem atom_col (a : Str) : Atom [.qid a] (.col none a) :=
  atom_intro fun _ _ rest _ hst => by
    cases rest with
    | nil => simp only [pPrefix, List.nil_append]
    | cons t r' => cases t <;> simp [stops] at hst <;> simp only [pPrefix, List.nil_append]

/-- the words that start a special form of the parser, as character lists: the kernel decodes a string literal anew
    every time `plainWord` is evaluated on a fixed word -/
def specialWords : List Str :=
  [['N', 'O', 'T'], ['C', 'A', 'S', 'T'], ['E', 'X', 'T', 'R', 'A', 'C', 'T'], ['P', 'O', 'S', 'I', 'T', 'I', 'O', 'N'],
   ['S', 'U', 'B', 'S', 'T', 'R', 'I', 'N', 'G'], ['I', 'N', 'T', 'E', 'R', 'V', 'A', 'L']]

theorem specialWords_eq :
    specialWords = ["NOT", "CAST", "EXTRACT", "POSITION", "SUBSTRING", "INTERVAL"].map String.toList := by decide +kernel

/-- a word that starts none of the special forms -/
def plainWord (w : Str) : Bool := !specialWords.contains w

theorem plainWord_ne {w : Str} (h : plainWord w = true) :
    (w == "NOT".toList) = false ∧ (w == "CAST".toList) = false ∧ (w == "EXTRACT".toList) = false ∧
    (w == "POSITION".toList) = false ∧ (w == "SUBSTRING".toList) = false ∧ (w == "INTERVAL".toList) = false := by
  simpa [plainWord, specialWords_eq, not_or] using h

theorem atom_kw (w : Str) (hw : plainWord w = true) (hk : kwAtoms.contains (String.ofList w) = true) :
    Atom [.word w] (.kw w) :=
  atom_intro fun _ _ rest _ hst => by
    obtain ⟨h1, h2, h3, h4, h5, h6⟩ := plainWord_ne hw
    simp only [pPrefix, h1, h2, h3, h4, h5, h6, List.nil_append]
    have hk' : String.ofList w ∈ kwAtoms := by simpa using hk
    cases rest with
    | nil => simp [hk']
    | cons t r' => cases t <;> simp [stops] at hst <;> simp [hk']

theorem atom_kw_null : Atom [.word "NULL".toList] (.kw "NULL".toList) := atom_kw _ (by decide) (by decide)

theorem atom_typed (w s : Str) (hw : plainWord w = true) (hk : typedKinds.contains (String.ofList w) = true) :
    Atom [.word w, .str s] (.typed w s) :=
  atom_intro fun _ _ _ _ _ => by
    obtain ⟨h1, h2, h3, h4, h5, h6⟩ := plainWord_ne hw
    simp only [pPrefix, h1, h2, h3, h4, h5, h6, hk, List.cons_append, List.nil_append]
    simp

theorem atom_paren {L T t a} (h : Opd L T t a) : Atom (.lp :: (T ++ [.rp])) t :=
  atom_intro fun f m rest hf _ => by
    simp only [List.length_append, List.length_cons, List.length_nil] at hf
    obtain ⟨f', rfl⟩ : ∃ f', f = f' + 1 := ⟨f - 1, by omega⟩
    have h1 := opd_reads' h (Nat.zero_le L) (rest := .rp :: rest) rfl f' (by omega)
    simp only [pPrefix, List.append_assoc, List.cons_append, List.nil_append, args_last _ _ _ _ _ h1]

/-- an infix form at level `Lop`: after the left operand `A`, one step of the loop consumes the tokens `tk :: X`
    (the operator and all that belongs to it) and goes on with the tree `t'` -/
theorem opd_infix (Lop : Nat) (tk : SqlTok) (X : List SqlTok) (t' : SqlTree) {La A ta aa}
    (hstopTok : ∀ ts, stops (bnd La) (tk :: ts) = true) (hA : Opd La A ta aa) (hLa : Lop ≤ La)
    (hstep : ∀ f m rest, 4 * (X.length + 1) ≤ f + 1 → m ≤ Lop → stops (bnd Lop) rest = true →
       pLoop (f+1) m ta aa (tk :: (X ++ rest)) = pLoop f m t' false rest) :
    Opd Lop (A ++ tk :: X) t' false := by
  intro m rest R N hN hm hst hl f hf
  simp only [List.length_cons, List.length_append] at hf
  have key : EvL (N + 4 * (X.length + 1)) m ta aa (tk :: (X ++ rest)) R := by
    intro f hf
    obtain ⟨f', rfl⟩ : ∃ f', f = f' + 1 := ⟨f - 1, by omega⟩
    rw [hstep f' m rest (by omega) hm hst]
    exact hl f' (by omega)
  simpa using hA m (tk :: (X ++ rest)) R _ (by omega) (by omega) (hstopTok _) key f (by omega)

/-- binary operator: operator tokens `tk :: tks`, right operand read at level `rl` -/
theorem opd_binary (Lop rl : Nat) (tk : SqlTok) (tks : List SqlTok) (mk : SqlTree → SqlTree → SqlTree)
    {La A ta aa Lb B tb ab}
    (hstopTok : ∀ ts, stops (bnd La) (tk :: ts) = true)
    (hA : Opd La A ta aa) (hLa : Lop ≤ La)
    (hB : Opd Lb B tb ab) (hLb : rl ≤ Lb) (hrl : bnd Lop ≤ rl)
    (hstep : ∀ f m rest, m ≤ Lop → stops (bnd Lop) rest = true → pExpr f rl (B ++ rest) = some (tb, ab, rest) →
       pLoop (f+1) m ta aa (tk :: (tks ++ (B ++ rest))) = pLoop f m (mk ta tb) false rest) :
    Opd Lop (A ++ tk :: (tks ++ B)) (mk ta tb) false :=
  opd_infix Lop tk (tks ++ B) (mk ta tb) hstopTok hA hLa fun f m rest hf hm hst => by
    simp only [List.length_append] at hf
    rw [List.append_assoc]
    exact hstep f m rest hm hst (opd_reads' hB hLb (stops_mono hst hrl) f (by omega))

theorem wordLvl_or : wordLvl "OR".toList = 1 := by simp only [wordLvl, toList_beq, if_true]
theorem wordLvl_and : wordLvl "AND".toList = 2 := by simp only [wordLvl, toList_beq, String.reduceEq, if_true, if_false]
theorem wordLvl_is : wordLvl "IS".toList = 4 := by simp only [wordLvl, toList_beq, String.reduceEq, if_true, if_false]
theorem wordLvl_in : wordLvl "IN".toList = 4 := by simp only [wordLvl, toList_beq, String.reduceEq, if_true, if_false]
theorem wordLvl_like : wordLvl "LIKE".toList = 4 := by simp only [wordLvl, toList_beq, String.reduceEq, if_true, if_false]

/-- an infix word of a level `L` below `k` -/
theorem stops_word_lvl (k : Nat) (w : String) (ts : List SqlTok) {L : Nat} (hL : wordLvl w.toList = L) (hw : L < k)
    (he : w ≠ "ESCAPE") : stops k (.word w.toList :: ts) = true := by
  simp only [stops, hL, Bool.and_eq_true, Bool.or_eq_true, decide_eq_true_eq, bne_iff_ne, ne_eq, String.toList_inj]
  exact ⟨Or.inr hw, he⟩

/-- a word that is neither an infix operator nor `ESCAPE` ends every operator loop -/
theorem stops_word_neutral (k : Nat) (w : String) (ts : List SqlTok)
    (hw : w ∉ ["OR", "AND", "IS", "IN", "LIKE", "ESCAPE"]) : stops k (.word w.toList :: ts) = true := by
  simp only [List.mem_cons, List.not_mem_nil, or_false, not_or] at hw
  obtain ⟨h1, h2, h3, h4, h5, h6⟩ := hw
  have hl : wordLvl w.toList = 0 := by simp only [wordLvl, toList_beq, h1, h2, h3, h4, h5, if_false]
  simp only [stops, hl, beq_self_eq_true, Bool.true_or, Bool.true_and, bne_iff_ne, ne_eq, String.toList_inj]
  exact h6

theorem stops_op_lvl (k : Nat) (s : Str) (ts : List SqlTok) (hs : opLvl s < k) (h6 : opLvl s ≤ 6) :
    stops k (.op s :: ts) = true := by
  simp only [stops, Bool.and_eq_true, decide_eq_true_eq]
  exact ⟨hs, h6⟩

theorem opd_or {La A ta aa Lb B tb ab} (hA : Opd La A ta aa) (hLa : 1 ≤ La) (hB : Opd Lb B tb ab) (hLb : 2 ≤ Lb) :
    Opd 1 (A ++ .word "OR".toList :: B) (.bin "OR".toList ta tb) false :=
  opd_binary 1 2 (.word "OR".toList) [] (.bin "OR".toList)
    (fun ts => stops_word_lvl _ "OR" ts wordLvl_or (lt_bnd hLa (by decide)) (by simp)) hA hLa hB hLb (by decide)
    fun f m rest hm _ h => by simp only [toList_beq, String.reduceEq, pLoop, List.nil_append, hm, h, if_true]

theorem opd_and {La A ta aa Lb B tb ab} (hA : Opd La A ta aa) (hLa : 2 ≤ La) (hB : Opd Lb B tb ab) (hLb : 3 ≤ Lb) :
    Opd 2 (A ++ .word "AND".toList :: B) (.bin "AND".toList ta tb) false :=
  opd_binary 2 3 (.word "AND".toList) [] (.bin "AND".toList)
    (fun ts => stops_word_lvl _ "AND" ts wordLvl_and (lt_bnd hLa (by decide)) (by simp)) hA hLa hB hLb (by decide)
    fun f m rest hm _ h => by simp only [toList_beq, String.reduceEq, pLoop, List.nil_append, hm, h, if_true, if_false]

theorem opd_cmp (s : Str) (hs : isCmpOp s = true) {La A ta aa Lb B tb ab}
    (hA : Opd La A ta aa) (hLa : 5 ≤ La) (hB : Opd Lb B tb ab) (hLb : 5 ≤ Lb) :
    Opd 4 (A ++ .op s :: B) (.bin s ta tb) false :=
  opd_binary 4 5 (.op s) [] (.bin s)
    (fun ts => stops_op_lvl _ _ ts (by simp only [opLvl, hs, if_true]; exact lt_bnd_of_lt hLa) (by simp [opLvl, hs]))
    hA (by omega) hB hLb (by decide)
    fun f m rest hm hst h => by
      simp only [pLoop, List.nil_append, hs, hm, h, cmpHead_of_stops4 hst, if_true, Bool.false_eq_true, if_false]

theorem opd_is_null {La A ta aa} (hA : Opd La A ta aa) (hLa : 5 ≤ La) :
    Opd 4 (A ++ [.word "IS".toList, .word "NULL".toList]) (.bin "IS".toList ta (.kw "NULL".toList)) false :=
  opd_binary 4 5 (.word "IS".toList) [] (.bin "IS".toList)
    (fun ts => stops_word_lvl _ "IS" ts wordLvl_is (lt_bnd_of_lt hLa) (by simp)) hA (by omega) (atom_opd atom_kw_null) (by omega) (by decide)
    fun f m rest hm hst h => by
      rw [List.cons_append, List.nil_append] at h
      simp only [toList_beq, String.reduceEq, pLoop, List.nil_append, List.cons_append, hm, h, cmpHead_of_stops4 hst,
        Bool.false_eq_true, if_true, if_false]

theorem opd_isnot_null {La A ta aa} (hA : Opd La A ta aa) (hLa : 5 ≤ La) :
    Opd 4 (A ++ [.word "IS".toList, .word "NOT".toList, .word "NULL".toList])
      (.bin "ISNOT".toList ta (.kw "NULL".toList)) false :=
  opd_binary 4 5 (.word "IS".toList) [.word "NOT".toList] (.bin "ISNOT".toList)
    (fun ts => stops_word_lvl _ "IS" ts wordLvl_is (lt_bnd_of_lt hLa) (by simp)) hA (by omega) (atom_opd atom_kw_null) (by omega) (by decide)
    fun f m rest hm hst h => by
      rw [List.cons_append, List.nil_append] at h
      simp only [toList_beq, String.reduceEq, pLoop, List.nil_append, List.cons_append, hm, h, cmpHead_of_stops4 hst,
        Bool.false_eq_true, if_true, if_false]

/-- the `||`-versus-arithmetic check of the parser, for one operand -/
def mixOk (s : Str) (a : Bool) (t : SqlTree) : Bool :=
  if isCatOp s then a || !isArithTree t else a || !isCatTree t

theorem opd_add (s : Str) (hc : isCmpOp s = false) (hs : (isAddOp s || isCatOp s) = true) {La A ta aa Lb B tb ab}
    (hA : Opd La A ta aa) (hLa : 5 ≤ La) (hB : Opd Lb B tb ab) (hLb : 6 ≤ Lb)
    (hma : mixOk s aa ta = true) (hmb : mixOk s ab tb = true) :
    Opd 5 (A ++ .op s :: B) (.bin s ta tb) false :=
  opd_binary 5 6 (.op s) [] (.bin s)
    (fun ts => stops_op_lvl _ _ ts
      (by simp only [opLvl, hc, hs, if_true, Bool.false_eq_true, if_false]; exact lt_bnd hLa (by omega))
      (by simp [opLvl, hs, hc])) hA hLa hB hLb (by decide)
    fun f m rest hm hst h => by
      have hbad : (if isCatOp s then (!aa && isArithTree ta) || (!ab && isArithTree tb)
          else (!aa && isCatTree ta) || (!ab && isCatTree tb)) = false := by
        unfold mixOk at hma hmb
        split <;> rename_i h1 <;> simp only [h1, if_true, Bool.false_eq_true, if_false] at hma hmb <;>
          cases aa <;> cases ab <;> simp_all
      simp only [pLoop, List.nil_append, hc, hs, if_true, hm, h, hbad]; simp

theorem opd_mul (s : Str) (hc : isCmpOp s = false) (hs' : (isAddOp s || isCatOp s) = false) (hs : isMulOp s = true)
    {La A ta aa Lb B tb ab}
    (hA : Opd La A ta aa) (hLa : 6 ≤ La) (hB : Opd Lb B tb ab) (hLb : 7 ≤ Lb)
    (hma : (aa || !isCatTree ta) = true) (hmb : (ab || !isCatTree tb) = true) :
    Opd 6 (A ++ .op s :: B) (.bin s ta tb) false :=
  opd_binary 6 7 (.op s) [] (.bin s)
    (fun ts => stops_op_lvl _ _ ts
      (by simp only [opLvl, hc, hs, hs', if_true, Bool.false_eq_true, if_false]; exact lt_bnd hLa (by omega))
      (by simp [opLvl, hs, hs', hc])) hA hLa hB hLb (by decide)
    fun f m rest hm hst h => by
      have hbad : ((!aa && isCatTree ta) || (!ab && isCatTree tb)) = false := by
        cases aa <;> cases ab <;> simp_all
      simp only [pLoop, List.nil_append, hc, hs', hs, if_true, hm, h, hbad]; simp

/-- a prefix operator: `tk` in front of an operand read at level `rl` -/
theorem opd_prefix (Lop rl : Nat) (tk : SqlTok) (mk : SqlTree → SqlTree) {L X t a} (hX : Opd L X t a) (hL : rl ≤ L)
    (hgap : ∀ rest, stops (bnd Lop) rest = true → stops rl rest = true)
    (hstep : ∀ f m rest ea, m ≤ Lop → pExpr f rl (X ++ rest) = some (t, ea, rest) →
      pPrefix (f+1) m (tk :: (X ++ rest)) = some (mk t, false, rest)) :
    Opd Lop (tk :: X) (mk t) false := by
  intro m rest R N hN hm hst hl f hf
  simp only [List.length_cons] at hf
  obtain ⟨f', rfl⟩ : ∃ f', f = f' + 2 := ⟨f - 2, by omega⟩
  rw [List.cons_append, expr_step _ _ _ _ _ _ (hstep f' m rest a hm (opd_reads' hX hL (hgap rest hst) f' (by omega)))]
  exact hl _ (by omega)

theorem opd_neg (s : Str) (hs : isAddOp s = true) {L X t a} (hX : Opd L X t a) (hL : 7 ≤ L) :
    Opd 8 (.op s :: X) (.un s t) false :=
  opd_prefix 8 7 (.op s) (.un s) hX hL (fun _ => stops_gap (by decide)) fun f m rest ea _ h => by
    simp only [pPrefix, hs, h, if_true]

theorem opd_not {L X t a} (hX : Opd L X t a) (hL : 3 ≤ L) :
    Opd 3 (.word "NOT".toList :: X) (.un "NOT".toList t) false :=
  opd_prefix 3 3 (.word "NOT".toList) (.un "NOT".toList) hX hL (fun _ => stops_gap (by decide)) fun f m rest ea hm h => by
    simp only [toList_beq, String.reduceEq, pPrefix, hm, h, if_true]

/-- `LIKE` without `ESCAPE`: after the pattern comes a token at which a comparison may end, so not `ESCAPE` -/
theorem opd_like {La A ta aa Lp P pat ap} (hA : Opd La A ta aa) (hLa : 5 ≤ La) (hP : Opd Lp P pat ap) (hLp : 5 ≤ Lp) :
    Opd 4 (A ++ .word "LIKE".toList :: P) (.like ta pat none) false :=
  opd_binary 4 5 (.word "LIKE".toList) [] (fun l p => .like l p none)
    (fun ts => stops_word_lvl _ "LIKE" ts wordLvl_like (lt_bnd_of_lt hLa) (by simp)) hA (by omega) hP hLp (by decide)
    fun f m rest hm hst h => by
      have hc := cmpHead_of_stops4 hst
      simp only [toList_beq, String.reduceEq, pLoop, List.nil_append, hm, h, if_true, if_false]
      split
      · rename_i e c r''
        have he : (e == "ESCAPE".toList) = false := by
          simp only [stops, Bool.and_eq_true, bne_iff_ne, ne_eq] at hst
          exact beq_eq_false_iff_ne.mpr hst.2
        simp only [he, hc, Bool.false_eq_true, if_false]
      · simp only [hc, Bool.false_eq_true, if_false]

theorem opd_like_esc {La A ta aa} (s c : Str) (hA : Opd La A ta aa) (hLa : 5 ≤ La) :
    Opd 4 (A ++ [.word "LIKE".toList, .str s, .word "ESCAPE".toList, .str c]) (.like ta (.str s) (some c)) false :=
  opd_infix 4 (SqlTok.word "LIKE".toList) [SqlTok.str s, SqlTok.word "ESCAPE".toList, SqlTok.str c] (.like ta (.str s) (some c))
    (fun ts => stops_word_lvl _ "LIKE" ts wordLvl_like (lt_bnd_of_lt hLa) (by simp)) hA (by omega) fun f m rest hf hm hst => by
    have h1 : pExpr f 5 (.str s :: .word "ESCAPE".toList :: .str c :: rest)
        = some (.str s, true, .word "ESCAPE".toList :: .str c :: rest) := by
      obtain ⟨g, rfl⟩ : ∃ g, f = g + 2 := ⟨f - 2, by simp only [List.length_cons, List.length_nil] at hf; omega⟩
      simp only [toList_beq, String.reduceEq, pExpr, pPrefix, pLoop, if_false]
    simp only [toList_beq, String.reduceEq, pLoop, List.cons_append, List.nil_append, hm, h1, cmpHead_of_stops4 hst,
      Bool.false_eq_true, if_true, if_false]

theorem opd_in {La A ta aa} (TA : List SqlTok) (items : SqlTrees) (hA : Opd La A ta aa) (hLa : 5 ≤ La)
    (hargs : ∀ rest, EvA (4 * TA.length + 3) (TA ++ .rp :: rest) (items, rest)) :
    Opd 4 (A ++ .word "IN".toList :: .lp :: (TA ++ [.rp])) (.inl ta items) false :=
  opd_infix 4 (SqlTok.word "IN".toList) (SqlTok.lp :: (TA ++ [SqlTok.rp])) (.inl ta items)
    (fun ts => stops_word_lvl _ "IN" ts wordLvl_in (lt_bnd_of_lt hLa) (by simp)) hA (by omega) fun f m rest hf hm hst => by
    simp only [List.length_cons, List.length_append, List.length_nil] at hf
    simp only [toList_beq, String.reduceEq, pLoop, List.cons_append, List.append_assoc, List.nil_append, hm, hargs rest f (by omega),
      cmpHead_of_stops4 hst, Bool.false_eq_true, if_true, if_false]

def joinT : List (List SqlTok) → List SqlTok
  | [] => []
  | [a] => a
  | a :: rest => a ++ .comma :: joinT rest

def ReadsL : List (List SqlTok) → SqlTrees → Prop
  | [], .nil => True
  | T :: Ts, .cons t ts => ReadsAt 0 T t ∧ ReadsL Ts ts
  | _, _ => False

theorem args_reads : ∀ (Ts : List (List SqlTok)) (trees : SqlTrees), ReadsL Ts trees →
    ∀ rest, EvA (4 * (joinT Ts).length + 3) (joinT Ts ++ .rp :: rest) (trees, rest)
  | [], .nil, _ => by
      intro rest f hf
      obtain ⟨f', rfl⟩ : ∃ f', f = f' + 1 := ⟨f - 1, by omega⟩
      simpa [joinT] using args_nil f' rest
  | [], .cons _ _, h => by simp [ReadsL] at h
  | _ :: _, .nil, h => by simp [ReadsL] at h
  | [T], .cons t .nil, h => by
      intro rest f hf
      simp only [joinT] at hf ⊢
      obtain ⟨f', rfl⟩ : ∃ f', f = f' + 1 := ⟨f - 1, by omega⟩
      obtain ⟨a, ha⟩ := h.1 (.rp :: rest) rfl
      exact args_last _ _ _ _ _ (ha f' (by omega))
  | [T], .cons t (.cons _ _), h => by simp [ReadsL] at h
  | T :: T2 :: Ts, .cons t ts, h => by
      intro rest f hf
      simp only [joinT, List.length_append, List.length_cons] at hf ⊢
      obtain ⟨f', rfl⟩ : ∃ f', f = f' + 1 := ⟨f - 1, by omega⟩
      obtain ⟨a, ha⟩ := h.1 (.comma :: (joinT (T2 :: Ts) ++ .rp :: rest)) rfl
      have ih := args_reads (T2 :: Ts) ts h.2 rest f' (by omega)
      simpa using args_more _ _ _ _ _ _ _ (ha f' (by omega)) ih

theorem atom_call (w : Str) (hw : plainWord w = true) {Ts : List (List SqlTok)} {trees : SqlTrees}
    (h : ReadsL Ts trees) : Atom (.word w :: .lp :: (joinT Ts ++ [.rp])) (.call w trees) :=
  atom_intro fun f m rest hf _ => by
    simp only [List.length_cons, List.length_append, List.length_nil] at hf
    obtain ⟨h1, h2, h3, h4, h5, h6⟩ := plainWord_ne hw
    simp only [pPrefix, h1, h2, h3, h4, h5, h6, List.cons_append, List.append_assoc, List.nil_append,
      args_reads Ts trees h rest f (by omega)]
    simp

theorem atom_row {Ts : List (List SqlTok)} {trees : SqlTrees} (h : ReadsL Ts trees)
    (hne : ∀ e, trees ≠ .cons e .nil) : Atom (.lp :: (joinT Ts ++ [.rp])) (.row trees) :=
  atom_intro fun f m rest hf _ => by
    simp only [List.length_append, List.length_cons, List.length_nil] at hf
    simp only [pPrefix, List.append_assoc, List.cons_append, List.nil_append, args_reads Ts trees h rest f (by omega)]

/-- the sub-expression `T` of a special form, read at level `m` up to the token the form puts after it -/
theorem reads_inside {m T t} (h : ReadsAt m T t) {g : Nat} (hg : 4 * T.length + 2 ≤ g) (rest : List SqlTok)
    (hst : stops m rest = true) : ∃ a, pExpr g m (T ++ rest) = some (t, a, rest) :=
  let ⟨a, ha⟩ := h rest hst; ⟨a, ha g hg⟩

theorem atom_cast {T t} (ty : Str) (h : ReadsAt 0 T t) :
    Atom (.word "CAST".toList :: .lp :: (T ++ [.word "AS".toList, .word ty, .rp])) (.cast t ty) :=
  atom_intro fun f m rest hf _ => by
    simp only [List.length_cons, List.length_append, List.length_nil] at hf
    obtain ⟨a, ha⟩ := reads_inside h (g := f) (by omega) (.word "AS".toList :: .word ty :: .rp :: rest)
      (stops_word_neutral _ "AS" _ (by simp))
    simp only [toList_beq, String.reduceEq, pPrefix, List.cons_append, List.append_assoc, List.nil_append, ha, if_true, if_false]

theorem atom_extract {T t} (part : Str) (h : ReadsAt 0 T t) :
    Atom (.word "EXTRACT".toList :: .lp :: .word part :: .word "FROM".toList :: (T ++ [.rp])) (.extract part t) :=
  atom_intro fun f m rest hf _ => by
    simp only [List.length_cons, List.length_append, List.length_nil] at hf
    obtain ⟨a, ha⟩ := reads_inside h (g := f) (by omega) (.rp :: rest) rfl
    simp only [toList_beq, String.reduceEq, pPrefix, List.cons_append, List.append_assoc, List.nil_append, ha, if_true, if_false]

theorem atom_position {T1 t1 T0 t0} (h1 : ReadsAt 5 T1 t1) (h0 : ReadsAt 5 T0 t0) :
    Atom (.word "POSITION".toList :: .lp :: (T1 ++ .word "IN".toList :: (T0 ++ [.rp]))) (.position t1 t0) :=
  atom_intro fun f m rest hf _ => by
    simp only [List.length_cons, List.length_append, List.length_nil] at hf
    obtain ⟨a1, ha1⟩ := reads_inside h1 (g := f) (by omega) (.word "IN".toList :: (T0 ++ .rp :: rest))
      (stops_word_lvl _ "IN" _ wordLvl_in (by decide) (by simp))
    obtain ⟨a0, ha0⟩ := reads_inside h0 (g := f) (by omega) (.rp :: rest) rfl
    simp only [toList_beq, String.reduceEq, pPrefix, List.cons_append, List.append_assoc, List.nil_append, ha1, ha0, if_true, if_false]

theorem atom_substring2 {T0 t0 T1 t1} (h0 : ReadsAt 5 T0 t0) (h1 : ReadsAt 5 T1 t1) :
    Atom (.word "SUBSTRING".toList :: .lp :: (T0 ++ .word "FROM".toList :: (T1 ++ [.rp]))) (.substring t0 t1 .none) :=
  atom_intro fun f m rest hf _ => by
    simp only [List.length_cons, List.length_append, List.length_nil] at hf
    obtain ⟨a0, ha0⟩ := reads_inside h0 (g := f) (by omega) (.word "FROM".toList :: (T1 ++ .rp :: rest))
      (stops_word_neutral _ "FROM" _ (by simp))
    obtain ⟨a1, ha1⟩ := reads_inside h1 (g := f) (by omega) (.rp :: rest) rfl
    simp only [toList_beq, String.reduceEq, pPrefix, List.cons_append, List.append_assoc, List.nil_append, ha0, ha1, if_true, if_false]

theorem atom_substring3 {T0 t0 T1 t1 T2 t2} (h0 : ReadsAt 5 T0 t0) (h1 : ReadsAt 5 T1 t1) (h2 : ReadsAt 5 T2 t2) :
    Atom (.word "SUBSTRING".toList :: .lp :: (T0 ++ .word "FROM".toList :: (T1 ++ .word "FOR".toList :: (T2 ++ [.rp]))))
      (.substring t0 t1 (.some t2)) :=
  atom_intro fun f m rest hf _ => by
    simp only [List.length_cons, List.length_append, List.length_nil] at hf
    obtain ⟨a0, ha0⟩ := reads_inside h0 (g := f) (by omega)
      (.word "FROM".toList :: (T1 ++ .word "FOR".toList :: (T2 ++ .rp :: rest))) (stops_word_neutral _ "FROM" _ (by simp))
    obtain ⟨a1, ha1⟩ := reads_inside h1 (g := f) (by omega) (.word "FOR".toList :: (T2 ++ .rp :: rest))
      (stops_word_neutral _ "FOR" _ (by simp))
    obtain ⟨a2, ha2⟩ := reads_inside h2 (g := f) (by omega) (.rp :: rest) rfl
    simp only [toList_beq, String.reduceEq, pPrefix, List.cons_append, List.append_assoc, List.nil_append, ha0, ha1, ha2, if_true, if_false]

end OQ.SqlPratt
