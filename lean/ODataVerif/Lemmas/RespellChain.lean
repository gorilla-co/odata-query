/- Pieces (a token with the text it is written as), the per-piece conditions, and the
   composition theorem `lex_pieces` (for Props/C19Text.lean). -/
import ODataVerif.Lemmas.RespellKw
namespace OQ.Respelling
open Spec LexRender CaseMap

structure Piece where
  tok : Tok
  txt : Str

def flat : List Piece → Str
  | [] => []
  | p :: r => p.txt ++ flat r

def PieceOk (p : Piece) : Prop :=
  match p.tok with
  | .lit _ _ | .ident _ => TextOk p.tok p.txt
  | .arith _ | .cmp _ | .bool _ =>
      ∃ w1 k w2, p.txt = w1 ++ k ++ w2 ∧ isBlankRun E w1 ∧ isBlankRun E w2 ∧ k.map asciiLower = opWord p.tok
  | .not_ => ∃ k w, p.txt = k ++ w ∧ ciSpell "not".toList k ∧ isBlankRun E w
  | .any => ciSpell "any".toList p.txt
  | .all => ciSpell "all".toList p.txt
  | .ws => isBlankRun E p.txt
  | t => p.txt = spellTok t

def nextTok (r : List Piece) : Option Tok := r.head?.map (·.tok)

def pchainOk : List Piece → Prop
  | [] => True
  | p :: r => PieceOk p ∧ adj true p.tok (nextTok r) = true ∧ pchainOk r

theorem blank_head {w : Str} (hw : isBlankRun E w) (x : List Char) : ∃ d y, w ++ x = d :: y ∧ E.isSpace d = true := by
  obtain ⟨d, w', rfl, hd⟩ := isBlankRun_cons hw
  exact ⟨d, w' ++ x, rfl, hd⟩

theorem PieceOk.textOk {p : Piece} (h : isLI p.tok = true) (hp : PieceOk p) : TextOk p.tok p.txt := by
  obtain ⟨t, txt⟩ := p
  cases t <;> first | exact hp | cases h

theorem PieceOk.bin {p : Piece} (h : isBinT p.tok = true) (hp : PieceOk p) :
    ∃ w1 k w2, p.txt = w1 ++ k ++ w2 ∧ isBlankRun E w1 ∧ isBlankRun E w2 ∧ k.map asciiLower = opWord p.tok := by
  obtain ⟨t, txt⟩ := p
  cases t <;> first | exact hp | cases h

theorem flat_identFollow {q : Piece} {r : List Piece} (hq : PieceOk q) (h : identFollowT q.tok = true) :
    ∃ d x, flat (q :: r) = d :: x ∧ DelimC d ∧ (d = ':' → q.tok = .colon) := by
  obtain ⟨t, txt⟩ := q
  have hsp : ∀ {w : Str}, isBlankRun E w → ∀ x, ∃ d y, w ++ x = d :: y ∧ DelimC d ∧ (d = ':' → t = .colon) := by
    intro w hw x
    obtain ⟨d, y, e, hd⟩ := blank_head hw x
    exact ⟨d, y, e, Or.inr hd, fun h => absurd h (space_ne hd)⟩
  have hbin : isBinT t = true → ∃ d x, txt ++ flat r = d :: x ∧ DelimC d ∧ (d = ':' → t = .colon) := by
    intro hb
    obtain ⟨w1, k, w2, e, h1, -⟩ := PieceOk.bin (p := ⟨t, txt⟩) hb hq
    rw [show txt = w1 ++ k ++ w2 from e, List.append_assoc, List.append_assoc]
    exact hsp h1 _
  have hch : ∀ c, txt = [c] → isDelim c = true → (c = ':' → t = .colon) →
      ∃ d x, txt ++ flat r = d :: x ∧ DelimC d ∧ (d = ':' → t = .colon) :=
    fun c e hc hcol => ⟨c, flat r, by rw [e]; rfl, Or.inl hc, hcol⟩
  cases t with
  | arith o => exact hbin rfl
  | cmp o => exact hbin rfl
  | bool o => exact hbin rfl
  | ws => exact hsp (w := txt) hq (flat r)
  | lp => exact hch '(' hq rfl nofun
  | rp => exact hch ')' hq rfl nofun
  | comma => exact hch ',' hq rfl nofun
  | slash => exact hch '/' hq rfl nofun
  | colon => exact hch ':' hq rfl fun _ => rfl
  | eqs => exact hch '=' hq rfl nofun
  | _ => cases h

theorem flat_start {q : Piece} {r : List Piece} (hq : PieceOk q) (h : startT q.tok = true) : headNS (flat (q :: r)) := by
  obtain ⟨t, txt⟩ := q
  cases t with
  | lit k v =>
    obtain ⟨c, s0, e, hc⟩ := TextOk.head (t := .lit k v) rfl hq
    simp only [flat]; simp only at e; rw [e]; exact headNS_cons hc
  | ident i =>
    obtain ⟨c, s0, e, hc⟩ := TextOk.head (t := .ident i) rfl hq
    simp only [flat]; simp only at e; rw [e]; exact headNS_cons hc
  | not_ =>
    obtain ⟨k, w, e, hk, hw⟩ := hq
    simp only at e; subst e
    obtain ⟨c, s0, rfl, -, -, hsp, -⟩ := notOkB_spec (not_table k (variants_mem _ _ hk))
    simp only [flat, List.cons_append, List.append_assoc]
    exact headNS_cons hsp
  | uminus => simp only [PieceOk] at hq; subst hq; exact headNS_cons (c := '-') (by decide +kernel)
  | lp => simp only [PieceOk] at hq; subst hq; exact headNS_cons (c := '(') (by decide +kernel)
  | _ => simp [startT] at h


theorem flat_nodigit {q : Piece} {r : List Piece} (hq : PieceOk q) (hs : (q.tok == .ws || startT q.tok) = true)
    (hu : isUnsignedNumber q.tok = false) : span1 E.isDigit (flat (q :: r)) = none := by
  obtain ⟨t, txt⟩ := q
  cases t with
  | lit k v => exact TextOk.nodigit (t := .lit k v) rfl hq hu _
  | ident i => exact TextOk.nodigit (t := .ident i) rfl hq hu _
  | ws =>
    obtain ⟨d, y, e, hd⟩ := blank_head (w := txt) hq (flat r)
    simp only [flat]; rw [e]; exact span1_head (space_imp d hd).1
  | not_ =>
    have := flat_start (r := r) hq rfl
    obtain ⟨k, w, e, hk, hw⟩ := hq
    simp only at e; subst e
    obtain ⟨c, s0, rfl, -⟩ := notOkB_spec (not_table k (variants_mem _ _ hk))
    simp only [flat, List.cons_append, List.append_assoc]
    apply span1_head
    have hc : asciiLower c = 'n' := by
      have := hk; simp [ciSpell] at this; exact this.1
    rw [← caseMap_lower.digit c, hc]; decide +kernel
  | uminus => simp only [PieceOk] at hq; subst hq; exact span1_head (c := '-') (by decide +kernel)
  | lp => simp only [PieceOk] at hq; subst hq; exact span1_head (c := '(') (by decide +kernel)
  | _ => simp [startT] at hs

def nextStart : Option Tok → Bool
  | none => false
  | some u => startT u

theorem adj_opd {b : Bool} {t : Tok} (h : isBinT t = true ∨ t = .not_) (n : Option Tok) : adj b t n = nextStart n := by
  rcases h with h | rfl
  · cases t <;> first | (cases n <;> rfl) | simp [isBinT] at h
  · cases n <;> rfl

theorem pchain_next_start {r : List Piece} (ha : nextStart (nextTok r) = true) (hr : pchainOk r) : headNS (flat r) := by
  cases r with
  | nil => simp [nextTok, nextStart] at ha
  | cons q r' => exact flat_start hr.1 (by simpa [nextTok, nextStart] using ha)

theorem next_identFollow {strict : Bool} {t : Tok} {q : Piece} {r : List Piece} (ht : isLI t = true)
    (ha : adj strict t (nextTok (q :: r)) = true) : identFollowT q.tok = true ∧ (q.tok = .colon → ∃ i, t = .ident i) := by
  cases t with
  | lit k v =>
    have hc : closeT q.tok = true := ha
    exact ⟨closeT_identFollow hc, fun e => by rw [e] at hc; cases hc⟩
  | ident i => exact ⟨ha, fun _ => ⟨i, rfl⟩⟩
  | _ => cases ht

theorem not_kwC {k : List Char} (hk : ciSpell "not".toList k) : ∀ e ∈ allOps, kw E e.2 k = none := by
  intro e he
  have h1 := (kw_isSome_lower (w := e.2) (k := k) (allOps_pat e he)).1
  have h0 : kw E e.2 "not".toList = none := not_kw e he
  rw [hk, h0] at h1
  cases hkk : kw E e.2 k with
  | none => rfl
  | some y => rw [hkk] at h1; simp at h1

theorem next_lp {rest : List Piece} (ha : (nextTok rest == some Tok.lp) = true) (hrest : pchainOk rest) :
    ∃ r, flat rest = '(' :: flat r := by
  cases rest with
  | nil => cases ha
  | cons q r =>
    obtain ⟨qt, qx⟩ := q
    cases (show qt = .lp by simpa [nextTok] using ha)
    exact ⟨r, by rw [flat, show qx = ['('] from hrest.1]; rfl⟩

theorem ws_step {w : Str} (hw : isBlankRun E w) {q : Piece} {r : List Piece} (ha : adj true .ws (some q.tok) = true)
    (hq : PieceOk q) (haq : adj true q.tok (nextTok r) = true) (hr : pchainOk r) :
    lexOne E (w ++ flat (q :: r)) = some (.ws, flat (q :: r)) := by
  obtain ⟨qt, qx⟩ := q
  -- a single character outside the alphabet of the operator rules
  have hD : ∀ c : Char, qx = [c] → E.isSpace c = false → (∀ p ∈ patChars, ciChar E p c = false) →
      lexOne E (w ++ flat (⟨qt, qx⟩ :: r)) = some (.ws, flat (⟨qt, qx⟩ :: r)) := by
    intro c e hs hci
    subst e
    show lexOne E (w ++ c :: flat r) = some (.ws, c :: flat r)
    rw [lexOne_blank_run hw (headNS_cons hs)]
    exact lexOne_ws _ (headNS_cons hs) (ops_none_head _ hs hci)
  have hDel : ∀ c : Char, qx = [c] → isDelim c = true → c ≠ ' ' →
      lexOne E (w ++ flat (⟨qt, qx⟩ :: r)) = some (.ws, flat (⟨qt, qx⟩ :: r)) :=
    fun c e hc hne => hD c e (delim_space hc hne) (delim_of hc).ci
  -- after a literal / identifier inside a chain comes nothing or a delimiter
  have hli : isLI qt = true → lexOne E (w ++ flat (⟨qt, qx⟩ :: r)) = some (.ws, flat (⟨qt, qx⟩ :: r)) := by
    intro hl
    refine TextOk.ws hl (PieceOk.textOk (p := ⟨qt, qx⟩) hl hq) hw ?_
    cases r with
    | nil => exact Or.inl rfl
    | cons q' r' =>
      obtain ⟨d, x, e, hd, -⟩ := flat_identFollow (r := r') hr.1 (next_identFollow hl haq).1
      exact Or.inr ⟨d, x, e, hd.delim⟩
  cases qt with
  | lit k v => exact hli rfl
  | ident i => exact hli rfl
  | not_ =>
    have hx : headNS (flat (⟨.not_, qx⟩ :: r)) := flat_start hq rfl
    rw [lexOne_blank_run hw hx]
    refine lexOne_ws _ hx fun e he => scanOp_kw_none hx ?_
    obtain ⟨k, w', e', hk, hw'⟩ := hq
    obtain ⟨d, w'', rfl, hd⟩ := isBlankRun_cons hw'
    rw [flat, show qx = k ++ d :: w'' from e', List.append_assoc, List.cons_append,
      kw_ext E d _ _ _ ((space_delim hd).kwl _ (allOps_pat e he)), not_kwC hk e he]
    rfl
  | uminus => exact hD '-' hq (by decide +kernel) minus_ci
  | lp => exact hDel '(' hq rfl nofun
  | rp => exact hDel ')' hq rfl nofun
  | comma => exact hDel ',' hq rfl nofun
  | colon => exact hDel ':' hq rfl nofun
  | _ => cases ha

theorem pstep {p : Piece} {rest : List Piece} (hp : PieceOk p) (ha : adj true p.tok (nextTok rest) = true)
    (hrest : pchainOk rest) : lexOne E (p.txt ++ flat rest) = some (p.tok, flat rest) := by
  obtain ⟨t, txt⟩ := p
  have hli : isLI t = true → lexOne E (txt ++ flat rest) = some (t, flat rest) := by
    intro ht
    have hT : TextOk t txt := PieceOk.textOk (p := ⟨t, txt⟩) ht hp
    cases rest with
    | nil => rw [flat, List.append_nil]; exact hT.alone
    | cons q r =>
      obtain ⟨hf, hcol⟩ := next_identFollow ht ha
      obtain ⟨d, x, hx, hd, hdc⟩ := flat_identFollow (r := r) hrest.1 hf
      rw [hx]
      exact hT.follow ht x hd fun e => hcol (hdc e)
  have hop : isBinT t = true → lexOne E (txt ++ flat rest) = some (t, flat rest) := by
    intro h1
    have h2 : nextStart (nextTok rest) = true := by rw [← adj_opd (Or.inl h1)]; exact ha
    obtain ⟨w1, k, w2, e, hw1, hw2, hk⟩ := PieceOk.bin (p := ⟨t, txt⟩) h1 hp
    rw [show txt = w1 ++ k ++ w2 from e]
    exact lexOne_op (opTok_spell t h1).1 hw1 hk hw2 _ (pchain_next_start h2 hrest)
  have hkw : adj true t (nextTok rest) = (nextTok rest == some .lp) → ∃ r, flat rest = '(' :: flat r :=
    fun e => next_lp (e ▸ ha) hrest
  have hch : ∀ c : Char, txt = [c] → lexOne E (c :: flat rest) = some (t, flat rest) →
      lexOne E (txt ++ flat rest) = some (t, flat rest) := fun c e h => by rw [e]; exact h
  cases t with
  | lit k v => exact hli rfl
  | ident i => exact hli rfl
  | arith o => exact hop rfl
  | cmp o => exact hop rfl
  | bool o => exact hop rfl
  | not_ =>
    obtain ⟨k, w, e, hk, hw⟩ := hp
    have h2 : nextStart (nextTok rest) = true := by rw [← adj_opd (Or.inr rfl)]; exact ha
    rw [show txt = k ++ w from e, List.append_assoc]
    exact lexOne_not hk hw (flat rest) (pchain_next_start h2 hrest)
  | uminus =>
    cases rest with
    | nil => cases ha
    | cons q r =>
      have ha' : ((q.tok == .ws || startT q.tok) && !isUnsignedNumber q.tok) = true := ha
      rw [Bool.and_eq_true, Bool.not_eq_true'] at ha'
      exact hch '-' hp (lexOne_minus _ (flat_nodigit hrest.1 ha'.1 ha'.2))
  | any => obtain ⟨r, e⟩ := hkw rfl; rw [e]; exact lexOne_kw_lp (any_table _ (variants_mem _ _ hp)) nofun _
  | all => obtain ⟨r, e⟩ := hkw rfl; rw [e]; exact lexOne_kw_lp (all_table _ (variants_mem _ _ hp)) nofun _
  | ws =>
    cases rest with
    | nil => cases ha
    | cons q r => exact ws_step hp ha hrest.1 hrest.2.1 hrest.2.2
  | lp => exact hch '(' hp (lexOne_lp _)
  | rp => exact hch ')' hp (lexOne_rp _)
  | comma => exact hch ',' hp (lexOne_comma _)
  | slash => exact hch '/' hp (lexOne_slash _)
  | colon => exact hch ':' hp (lexOne_colon _)
  | eqs => exact hch '=' hp (lexOne_eqs _)


theorem lex_pieces : ∀ (ps : List Piece), pchainOk ps → ∀ (f pos : Nat), (flat ps).length < f →
    lexFuel E f pos (flat ps) = ⟨ps.map (·.tok), none⟩
  | [], _, f, pos, hf => by
      obtain ⟨f', rfl⟩ : ∃ f', f = f' + 1 := ⟨f - 1, by simp [flat] at hf; omega⟩
      simp [flat, lexFuel]
  | p :: rest, hc, f, pos, hf => by
      obtain ⟨hp, ha, hrest⟩ := hc
      obtain ⟨f', rfl⟩ : ∃ f', f = f' + 1 := ⟨f - 1, by omega⟩
      have h1 := pstep hp ha hrest
      have hlen := lexOne_len E _ _ _ h1
      simp only [flat] at hf ⊢
      rw [lexFuel_step h1, lex_pieces rest hrest f' _ (by omega)]
      rfl

theorem lexAll_pieces (ps : List Piece) (h : pchainOk ps) : lexAll E (flat ps) = ⟨ps.map (·.tok), none⟩ :=
  lex_pieces ps h _ 0 (Nat.lt_succ_self _)

end OQ.Respelling
