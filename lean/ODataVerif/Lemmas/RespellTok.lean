/- `TextOk` (the lexing facts needed of the text of a literal / identifier), their transfer to a
   delimiter or whitespace follower, and to the ASCII case variants of a literal (for Props/C19Text.lean). -/
import ODataVerif.Lemmas.RespellBlank
namespace OQ.Respelling
open Spec LexRender CaseMap

/-- what is needed of the text `s` of a literal / identifier token `t` (cf. `LexRender.TokOk`, which is the case
    `s = spellTok t`) -/
structure TextOk (t : Tok) (s : Str) : Prop where
  alone : lexOne E s = some (t, [])
  before : (∃ i, t = .ident i) → ∃ r, lexOne E (s ++ [' ']) = some (t, r)
  between : ∀ e ∈ allOps, scanOp E e.2 (' ' :: s ++ [' ']) = none

theorem TextOk.ofTok {t : Tok} (h : TokOk t) : TextOk t (spellTok t) := by
  obtain ⟨r, hb⟩ := h.between
  exact ⟨h.alone, fun _ => h.before, lexOne_ws_ops hb⟩

theorem TextOk.head {t : Tok} {s : Str} (ht : isLI t = true) (h : TextOk t s) :
    ∃ c s0, s = c :: s0 ∧ E.isSpace c = false := by
  have ha := h.alone
  cases s with
  | nil => rw [lexOne_nil] at ha; cases ha
  | cons c s0 => exact ⟨c, s0, rfl, li_head_ns ht ha⟩

theorem TextOk.ws {t : Tok} {s : Str} (ht : isLI t = true) (h : TextOk t s) {w tl : List Char} (hw : isBlankRun E w)
    (htl : AtDelim E tl) : lexOne E (w ++ (s ++ tl)) = some (.ws, s ++ tl) := by
  obtain ⟨c, s0, rfl, hc⟩ := h.head ht
  have hx : headNS ((c :: s0) ++ tl) := headNS_cons hc
  rw [lexOne_blank_run hw hx]
  exact lexOne_ws _ hx fun e he => scanOp_stable rfl hc (allOps_pat e he) (h.between e he) htl

theorem TextOk.follow {t : Tok} {s : Str} (ht : isLI t = true) (h : TextOk t s) {d : Char} (rest : List Char)
    (hd : DelimC d) (hcolon : d = ':' → ∃ i, t = .ident i) :
    lexOne E (s ++ d :: rest) = some (t, d :: rest) := by
  cases t with
  | lit k v => exact lexOne_lit_delim rest h.alone hd.delim fun hdc => nomatch hcolon hdc
  | ident i =>
    obtain ⟨r, hb⟩ := h.before ⟨i, rfl⟩
    exact lexOne_ident_delim rest h.alone hd.delim hd.identStart fun _ =>
      scanNot_stable (lexOne_ident_scanNot hb) hd.delim rest
  | _ => cases ht


theorem scanInteger_head {env : CharEnv} {c : Char} {s0 v r : List Char} (h : scanInteger env (c :: s0) = some (v, r)) :
    ∃ v0, v = c :: v0 := by
  obtain ⟨hc, hne⟩ := scanInteger_append h
  obtain ⟨c', v0, rfl⟩ := List.exists_cons_of_ne_nil hne
  exact ⟨v0, by rw [(List.cons.inj hc).1]⟩

theorem scanDecimal_head {env : CharEnv} {c : Char} {s0 v r : List Char} (h : scanDecimal env (c :: s0) = some (v, r)) :
    ∃ v0, v = c :: v0 := by
  simp only [scanDecimal, Option.bind_eq_bind, Option.bind_eq_some_iff] at h
  obtain ⟨⟨i, r1⟩, hi, hrest⟩ := h
  obtain ⟨i0, rfl⟩ := scanInteger_head hi
  simp only at hrest
  split at hrest
  · split at hrest
    · split at hrest
      · simp at hrest; exact ⟨_, hrest.1.symm⟩
      · simp at hrest; exact ⟨_, hrest.1.symm⟩
    · simp at hrest
  · split at hrest
    · simp at hrest; exact ⟨_, hrest.1.symm⟩
    · simp at hrest


theorem TextOk.nodigit {t : Tok} {s : Str} (ht : isLI t = true) (h : TextOk t s) (hu : isUnsignedNumber t = false)
    (tl : List Char) : span1 E.isDigit (s ++ tl) = none := by
  obtain ⟨c, s0, rfl, hc⟩ := h.head ht
  rw [List.cons_append]
  apply span1_head
  cases hdg : E.isDigit c with
  | false => rfl
  | true =>
    exfalso
    obtain ⟨-, hnl, h95, h39, h43, h45, -⟩ := isDigit_imp c hdg
    have ha := h.alone
    have hci : ∀ p ∈ ['d', 'g', 't', 'f', 'n', 'a'], ciChar E p c = false := by
      intro p hp
      cases hcc : ciChar E p c with
      | false => rfl
      | true => exact absurd (ciChar_imp c p hp hcc) hnl
    have h1 : c ≠ '-' := by rintro rfl; exact h45 rfl
    have h2 : c ≠ '+' := by rintro rfl; exact h43 rfl
    cases t with
    | ident i =>
      rcases src_ident_letter (lexOne_src ha) with e | e
      · exact hnl e
      · exact h95 e
    | lit k v =>
      cases k with
      | null =>
        have hsrc : v = [] ∧ ∃ m, scanWord E "null".toList (c :: s0) = some (m, []) := lexOne_src ha
        obtain ⟨-, m, hm⟩ := hsrc
        have := scanWord_head_inv (p := 'n') (ps := ['u', 'l', 'l']) hm
        rw [hci 'n' (by decide)] at this; cases this
      | str =>
        have hsrc : scanString (c :: s0) = some (v, []) := lexOne_src ha
        have hq : c ≠ '\'' := by rintro rfl; exact h39 rfl
        rw [scanString_head hq] at hsrc; cases hsrc
      | geo =>
        have hsrc : scanGeography E (c :: s0) = some (v, []) := lexOne_src ha
        rw [scanGeography_head (hci 'g' (by decide))] at hsrc; cases hsrc
      | duration =>
        have hsrc : scanDuration E (c :: s0) = some (v, []) := lexOne_src ha
        rw [scanDuration_head (hci 'd' (by decide))] at hsrc; cases hsrc
      | int =>
        have hsrc : scanInteger E (c :: s0) = some (v, []) := lexOne_src ha
        obtain ⟨v0, rfl⟩ := scanInteger_head hsrc
        simp [isUnsignedNumber, h1, h2] at hu
      | float =>
        have hsrc : scanDecimal E (c :: s0) = some (v, []) := lexOne_src ha
        obtain ⟨v0, rfl⟩ := scanDecimal_head hsrc
        simp [isUnsignedNumber, h1, h2] at hu
      | bool =>
        have hsrc : scanWord E "true".toList (c :: s0) = some (v, []) ∨ scanWord E "false".toList (c :: s0) = some (v, []) :=
          lexOne_src ha
        rcases hsrc with hm | hm
        · have := scanWord_head_inv (p := 't') (ps := ['r', 'u', 'e']) hm
          rw [hci 't' (by decide)] at this; cases this
        · have := scanWord_head_inv (p := 'f') (ps := ['a', 'l', 's', 'e']) hm
          rw [hci 'f' (by decide)] at this; cases this
      | date | time | datetime | guid => cases hu
    | _ => cases ht


theorem mapLitTok_kind (φ : Char → Char) (k : LitKind) (v : Str) : ∃ x, mapLitTok φ (.lit k v) = .lit k x := by
  cases k <;> exact ⟨_, rfl⟩

theorem mapLitTok_lit {φ : Char → Char} {t' : Tok} {k : LitKind} {v : Str} (h : mapLitTok φ t' = mapLitTok φ (.lit k v)) :
    ∃ p, t' = .lit k p := by
  obtain ⟨x, hx⟩ := mapLitTok_kind φ k v
  rw [hx] at h
  cases t' with
  | lit k' p =>
    obtain ⟨y, hy⟩ := mapLitTok_kind φ k' p
    rw [hy] at h; cases h
    exact ⟨p, rfl⟩
  | _ => cases h

theorem textOk_of_map {φ : Char → Char} (hφ : CaseMap E φ) (hsp : φ ' ' = ' ') {k : LitKind} {v t0 s : Str}
    (h : TextOk (.lit k v) t0) (hs : s.map φ = t0.map φ) :
    ∃ p, TextOk (.lit k p) s ∧ mapLitTok φ (.lit k p) = mapLitTok φ (.lit k v) := by
  have hl := lexOne_lit_inv h.alone
  have h1 := firstSome_map (litRules E) (litRules_map hφ) s
  have h2 := firstSome_map (litRules E) (litRules_map hφ) t0
  rw [hs, h2, hl] at h1
  cases hfs : firstSome (litRules E) s with
  | none => rw [hfs] at h1; simp [mapRes] at h1
  | some x =>
    obtain ⟨t', r'⟩ := x
    rw [hfs] at h1
    simp only [mapRes, Option.map_some, Option.some.injEq, Prod.mk.injEq, List.map_nil] at h1
    obtain ⟨ht', hr'⟩ := h1
    have hr : r' = [] := by simpa using hr'.symm
    subst hr
    obtain ⟨p, rfl⟩ := mapLitTok_lit ht'.symm
    refine ⟨p, ⟨lexOne_of_lit hfs, ?_, ?_⟩, ht'.symm⟩
    · rintro ⟨i, hi⟩; cases hi
    · intro e he
      have a1 := scanOp_map hφ e.2 (allOps_pat e he) (' ' :: s ++ [' '])
      have a2 := scanOp_map hφ e.2 (allOps_pat e he) (' ' :: t0 ++ [' '])
      simp only [List.map_cons, List.map_append, List.map_nil, hsp] at a1 a2
      rw [hs, a2, h.between e he] at a1
      cases hso : scanOp E e.2 (' ' :: s ++ [' ']) with
      | none => rfl
      | some y => rw [hso] at a1; simp at a1


/-- what `scanGeography` returns is read off the text after the ten characters of the prefix -/
theorem geo_body {x y p : Str} (hlen : x.length = 10) (h : scanGeography E (x ++ y) = some (p, [])) :
    strBody y = some (p, []) := by
  simp only [scanGeography, Option.bind_eq_bind, Option.bind_eq_some_iff] at h
  obtain ⟨⟨m, r⟩, hk, hb⟩ := h
  obtain ⟨h1, h2⟩ := kw_append hk
  have hm : x.length = m.length := by rw [hlen, h2]; decide +kernel
  rw [(List.append_inj h1 hm).2]; exact hb

theorem null_payload {v : Str} (h : TokOk (.lit .null v)) : v = [] := by
  have h1 : lexOne E "null".toList = some (.lit .null v, []) := h.alone
  rw [show lexOne E "null".toList = some (.lit .null [], []) by decide +kernel] at h1
  cases h1; rfl

theorem quoted_map (φ : Char → Char) {pre kq b v : Str} (hpre : (pre ++ ['\'']).map φ = kq.map φ)
    (hb : b.map φ = v.map φ) : (pre ++ '\'' :: b ++ ['\'']).map φ = (kq ++ v ++ ['\'']).map φ := by
  rw [show pre ++ '\'' :: b ++ ['\''] = (pre ++ ['\'']) ++ b ++ ['\''] by simp]
  simp only [List.map_append, hpre, hb]

/-- the text of a re-spelled literal lexes to a literal that is equal up to `normTok`: each admissible variation of
    the text is a letter-case change under which the text of the token itself has the same image -/
theorem spellLit_textOk {k : LitKind} {v s : Str} (hsp : SpellTok E (.lit k v) s) (hok : TokOk (.lit k v)) :
    ∃ p, TextOk (.lit k p) s ∧ normTok (.lit k p) = normTok (.lit k v) := by
  have hlo : asciiLower ' ' = ' ' := by decide
  have hup : asciiUpper ' ' = ' ' := by decide
  have upup : ∀ X : Str, (X.map asciiUpper).map asciiUpper = X.map asciiUpper := map_asciiUpper caseMap_upper
  have hT := TextOk.ofTok hok
  cases hsp with
  | null _ _ hkw =>
    cases null_payload hok
    obtain ⟨p, hp, hm⟩ := textOk_of_map caseMap_lower hlo hT
      (hkw.trans (by decide +kernel : _ = (spellTok (.lit .null [])).map asciiLower))
    cases List.map_eq_nil_iff.1 (Tok.lit.inj hm).2
    exact ⟨[], hp, rfl⟩
  | boolLit _ _ hs => exact textOk_of_map caseMap_lower hlo hT hs
  | float _ _ hs => exact textOk_of_map caseMap_lower hlo hT hs
  | datetime _ _ hs =>
    obtain ⟨p, hp, hm⟩ := textOk_of_map caseMap_upper hup hT
      (show s.map asciiUpper = v.map asciiUpper by rw [← hs, upup])
    cases hm
    exact ⟨_, hp, rfl⟩
  | duration _ pre b hpre hb =>
    have h1 : (pre ++ ['\'']).map asciiUpper = "duration'".toList.map asciiUpper := by
      rw [List.map_append, ← map_asciiUpper caseMap_lower pre, hpre]; decide +kernel
    have h2 : b.map asciiUpper = v.map asciiUpper := by rw [← hb, upup]
    obtain ⟨p, hp, hm⟩ := textOk_of_map caseMap_upper hup hT (quoted_map _ h1 h2)
    cases hm
    exact ⟨_, hp, rfl⟩
  | geo _ pre hpre =>
    -- the body of a geography literal is taken verbatim: compare the two scans of it
    have h1 : (pre ++ ['\'']).map asciiLower = "geography'".toList.map asciiLower := by
      rw [List.map_append, hpre]; decide +kernel
    obtain ⟨p, hp, hm⟩ := textOk_of_map caseMap_lower hlo hT (quoted_map _ h1 rfl)
    have b1 := geo_body (x := pre ++ ['\'']) (y := v ++ ['\''])
      (by rw [List.length_append, ← List.length_map (as := pre), hpre]; decide +kernel)
      (by rw [← lexOne_src hp.alone]; simp)
    have b2 := geo_body (x := "geography'".toList) (y := v ++ ['\'']) (by decide +kernel)
      (by rw [← List.append_assoc]; exact lexOne_src hT.alone)
    cases b1.symm.trans b2
    exact ⟨_, hp, rfl⟩
  | exact _ _ => exact ⟨v, hT, rfl⟩

end OQ.Respelling
