/-
  What the lexer's character classes are on ASCII characters, and the inversions of the scanner
  combinators (`span1`, `takeN`, `takeUpTo`, `kw`): what was matched is matched again in front of any continuation that does
  not extend the match.
-/
import ODataVerif.Lemmas.LitLex
import ODataVerif.Lemmas.CaseRules
namespace OQ.AcceptedLex
open OQ.LexRender OQ.Spec OQ.CaseMap OQ.LitSpell

abbrev isAscii := LexImage.isAscii

def Emitted (t : Tok) : Prop := ∃ cs r, cs.all isAscii = true ∧ lexOne E cs = some (t, r)

/-- a pattern letter matches itself, its upper-case form and the non-ASCII `re.I` extras -/
theorem ciChar_cases {p x : Char} (h : ciChar E p x = true) :
    x = p ∨ x = asciiUpper p ∨ x.toNat = 304 ∨ x.toNat = 305 ∨ x.toNat = 8490 ∨ x.toNat = 383 := by
  unfold ciChar at h
  split at h
  · simp only [Bool.or_eq_true, beq_iff_eq] at h
    rcases h with (h | h) | h
    · exact Or.inl h
    · exact Or.inr (Or.inl h)
    · simp [pyCharEnv, CharTables.ciExtras] at h; omega
  · exact Or.inl (by simpa using h)

theorem ciChar_ascii {p x : Char} (hx : isAscii x = true) (h : ciChar E p x = true) : x = p ∨ x = asciiUpper p := by
  simpa [LexImage.ci_ascii p x hx] using h

theorem ciChar_letter {p c : Char} (hp : isAsciiLower p = true) (h : ciChar E p c = true) : letterNat c.toNat := by
  have hl := (LexImage.isAsciiLower_iff p).1 hp
  have hu := LexImage.asciiUpper_toNat hp
  simp only [letterNat]
  rcases ciChar_cases h with rfl | rfl | h | h | h | h
  · exact Or.inr (Or.inl hl)
  · exact Or.inl (by omega)
  · exact Or.inr (Or.inr (Or.inl h))
  · exact Or.inr (Or.inr (Or.inr (Or.inl h)))
  · exact Or.inr (Or.inr (Or.inr (Or.inr (Or.inr h))))
  · exact Or.inr (Or.inr (Or.inr (Or.inr (Or.inl h))))

theorem upper_lower : ∀ x ∈ upperChars, asciiUpper (asciiLower x) = x := by decide +kernel

theorem ciChar_of_lower (x : Char) (hp : isAsciiLower (asciiLower x) = true) : ciChar E (asciiLower x) x = true := by
  simp only [ciChar, hp, if_true, Bool.or_eq_true, beq_iff_eq]
  cases hu : isAsciiUpper x with
  | true => exact Or.inl (Or.inr (upper_lower x (upper_mem hu)).symm)
  | false => exact Or.inl (Or.inl (asciiLower_id hu).symm)

theorem lowerA_eq : lowerA = asciiLower := by
  funext c; simp [lowerA, asciiLower, isAsciiUpper]

theorem e_cases {c : Char} (h : ciChar E 'e' c = true) : c = 'e' ∨ c = 'E' :=
  ci_cases rfl (ciExtra_none (by decide)) h

theorem z_cases {c : Char} (h : ciChar E 'z' c = true) : c = 'z' ∨ c = 'Z' :=
  ci_cases rfl (ciExtra_none (by decide)) h

theorem t_cases' {c : Char} (h : ciChar E 't' c = true) : c = 't' ∨ c = 'T' := LexRender.t_cases h

theorem kw_ps {env : CharEnv} {w cs m r : Str} (h : kw env w cs = some (m, r)) :
    cs = m ++ r ∧ m.length = w.length ∧ ∀ y, kw env w (m ++ y) = some (m, y) := by
  refine ⟨(kw_append h).1, (kw_append h).2, ?_⟩
  induction w generalizing cs m with
  | nil => obtain ⟨rfl, -⟩ := (LexImage.kw_nil env cs m r).1 h; exact fun y => rfl
  | cons p w ih =>
    obtain ⟨c, t, m', rfl, hc, hk, rfl⟩ := (LexImage.kw_cons env p w cs m r).1 h
    exact fun y => (LexImage.kw_cons env p w _ _ y).2 ⟨c, _, m', rfl, hc, ih hk y, rfl⟩

theorem kw_lower {w s m r : Str} (hw : w.all isAsciiLower = true) (hs : s.all isAscii = true) (h : kw E w s = some (m, r)) :
    m.map asciiLower = w :=
  lowerA_eq ▸ LitLex.kw_lower w s m r hw hs h

theorem kw_of_lower {w m : Str} (r : Str) (hw : w.all isAsciiLower = true) (h : m.map asciiLower = w) :
    kw E w (m ++ r) = some (m, r) := by
  induction m generalizing w with
  | nil => subst h; rfl
  | cons c m ih =>
    subst h
    simp only [List.map_cons, List.all_cons, Bool.and_eq_true] at hw
    exact (LexImage.kw_cons E _ _ _ _ r).2 ⟨c, m ++ r, m, rfl, ciChar_of_lower c hw.1, ih hw.2 rfl, rfl⟩

theorem notIdentCont_nil : notIdentCont E [] = true := rfl
theorem notIdentCont_nil' : notIdentCont E [] = true := notIdentCont_nil

theorem kw_noq {w s : Str} (hw : '\'' ∈ w) (hs : '\'' ∉ s) : kw E w s = none := by
  cases hk : kw E w s with
  | none => rfl
  | some y =>
    obtain ⟨x, hx, hxq⟩ := kw_mem _ _ y.1 y.2 hk '\'' hw
    have hxe : x = '\'' := by simpa [ciChar, isAsciiLower] using hxq
    subst hxe
    exact absurd hx hs

theorem scanDuration_noq {s : Str} (hs : '\'' ∉ s) : scanDuration E s = none :=
  LitLex.scanDuration_nokw (kw_noq (by decide +kernel) hs)

theorem scanGeography_noq {s : Str} (hs : '\'' ∉ s) : scanGeography E s = none := by
  simp only [scanGeography, kw_noq (w := "geography'".toList) (by decide +kernel) hs]; rfl

theorem wordRanges_split : CharTables.wordRanges = [(48, 57), (65, 90), (95, 95), (97, 122)] ++ CharTables.wordRanges.drop 4 := rfl
theorem wordRanges_high : (CharTables.wordRanges.drop 4).all (fun r => 128 ≤ r.1) = true := by decide +kernel

/-- `\w` on ASCII: the table has four ASCII ranges, the others start above 127 -/
theorem word_ascii {c : Char} (hc : isAscii c = true) (h : E.isWord c = true) : isWordA c = true := by
  simp only [LexImage.isAscii, decide_eq_true_eq] at hc
  have h' : inRanges CharTables.wordRanges c.toNat = true := h
  rw [wordRanges_split, inRanges, List.any_append] at h'
  have hhi := LexImage.inRanges_eq_false wordRanges_high hc
  rw [inRanges] at hhi
  rw [hhi, Bool.or_false] at h'
  simp only [List.any_cons, List.any_nil, Bool.or_false, Bool.or_eq_true, Bool.and_eq_true, decide_eq_true_eq] at h'
  simp only [isWordA, isStartA, Bool.or_eq_true, Bool.and_eq_true, decide_eq_true_eq, beq_iff_eq, le_char_iff,
    ← Char.toNat_inj]
  have h0 : '0'.toNat = 48 := rfl
  have h9 : '9'.toNat = 57 := rfl
  have hA : 'A'.toNat = 65 := rfl
  have hZ : 'Z'.toNat = 90 := rfl
  have hu : '_'.toNat = 95 := rfl
  have ha : 'a'.toNat = 97 := rfl
  have hz : 'z'.toNat = 122 := rfl
  omega

theorem start_ascii {c : Char} (hc : isAscii c = true) (h : isIdentStart E c = true) : isStartA c = true := by
  simp only [LexImage.isAscii, decide_eq_true_eq] at hc
  have := isIdentStart_imp c h
  simp only [letterNat] at this
  simp only [isStartA, Bool.or_eq_true, Bool.and_eq_true, decide_eq_true_eq, beq_iff_eq, le_char_iff, ← Char.toNat_inj]
  have hA : 'A'.toNat = 65 := rfl
  have hZ : 'Z'.toNat = 90 := rfl
  have hu : '_'.toNat = 95 := rfl
  have ha : 'a'.toNat = 97 := rfl
  have hz : 'z'.toNat = 122 := rfl
  omega

theorem wordA_cases {c : Char} (h : isWordA c = true) : isStartA c = true ∨ E.isDigit c = true := by
  rw [LexImage.digit_ascii c (LitLex.wordA_ascii c h)]
  simpa [isWordA, isDig] using h

theorem ne_of_class {p : Char → Bool} {c x : Char} (hc : p c = true) (hx : p x = false) : c ≠ x := by
  rintro rfl; rw [hc] at hx; cases hx

theorem takeUpTo_inv (p : Char → Bool) (n : Nat) (cs : Str) :
    cs = (takeUpTo p n cs).1 ++ (takeUpTo p n cs).2 ∧ (takeUpTo p n cs).1.length ≤ n ∧ ∀ c ∈ (takeUpTo p n cs).1, p c = true := by
  refine ⟨takeUpTo_append p n cs, ?_, by simpa using LexImage.takeUpTo_all p n cs⟩
  fun_induction takeUpTo p n cs with
  | case3 n c cs hc a b heq ih => rw [heq] at ih; exact Nat.succ_le_succ ih
  | _ => exact Nat.zero_le _

end OQ.AcceptedLex
