/- Lemmas/LexImage.lean — helper lemmas for Props/C06Image.lean: what each lexer rule guarantees about its text. -/
import ODataVerif.Model.Lexer
import ODataVerif.Model.Parser
import ODataVerif.Model.SqlPieces
import ODataVerif.Lemmas.SqlTotal
import ODataVerif.Lemmas.Totality
set_option linter.unusedSimpArgs false
namespace OQ.LexImage
open Spec (isDig)

def isAscii (c : Char) : Bool := c.toNat < 128

theorem ascii_forall (P : Char → Bool) (h : ∀ n, n < 128 → P (Char.ofNat n) = true)
    (c : Char) (hc : isAscii c = true) : P c = true := by
  have := h c.toNat (by simpa [isAscii] using hc)
  rwa [Char.ofNat_toNat] at this

/- The Unicode tables of `pyCharEnv` have one ASCII entry each, and the case maps move a character by 32 inside
`a-z`; stated on `Char.toNat`, the facts below are linear arithmetic. -/

theorem isAscii_iff (c : Char) : isAscii c = true ↔ c.toNat < 128 := by
  simp only [isAscii, decide_eq_true_eq]

theorem toNat_ofNat {n : Nat} (h : n < 0xd800) : (Char.ofNat n).toNat = n := by
  unfold Char.ofNat
  rw [dif_pos (Or.inl h)]
  rfl

theorem isAsciiLower_iff (c : Char) : isAsciiLower c = true ↔ 97 ≤ c.toNat ∧ c.toNat ≤ 122 := by
  simp only [isAsciiLower, Char.le_def, UInt32.le_iff_toNat_le, Bool.and_eq_true, decide_eq_true_eq, Char.toNat_val]
  exact Iff.rfl

theorem asciiUpper_toNat {c : Char} (h : isAsciiLower c = true) : (asciiUpper c).toNat = c.toNat - 32 := by
  rw [asciiUpper, if_pos h]
  exact toNat_ofNat (by rw [isAsciiLower_iff] at h; omega)

theorem asciiUpper_eq_iff {c q : Char} (hq : q.toNat < 65) : asciiUpper c = q ↔ c = q := by
  by_cases hl : isAsciiLower c = true
  · have := asciiUpper_toNat hl
    rw [isAsciiLower_iff] at hl
    constructor <;> intro h <;> subst h <;> omega
  · rw [asciiUpper_id hl]

theorem asciiUpper_q (c : Char) (h : asciiUpper c = '\'') : c = '\'' :=
  (asciiUpper_eq_iff (by decide)).mp h

theorem asciiUpper_idem (p : Char) : asciiUpper (asciiUpper p) = asciiUpper p := by
  by_cases hl : isAsciiLower p = true
  · refine asciiUpper_id fun h => ?_
    have := asciiUpper_toNat hl
    rw [isAsciiLower_iff] at h hl
    omega
  · rw [asciiUpper_id hl, asciiUpper_id hl]

theorem pyUpperC_ascii {c : Char} (hc : isAscii c = true) : pyUpperC c = asciiUpper c := by
  rw [isAscii_iff] at hc
  rw [pyUpperC, if_neg (by simp only [beq_iff_eq]; omega), if_neg (by simp only [beq_iff_eq]; omega)]

theorem durUpper_ascii {c : Char} (hc : isAscii c = true) : durUpper c = asciiUpper c := by
  rw [isAscii_iff] at hc
  by_cases hl : isAsciiLower c = true
  · rw [durUpper, if_pos hl]
  · rw [durUpper, if_neg hl, if_neg (by simp only [beq_iff_eq]; omega), asciiUpper_id hl]

theorem asciiUpper_ascii {c : Char} (hc : isAscii c = true) : isAscii (asciiUpper c) = true := by
  by_cases hl : isAsciiLower c = true
  · have := asciiUpper_toNat hl
    rw [isAscii_iff] at hc ⊢; omega
  · rwa [asciiUpper_id hl]

theorem inRanges_eq_false {rs : List (Nat × Nat)} {n b : Nat} (h : rs.all (fun r => b ≤ r.1) = true) (hn : n < b) :
    inRanges rs n = false := by
  rw [inRanges, List.any_eq_false]
  intro r hr
  have := List.all_eq_true.mp h r hr
  simp only [decide_eq_true_eq] at this
  simp only [Bool.and_eq_true, decide_eq_true_eq]
  omega

/-- `\d` on ASCII is `0-9`: every other range of the table starts beyond 127 -/
theorem digit_ascii (c : Char) (hc : isAscii c = true) : pyCharEnv.isDigit c = isDig c := by
  rw [isAscii_iff] at hc
  show inRanges ((48, 57) :: CharTables.digitRanges.tail) c.toNat = isDig c
  rw [inRanges, List.any_cons, ← inRanges, inRanges_eq_false (b := 128) (by decide) hc, Bool.or_false,
    Bool.eq_iff_iff, isDig_iff]
  simp only [Bool.and_eq_true, decide_eq_true_eq]

theorem ci_ascii (p c : Char) (hc : isAscii c = true) :
    ciChar pyCharEnv p c = (c == p || c == asciiUpper p) := by
  rw [ciChar, ciExtra_ascii ((isAscii_iff c).1 hc), Bool.or_false]
  split
  · rfl
  · rename_i hp; rw [asciiUpper_id hp, Bool.or_self]

theorem ci_upper (p c : Char) (hc : isAscii c = true) (h : ciChar pyCharEnv p c = true) :
    asciiUpper c = asciiUpper p := by
  rw [ci_ascii p c hc, Bool.or_eq_true, beq_iff_eq, beq_iff_eq] at h
  rcases h with rfl | rfl
  · rfl
  · exact asciiUpper_idem p

theorem ci_iff (p c : Char) (hp : isAsciiLower p = true) (hc : isAscii c = true) :
    ciChar pyCharEnv p c = true ↔ asciiUpper c = asciiUpper p := by
  refine ⟨ci_upper p c hc, fun h => ?_⟩
  rw [ci_ascii p c hc, Bool.or_eq_true, beq_iff_eq, beq_iff_eq]
  by_cases hl : isAsciiLower c = true
  · have := asciiUpper_toNat hl
    have := asciiUpper_toNat hp
    rw [isAsciiLower_iff] at hl hp
    exact .inl (Char.toNat_inj.mp (by rw [h] at *; omega))
  · exact .inr (by rw [← h, asciiUpper_id hl])

theorem ci_dur (p c : Char) (hp : isAsciiLower p = true) (hc : isAscii c = true) :
    ciChar pyCharEnv p c = (durUpper c == asciiUpper p) := by
  rw [Bool.eq_iff_iff, ci_iff p c hp hc, durUpper_ascii hc, beq_iff_eq]

theorem span_congr (p q : Char → Bool) : ∀ cs : List Char, (∀ c ∈ cs, p c = q c) → span p cs = span q cs
  | [], _ => rfl
  | c :: cs, h => by
    simp only [span]
    rw [h c (by simp), span_congr p q cs (fun x hx => h x (by simp [hx]))]

theorem span1_digit_ascii (cs : List Char) (ha : cs.all isAscii = true) :
    span1 pyCharEnv.isDigit cs = span1 isDig cs := by
  unfold span1
  rw [span_congr pyCharEnv.isDigit isDig cs (fun c hc => digit_ascii c (by simp at ha; exact ha c hc))]

theorem takeWhile_app (p : Char → Bool) : ∀ (ds r : List Char), ds.all p = true → Stops p r →
    (ds ++ r).takeWhile p = ds
  | [], r, _, hr => by
    cases r with
    | nil => rfl
    | cons c t => rw [List.nil_append, List.takeWhile_cons, hr c t rfl]; rfl
  | d :: ds, r, hd, hr => by
    simp only [List.all_cons, Bool.and_eq_true] at hd
    simp [List.takeWhile_cons, hd.1, takeWhile_app p ds r hd.2 hr]

/-- the tail of a number after its integer digits -/
def numTail (r : Str) : Bool :=
  match r with
   | [] => true
   | '.' :: r1 =>
       let fp := r1.takeWhile isDig
       !fp.isEmpty &&
       (match r1.drop fp.length with
        | [] => true
        | c :: r2 =>
            (c == 'e' || c == 'E') &&
            (match r2 with
             | '+' :: r3 | '-' :: r3 => allDig r3
             | _ => allDig r2))
   | c :: r2 =>
       (c == 'e' || c == 'E') &&
       (match r2 with
        | '+' :: r3 | '-' :: r3 => allDig r3
        | _ => allDig r2)

theorem isNumBody_app (ds r : Str) (hne : ds ≠ []) (hd : ds.all isDig = true) (hr : Stops isDig r) :
    isNumBody (ds ++ r) = numTail r := by
  unfold isNumBody numTail
  simp only [takeWhile_app isDig ds r hd hr, List.drop_left]
  cases ds with
  | nil => exact absurd rfl hne
  | cons => simp; rfl

/-- exponent: `e`/`E`, optional sign, digits -/
def expOk (e : Str) : Bool :=
  match e with
  | c :: r2 => (c == 'e' || c == 'E') && (match r2 with
        | '+' :: r3 | '-' :: r3 => allDig r3
        | _ => allDig r2)
  | [] => false

theorem numTail_exp (e : Str) (h : expOk e = true) : numTail e = true := by
  unfold expOk at h
  split at h
  · rename_i c r2
    simp only [Bool.and_eq_true, Bool.or_eq_true, beq_iff_eq] at h
    obtain ⟨hc, h2⟩ := h
    rcases hc with rfl | rfl <;> simp [numTail, h2]
  · cases h

theorem expOk_stops (e : Str) (h : expOk e = true) : Stops isDig e := by
  unfold expOk at h
  split at h
  · simp only [Bool.and_eq_true, Bool.or_eq_true, beq_iff_eq] at h
    rcases h.1 with rfl | rfl <;> exact stops_cons (by decide) _
  · cases h

theorem numTail_frac (fs : Str) (hne : fs ≠ []) (hd : fs.all isDig = true) : numTail ('.' :: fs) = true := by
  have := takeWhile_app isDig fs [] hd (stops_nil _)
  simp only [List.append_nil] at this
  simp only [numTail, this, List.drop_length]
  cases fs with
  | nil => exact absurd rfl hne
  | cons => simp

theorem numTail_frac_exp (fs e : Str) (hne : fs ≠ []) (hd : fs.all isDig = true) (he : expOk e = true) :
    numTail ('.' :: (fs ++ e)) = true := by
  have := takeWhile_app isDig fs e hd (expOk_stops e he)
  simp only [List.cons_append, numTail, this, List.drop_left]
  unfold expOk at he
  cases fs with
  | nil => exact absurd rfl hne
  | cons =>
    cases e with
    | nil => cases he
    | cons c r2 => simpa using he

theorem isNumText_sign (sg ds t : Str) (hs : sg = [] ∨ sg = ['+'] ∨ sg = ['-']) (hne : ds ≠ [])
    (hd : ds.all isDig = true) : isNumText (sg ++ ds ++ t) = isNumBody (ds ++ t) := by
  rcases hs with rfl | rfl | rfl
  · cases ds with
    | nil => exact absurd rfl hne
    | cons d ds =>
      simp only [List.all_cons, Bool.and_eq_true] at hd
      simp only [List.nil_append, List.cons_append]
      unfold isNumText
      split
      · rename_i heq; simp only [List.cons.injEq] at heq; obtain ⟨rfl, -⟩ := heq; exact absurd hd.1 (by decide)
      · rename_i heq; simp only [List.cons.injEq] at heq; obtain ⟨rfl, -⟩ := heq; exact absurd hd.1 (by decide)
      · rfl
  · simp [isNumText]
  · simp [isNumText]

theorem scanInteger_spec (cs v r : Str) (ha : cs.all isAscii = true) (h : scanInteger pyCharEnv cs = some (v, r)) :
    ∃ sg ds, v = sg ++ ds ∧ (sg = [] ∨ sg = ['+'] ∨ sg = ['-']) ∧ ds ≠ [] ∧ ds.all isDig = true ∧
      Stops isDig r ∧ cs = v ++ r := by
  unfold scanInteger at h
  split at h
  · rename_i t
    simp only [List.all_cons, Bool.and_eq_true] at ha
    rw [span1_digit_ascii t ha.2] at h
    simp only [Option.map_eq_some_iff, Prod.mk.injEq, Prod.exists] at h
    obtain ⟨a, b, h1, rfl, rfl⟩ := h
    obtain ⟨rfl, hne, hd, hr⟩ := span1_eq_some_iff.1 h1
    exact ⟨['+'], a, rfl, by simp, hne, List.all_eq_true.2 hd, hr, rfl⟩
  · rename_i t
    simp only [List.all_cons, Bool.and_eq_true] at ha
    rw [span1_digit_ascii t ha.2] at h
    simp only [Option.map_eq_some_iff, Prod.mk.injEq, Prod.exists] at h
    obtain ⟨a, b, h1, rfl, rfl⟩ := h
    obtain ⟨rfl, hne, hd, hr⟩ := span1_eq_some_iff.1 h1
    exact ⟨['-'], a, rfl, by simp, hne, List.all_eq_true.2 hd, hr, rfl⟩
  · rw [span1_digit_ascii cs ha] at h
    obtain ⟨rfl, hne, hd, hr⟩ := span1_eq_some_iff.1 h
    exact ⟨[], v, rfl, by simp, hne, List.all_eq_true.2 hd, hr, rfl⟩

theorem scanInteger_num (cs v r : Str) (ha : cs.all isAscii = true) (h : scanInteger pyCharEnv cs = some (v, r)) :
    isNumText v = true := by
  obtain ⟨sg, ds, rfl, hs, hne, hd, hr, -⟩ := scanInteger_spec cs v r ha h
  have := isNumText_sign sg ds [] hs hne hd
  simp only [List.append_nil] at this
  rw [this]
  have := isNumBody_app ds [] hne hd (stops_nil _)
  simp only [List.append_nil] at this
  rw [this]; rfl

/-- `e`/`E`, a sign or none, then digits: a digit is no sign, so the sign-less text is read as such -/
theorem expOk_mk {c : Char} {sg a : Str} (hc : c = 'e' ∨ c = 'E') (hs : sg = [] ∨ sg = ['+'] ∨ sg = ['-'])
    (hne : a ≠ []) (hd : a.all isDig = true) : expOk (c :: (sg ++ a)) = true := by
  have hall : allDig a = true := by cases a <;> simp_all [allDig]
  have hce : (c == 'e' || c == 'E') = true := by rcases hc with rfl | rfl <;> rfl
  rcases hs with rfl | rfl | rfl
  · cases a with
    | nil => exact absurd rfl hne
    | cons d ds =>
      simp only [List.all_cons, Bool.and_eq_true] at hd
      simp only [expOk, hce, Bool.true_and, List.nil_append]
      split
      · rename_i heq; cases heq; exact absurd hd.1 (by decide)
      · rename_i heq; cases heq; exact absurd hd.1 (by decide)
      · exact hall
  · simp only [expOk, hce, Bool.true_and, List.cons_append, List.nil_append, hall]
  · simp only [expOk, hce, Bool.true_and, List.cons_append, List.nil_append, hall]

theorem scanExponent_spec (cs e r : Str) (ha : cs.all isAscii = true) (h : scanExponent pyCharEnv cs = some (e, r)) :
    expOk e = true := by
  have digits : ∀ {t a b : Str}, t.all isAscii = true → span1 pyCharEnv.isDigit t = some (a, b) →
      a ≠ [] ∧ a.all isDig = true := by
    intro t a b ht h1
    rw [span1_digit_ascii t ht] at h1
    exact ⟨(span1_eq_some_iff.1 h1).2.1, List.all_eq_true.2 (span1_eq_some_iff.1 h1).2.2.1⟩
  unfold scanExponent at h
  split at h
  · rename_i c t
    simp only [List.all_cons, Bool.and_eq_true] at ha
    split at h
    · rename_i hc
      rw [ci_ascii 'e' c ha.1] at hc
      have hc' : c = 'e' ∨ c = 'E' := by simpa [asciiUpper, isAsciiLower] using hc
      split at h
      all_goals
        simp only [Option.map_eq_some_iff, Prod.mk.injEq, Prod.exists] at h
        obtain ⟨a, b, h1, rfl, rfl⟩ := h
      · simp only [List.all_cons, Bool.and_eq_true] at ha
        have := digits ha.2.2 h1
        exact expOk_mk (sg := ['+']) hc' (.inr (.inl rfl)) this.1 this.2
      · simp only [List.all_cons, Bool.and_eq_true] at ha
        have := digits ha.2.2 h1
        exact expOk_mk (sg := ['-']) hc' (.inr (.inr rfl)) this.1 this.2
      · have := digits ha.2 h1
        exact expOk_mk (sg := []) hc' (.inl rfl) this.1 this.2
    · simp at h
  · simp at h

theorem scanDecimal_num (cs v r : Str) (ha : cs.all isAscii = true) (h : scanDecimal pyCharEnv cs = some (v, r)) :
    isNumText v = true := by
  unfold scanDecimal at h
  simp only [Option.bind_eq_bind, Option.bind_eq_some_iff] at h
  obtain ⟨⟨i, r1⟩, h1, h⟩ := h
  obtain ⟨sg, ds, rfl, hs, hne, hd, hr, hcs⟩ := scanInteger_spec cs i r1 ha h1
  have ha1 : r1.all isAscii = true := by rw [hcs] at ha; simp only [List.all_append, Bool.and_eq_true] at ha; exact ha.2
  dsimp only at h
  split at h
  · rename_i t
    simp only [List.all_cons, Bool.and_eq_true] at ha1
    rw [span1_digit_ascii t ha1.2] at h
    split at h
    · rename_i f r' hf
      obtain ⟨hft, hfne, hfd, hfr⟩ := span1_eq_some_iff.1 hf
      replace hfd := List.all_eq_true.2 hfd
      have ha2 : r'.all isAscii = true := by
        have := ha1.2; rw [hft] at this; simp only [List.all_append, Bool.and_eq_true] at this; exact this.2
      split at h
      · rename_i e r'' he
        have hexp := scanExponent_spec _ _ _ ha2 he
        simp only [Option.some.injEq, Prod.mk.injEq] at h
        obtain ⟨rfl, -⟩ := h
        have e1 : sg ++ ds ++ '.' :: f ++ e = sg ++ ds ++ ('.' :: (f ++ e)) := by simp [List.append_assoc]
        rw [e1, isNumText_sign sg ds _ hs hne hd, isNumBody_app ds _ hne hd (stops_cons (by decide) _)]
        exact numTail_frac_exp f e hfne hfd hexp
      · simp only [Option.some.injEq, Prod.mk.injEq] at h
        obtain ⟨rfl, -⟩ := h
        rw [isNumText_sign sg ds _ hs hne hd, isNumBody_app ds _ hne hd (stops_cons (by decide) _)]
        exact numTail_frac f hfne hfd
    · simp at h
  · split at h
    · rename_i e r'' he
      have hexp := scanExponent_spec _ _ _ ha1 he
      simp only [Option.some.injEq, Prod.mk.injEq] at h
      obtain ⟨rfl, -⟩ := h
      rw [isNumText_sign sg ds _ hs hne hd, isNumBody_app ds _ hne hd (expOk_stops e hexp)]
      exact numTail_exp e hexp
    · simp at h

theorem kw_nil (env : CharEnv) (cs m r : List Char) : kw env [] cs = some (m, r) ↔ m = [] ∧ r = cs := by
  simp only [kw, Option.some.injEq, Prod.mk.injEq]
  constructor <;> (rintro ⟨rfl, rfl⟩; exact ⟨rfl, rfl⟩)

theorem kw_cons (env : CharEnv) (p : Char) (ps cs m r : List Char) :
    kw env (p :: ps) cs = some (m, r) ↔
      ∃ c t m', cs = c :: t ∧ ciChar env p c = true ∧ kw env ps t = some (m', r) ∧ m = c :: m' := by
  cases cs with
  | nil => simp [kw]
  | cons c t =>
    simp only [kw]
    split
    · rename_i hc
      cases hk : kw env ps t with
      | none =>
        simp only [reduceCtorEq, false_iff, not_exists, not_and]
        rintro c' t' m' h1 - h2
        simp only [List.cons.injEq] at h1
        obtain ⟨rfl, rfl⟩ := h1
        rw [hk] at h2; cases h2
      | some q =>
        obtain ⟨m', r'⟩ := q
        simp only [Option.some.injEq, Prod.mk.injEq]
        constructor
        · rintro ⟨rfl, rfl⟩; exact ⟨c, t, m', rfl, hc, hk, rfl⟩
        · rintro ⟨c', t', m'', h1, -, h2, rfl⟩
          simp only [List.cons.injEq] at h1
          obtain ⟨rfl, rfl⟩ := h1
          rw [hk] at h2
          simp only [Option.some.injEq, Prod.mk.injEq] at h2
          obtain ⟨rfl, rfl⟩ := h2
          exact ⟨rfl, rfl⟩
    · rename_i hc
      simp only [reduceCtorEq, false_iff, not_exists, not_and]
      rintro c' t' m' h1 hc'
      simp only [List.cons.injEq] at h1
      obtain ⟨rfl, rfl⟩ := h1
      exact absurd hc' hc

theorem kw_upper : ∀ {w cs m r : Str}, cs.all isAscii = true → kw pyCharEnv w cs = some (m, r) →
    pyUpper m = w.map asciiUpper
  | [], _, _, _, _, h => by cases h; rfl
  | p :: ps, cs, m, r, ha, h => by
    obtain ⟨c, t, m', rfl, hc, hk, rfl⟩ := (kw_cons ..).mp h
    simp only [List.all_cons, Bool.and_eq_true] at ha
    simp only [pyUpper, List.map_cons, pyUpperC_ascii ha.1, ci_upper p c ha.1 hc]
    exact congrArg _ (kw_upper ha.2 hk)

theorem scanWord_upper {w cs v r : Str} (ha : cs.all isAscii = true) (h : scanWord pyCharEnv w cs = some (v, r)) :
    pyUpper v = w.map asciiUpper := by
  unfold scanWord at h
  split at h
  · rename_i hk
    split at h
    · cases h; exact kw_upper ha hk
    · cases h
  · cases h

theorem digit_q : pyCharEnv.isDigit '\'' = false := by decide +kernel
theorem hex_q : isHex pyCharEnv '\'' = false := by decide +kernel
theorem icr_q (lo hi : Char) (h : '(' ≤ lo) : inCharRange lo hi '\'' = false := by
  simp only [inCharRange, Bool.and_eq_false_imp, decide_eq_true_eq, decide_eq_false_iff_not]
  intro h'
  have : '(' ≤ '\'' := Char.le_trans h h'
  exact absurd this (by decide)

theorem noq_of_all (P : Char → Bool) (hP : P '\'' = false) (v : Str) (h : v.all P = true) : v.contains '\'' = false := by
  rw [Bool.eq_false_iff]
  intro hc
  rw [List.contains_iff_mem] at hc
  rw [List.all_eq_true] at h
  have := h _ hc
  rw [hP] at this; cases this

theorem takeUpTo_all (p : Char → Bool) : ∀ (n : Nat) (cs : List Char), (takeUpTo p n cs).1.all p = true
  | 0, cs => by simp [takeUpTo]
  | _ + 1, [] => by simp [takeUpTo]
  | n + 1, c :: cs => by
      simp only [takeUpTo]
      split
      · rename_i hc
        have := takeUpTo_all p n cs
        simp [hc, this]
      · simp

abbrev NoQ (v : Str) : Prop := '\'' ∉ v

theorem noQ_contains (v : Str) (h : NoQ v) : v.contains '\'' = false := by
  rw [Bool.eq_false_iff]; intro hc; exact h (List.contains_iff_mem.mp hc)

theorem noQ_digits (v : Str) (h : v.all pyCharEnv.isDigit = true) : NoQ v := by
  intro hc
  rw [List.all_eq_true] at h
  have := h _ hc
  rw [digit_q] at this; cases this

theorem scanDatePart_noq (cs v r : Str) (h : scanDatePart pyCharEnv cs = some (v, r)) : NoQ v := by
  unfold scanDatePart at h
  split at h
  · split at h <;> simp only [Option.some.injEq, Prod.mk.injEq, reduceCtorEq] at h
    rename_i hc
    obtain ⟨rfl, -⟩ := h
    intro hm
    simp only [List.mem_cons, List.not_mem_nil, or_false] at hm
    rcases hm with rfl | rfl | rfl | rfl | hm | rfl | rfl | hm | rfl | rfl <;>
      first
      | (revert hm; decide)
      | (simp [digit_q, icr_q] at hc)
  · simp at h

theorem scanHourMinute_noq (cs v r : Str) (h : scanHourMinute pyCharEnv cs = some (v, r)) : NoQ v := by
  unfold scanHourMinute at h
  split at h
  · split at h <;> simp only [Option.some.injEq, Prod.mk.injEq, reduceCtorEq] at h
    rename_i hc
    obtain ⟨rfl, -⟩ := h
    intro hm
    simp only [List.mem_cons, List.not_mem_nil, or_false] at hm
    rcases hm with rfl | rfl | hm | rfl | rfl <;>
      first
      | (revert hm; decide)
      | (simp [digit_q, icr_q] at hc)
  · simp at h

theorem scanFraction_noq (cs : Str) : NoQ (scanFraction pyCharEnv cs).1 := by
  unfold scanFraction
  split
  · rename_i r
    have := takeUpTo_all pyCharEnv.isDigit 12 r
    split
    · simp [NoQ]
    · rename_i ds r' hne heq
      rw [heq] at this
      have := noQ_digits ds this
      intro hm
      simp only [List.mem_cons] at hm
      rcases hm with hm | hm
      · revert hm; decide
      · exact this hm
  · simp [NoQ]

theorem scanSeconds_noq (cs v r : Str) (h : scanSeconds pyCharEnv cs = some (v, r)) : NoQ v := by
  unfold scanSeconds at h
  split at h
  · rename_i s1 s2 r0
    have hf := scanFraction_noq r0
    split at h <;> simp only [Option.some.injEq, Prod.mk.injEq, reduceCtorEq] at h
    rename_i hc
    obtain ⟨rfl, -⟩ := h
    intro hm
    simp only [List.mem_cons] at hm
    rcases hm with hm | hm | rfl | rfl | hm
    · revert hm; decide
    · revert hm; decide
    · simp [digit_q, icr_q] at hc
    · simp [digit_q, icr_q] at hc
    · exact hf hm
  · rename_i s1 s2 r0 _
    have hf := scanFraction_noq r0
    split at h <;> simp only [Option.some.injEq, Prod.mk.injEq, reduceCtorEq] at h
    rename_i hc
    obtain ⟨rfl, -⟩ := h
    intro hm
    simp only [List.mem_cons] at hm
    rcases hm with hm | rfl | rfl | hm
    · revert hm; decide
    · simp [digit_q, icr_q] at hc
    · simp [digit_q, icr_q] at hc
    · exact hf hm
  · simp at h

theorem ciz_q : ciChar pyCharEnv 'z' '\'' = false := by decide +kernel
theorem cit_q : ciChar pyCharEnv 't' '\'' = false := by decide +kernel

theorem scanOffset_noq (cs : Str) : NoQ (scanOffset pyCharEnv cs).1 := by
  unfold scanOffset
  split
  · rename_i c r
    split
    · rename_i hc
      intro hm
      simp only [List.mem_cons, List.not_mem_nil, or_false] at hm
      subst hm
      rw [ciz_q] at hc; cases hc
    · split
      · rename_i hc
        split
        · rename_i hm r' heq
          have := scanHourMinute_noq _ _ _ heq
          intro hmem
          simp only [List.mem_cons] at hmem
          rcases hmem with rfl | hmem
          · simp at hc
          · exact this hmem
        · simp [NoQ]
      · simp [NoQ]
  · simp [NoQ]

theorem noQ_append {a b : Str} (ha : NoQ a) (hb : NoQ b) : NoQ (a ++ b) := by
  intro hm; rcases List.mem_append.mp hm with h | h
  · exact ha h
  · exact hb h

theorem noQ_upper {a : Str} (ha : NoQ a) : NoQ (a.map asciiUpper) := by
  intro hm
  obtain ⟨c, hc, hq⟩ := List.mem_map.mp hm
  have := asciiUpper_q c hq
  subst this
  exact ha hc

theorem scanDateTime_noq (cs v r : Str) (h : scanDateTime pyCharEnv cs = some (v, r)) : NoQ v := by
  unfold scanDateTime at h
  simp only [Option.bind_eq_bind, Option.bind_eq_some_iff] at h
  obtain ⟨⟨d, r1⟩, h1, h⟩ := h
  have hd := scanDatePart_noq _ _ _ h1
  split at h
  · rename_i _ t r2 _
    split at h
    · rename_i ht
      simp only [Option.bind_eq_bind, Option.bind_eq_some_iff] at h
      obtain ⟨⟨hm, r3⟩, h2, h⟩ := h
      dsimp only at h
      have hhm := scanHourMinute_noq _ _ _ h2
      have htq : NoQ [t] := by
        intro hm; simp only [List.mem_cons, List.not_mem_nil, or_false] at hm; subst hm
        rw [cit_q] at ht; cases ht
      cases hs : scanSeconds pyCharEnv r3 with
      | none =>
        simp only [hs, Option.pure_def, Option.some.injEq, Prod.mk.injEq] at h
        obtain ⟨rfl, -⟩ := h
        have ho := scanOffset_noq r3
        refine noQ_upper ?_
        have := noQ_append (noQ_append (noQ_append hd (noQ_append htq hhm)) (by simp [NoQ] : NoQ [])) ho
        simpa [List.append_assoc] using this
      | some p =>
        obtain ⟨s, r4⟩ := p
        have hsq := scanSeconds_noq _ _ _ hs
        simp only [hs, Option.pure_def, Option.some.injEq, Prod.mk.injEq] at h
        obtain ⟨rfl, -⟩ := h
        have ho := scanOffset_noq r4
        refine noQ_upper ?_
        have := noQ_append (noQ_append (noQ_append hd (noQ_append htq hhm)) hsq) ho
        simpa [List.append_assoc] using this
    · simp at h
  · simp at h

theorem scanTime_noq (cs v r : Str) (h : scanTime pyCharEnv cs = some (v, r)) : NoQ v := by
  unfold scanTime at h
  simp only [Option.bind_eq_bind, Option.bind_eq_some_iff] at h
  obtain ⟨⟨d, r1⟩, h1, ⟨s, r2⟩, h2, h⟩ := h
  simp only [Option.pure_def, Option.some.injEq, Prod.mk.injEq] at h
  obtain ⟨rfl, -⟩ := h
  exact noQ_append (scanHourMinute_noq _ _ _ h1) (scanSeconds_noq _ _ _ h2)

theorem scanGuid_noq (cs v r : Str) (h : scanGuid pyCharEnv cs = some (v, r)) : NoQ v := by
  intro hm
  have := List.all_eq_true.mp (scanGuid_append h).2 _ hm
  rw [hex_q] at this
  cases this

abbrev NoDQ (v : Str) : Prop := '"' ∉ v

theorem word_dq : pyCharEnv.isWord '"' = false := by decide +kernel
theorem identStart_dq : isIdentStart pyCharEnv '"' = false := by decide +kernel

theorem identTail_nodq : ∀ (n : Nat) (cs : List Char), NoDQ (identTail pyCharEnv n cs).1 := by
  intro n cs
  fun_induction identTail pyCharEnv n cs
  all_goals try (simp [NoDQ]; done)
  · rename_i n c t hc a b heq ih
    rw [heq] at ih
    intro hm
    simp only [List.mem_cons] at hm
    rcases hm with hm | rfl | hm
    · revert hm; decide
    · rw [word_dq] at hc; cases hc
    · exact ih hm
  · rename_i n c t _ hc a b heq ih
    rw [heq] at ih
    intro hm
    simp only [List.mem_cons] at hm
    rcases hm with rfl | hm
    · rw [word_dq] at hc; cases hc
    · exact ih hm

theorem splitDots_nodq : ∀ (s : List Char), NoDQ s → ∀ p ∈ splitDots s, NoDQ p := by
  intro s
  fun_induction splitDots s
  · intro _ p hp; simp at hp; subst hp; simp [NoDQ]
  · rename_i t ih
    intro hs p hp
    simp only [List.mem_cons] at hp
    rcases hp with rfl | hp
    · simp [NoDQ]
    · exact ih (fun h => hs (List.mem_cons_of_mem _ h)) p hp
  · rename_i c t hne h r heq ih
    intro hs p hp
    rw [heq] at ih
    have ih' := ih (fun h => hs (List.mem_cons_of_mem _ h))
    simp only [List.mem_cons] at hp
    rcases hp with rfl | hp
    · intro hm
      simp only [List.mem_cons] at hm
      rcases hm with rfl | hm
      · exact hs (by simp)
      · exact ih' h (by simp) hm
    · exact ih' p (by simp [hp])
  · rename_i c t hne heq ih
    intro hs p hp
    simp only [List.mem_cons, List.not_mem_nil, or_false] at hp
    subst hp
    intro hm
    simp only [List.mem_cons, List.not_mem_nil, or_false] at hm
    subst hm
    exact hs (by simp)

theorem scanIdent_nodq (cs : Str) (i : Ident) (r : Str) (h : scanIdent pyCharEnv cs = some (i, r)) :
    i.name.contains '"' = false ∧ i.ns.all (fun n => !n.contains '"') = true := by
  unfold scanIdent at h
  split at h
  · rename_i c t
    split at h <;> simp only [Option.some.injEq, Prod.mk.injEq, reduceCtorEq] at h
    rename_i hc
    obtain ⟨rfl, -⟩ := h
    have ht := identTail_nodq 127 t
    have hs : NoDQ (c :: (identTail pyCharEnv 127 t).1) := by
      intro hm
      simp only [List.mem_cons] at hm
      rcases hm with rfl | hm
      · rw [identStart_dq] at hc; cases hc
      · exact ht hm
    have hp := splitDots_nodq _ hs
    simp only [identOfText]
    constructor
    · rw [Bool.eq_false_iff]
      intro hcon
      rw [List.contains_iff_mem] at hcon
      cases hl : (splitDots (c :: (identTail pyCharEnv 127 t).1)).getLast? with
      | none => simp [hl] at hcon
      | some x =>
        simp only [hl, Option.getD_some] at hcon
        exact hp x (List.mem_of_getLast? hl) hcon
    · rw [List.all_eq_true]
      intro n hn
      have := hp n (List.dropLast_subset _ hn)
      simp only [Bool.not_eq_true', Bool.eq_false_iff]
      intro hcon
      exact this (List.contains_iff_mem.mp hcon)
  · simp at h

theorem litShape_noq {isD : Char → Bool} {k : LitKind} {v : Str}
    (hk : k = .date ∨ k = .time ∨ k = .datetime ∨ k = .guid) (h : NoQ v) :
    (litTextOk isD k v && SqlTotal.durLitOk isD k v) = true := by
  rcases hk with rfl | rfl | rfl | rfl <;> simpa [litTextOk, SqlTotal.durLitOk] using h

theorem litShape_num {isD : Char → Bool} {k : LitKind} {v : Str} (hk : k = .int ∨ k = .float)
    (h : isNumText v = true) : (litTextOk isD k v && SqlTotal.durLitOk isD k v) = true := by
  rcases hk with rfl | rfl <;> simp [litTextOk, SqlTotal.durLitOk, h]

theorem lexOne_rest (env : CharEnv) (P : Char → Bool) (cs : List Char) (t : Tok) (r : List Char)
    (h : lexOne env cs = some (t, r)) (ha : cs.all P = true) : r.all P = true :=
  all_of_suffix (lexOne_left h).1 ha

/-- what every lexer step guarantees of its token on a text of `P` characters holds of every token of the whole text -/
theorem lexFuel_forall (env : CharEnv) (P : Char → Bool) (Q : Tok → Prop)
    (hQ : ∀ cs t r, cs.all P = true → lexOne env cs = some (t, r) → Q t) :
    ∀ (f pos : Nat) (cs : List Char), cs.all P = true → ∀ t ∈ (lexFuel env f pos cs).toks, Q t
  | 0, _, _, _ => by simp [lexFuel]
  | _ + 1, _, [], _ => by simp [lexFuel]
  | f + 1, pos, c :: cs, ha => by
    simp only [lexFuel]
    cases hl : lexOne env (c :: cs) with
    | none => simp
    | some p =>
      obtain ⟨t, r⟩ := p
      simp only [List.forall_mem_cons]
      exact ⟨hQ _ _ _ ha hl, lexFuel_forall env P Q hQ f _ r (lexOne_rest env P _ _ _ hl ha)⟩

end OQ.LexImage
