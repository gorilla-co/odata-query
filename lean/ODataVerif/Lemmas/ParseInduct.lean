/-
  Lemmas/ParseInduct.lean — one induction principle for the fuelled mutual parser.  An invariant of the parser
  (`ParseInv`) is a family of predicates — on the tokens read, on the errors raised, and on what each kind of
  non-terminal returns — closed under the grammar actions.  `parse_induct` proves, by induction on the fuel and for
  the ten functions at once, that every result satisfies its predicate; an invariant is then established by
  supplying the closure conditions only.
-/
import ODataVerif.Model.Parser
namespace OQ

def Res {α : Type} (P : α → List Tok → Prop) (Q : PErr → Prop) : Except PErr (α × List Tok) → Prop
  | .ok (a, rest) => P a rest
  | .error e => Q e

@[simp] theorem Res_ok {α : Type} (P : α → List Tok → Prop) (Q) (a rest) : Res P Q (.ok (a, rest)) = P a rest := rfl
@[simp] theorem Res_pure {α : Type} (P : α → List Tok → Prop) (Q) (a rest) : Res P Q (pure (a, rest)) = P a rest := rfl
@[simp] theorem Res_error {α : Type} (P : α → List Tok → Prop) (Q) (e) : Res P Q (.error e) = Q e := rfl

theorem Res.bind {α β : Type} {P : α → List Tok → Prop} {P' : β → List Tok → Prop} {Q : PErr → Prop}
    {x : Except PErr (α × List Tok)} {g : α × List Tok → Except PErr (β × List Tok)}
    (hx : Res P Q x) (hg : ∀ a rest, P a rest → Res P' Q (g (a, rest))) : Res P' Q (x >>= g) := by
  cases x with
  | error e => exact hx
  | ok p => obtain ⟨a, rest⟩ := p; exact hg a rest hx

theorem Res.mono {α : Type} {P P' : α → List Tok → Prop} {Q Q' : PErr → Prop}
    {x : Except PErr (α × List Tok)} (hx : Res P Q x) (hp : ∀ a rest, P a rest → P' a rest)
    (hq : ∀ e, Q e → Q' e) : Res P' Q' x := by
  cases x with
  | error e => exact hq e hx
  | ok p => obtain ⟨a, rest⟩ := p; exact hp a rest hx

theorem skipWs_len (ts : List Tok) : (skipWs ts).length ≤ ts.length := by
  unfold skipWs; split <;> simp

theorem skipWs_suffix (ts : List Tok) : skipWs ts <:+ ts := by
  unfold skipWs; split
  · exact List.suffix_cons _ _
  · exact List.suffix_refl _

theorem failAt_ne_exc (lexErr ts) (o) : failAt lexErr ts ≠ .exc o := by
  unfold failAt; split
  · split <;> simp
  · simp

@[simp] theorem failAt_ne_fuel (lexErr ts) : failAt lexErr ts ≠ .fuel := by
  unfold failAt; split
  · split <;> simp
  · simp

theorem expectRp_cases (lexErr ts) : (∃ r, ts = .rp :: r ∧ expectRp lexErr ts = .ok r) ∨
    (∃ e, e ≠ .fuel ∧ (∀ o, e ≠ .exc o) ∧ expectRp lexErr ts = .error e) := by
  unfold expectRp
  split
  · exact .inl ⟨_, rfl, rfl⟩
  · exact .inr ⟨_, failAt_ne_fuel _ _, failAt_ne_exc _ _, rfl⟩

/-- An invariant of the parser.  `K` holds of every token of the input; `Q` of every error; `E`, `L`, `Items`,
    `Named`, `Path`, `Lam` of what the non-terminals `common_expr`, `list_expr` (right operand of `in`),
    `list_items` (never empty), `list_named_param`, `property_path_expr` and `lambda_` return.  The remaining
    fields say that the grammar actions preserve them; only an action can raise an `exc` error. -/
structure ParseInv where
  K : Tok → Prop
  Q : PErr → Prop
  E : Expr → Prop
  L : Expr → Prop
  Items : Exprs → Prop
  Named : Exprs → Prop
  Path : Expr → Prop
  Lam : OptLam → Prop
  err : ∀ e, (∀ o, e ≠ .exc o) → Q e
  lit : ∀ k v, K (.lit k v) → E (.lit k v)
  unary : ∀ op e, E e → E (.unary op e)
  boolop : ∀ o l r, E l → E r → E (.boolop o l r)
  binop : ∀ o l r, E l → E r → E (.binop o l r)
  compare : ∀ o l r, o ≠ .in_ → E l → E r → E (.compare o l r)
  isIn : ∀ l r, E l → L r → E (.compare .in_ l r)
  list : ∀ xs, Items xs → L (.list xs)
  ofList : ∀ e, L e → E e
  one : ∀ e, E e → Items (.cons e .nil)
  snoc : ∀ acc e, Items acc → E e → Items (acc.snoc e)
  named : ∀ n e, K (.ident n) → E e → Named (.cons (.named n e) .nil)
  namedSnoc : ∀ acc n e, K (.ident n) → Named acc → E e → Named (acc.snoc (.named n e))
  call : ∀ f args, K (.ident f) → (args = .nil ∨ Items args ∨ Named args) →
    ∀ rest, Res (fun e _ => E e) Q (liftOutcome (functionCall f args) rest)
  pathIdent : ∀ i, K (.ident i) → Path (.ident i)
  pathCons : ∀ i tail, K (.ident i) → Path tail → ∀ rest, Res (fun e _ => Path e) Q (liftOutcome (pathCons i tail) rest)
  pathAny : ∀ i, K (.ident i) → Path (.coll (.ident i) .any .none)
  pathColl : ∀ i op lam, K (.ident i) → Lam lam → Path (.coll (.ident i) op lam)
  ofPath : ∀ e, Path e → E e
  lam : ∀ v body, K (.ident v) → E body → Lam (.some v body)

namespace ParseInv
variable (I : ParseInv)

abbrev Toks (ts : List Tok) : Prop := ∀ t ∈ ts, I.K t

abbrev R {α : Type} (P : α → Prop) (x : Except PErr (α × List Tok)) : Prop :=
  Res (fun a r => P a ∧ I.Toks r) I.Q x

variable {I}

theorem tail {t : Tok} {ts : List Tok} (h : I.Toks (t :: ts)) : I.Toks ts :=
  fun x hx => h x (List.mem_cons_of_mem _ hx)

theorem skipWs {ts : List Tok} (h : I.Toks ts) : I.Toks (skipWs ts) :=
  fun x hx => h x ((skipWs_suffix ts).subset hx)

theorem skip {ts r : List Tok} {t : Tok} (heq : OQ.skipWs ts = t :: r) (h : I.Toks ts) : I.Toks r :=
  tail (heq ▸ skipWs h)

theorem skipHead {ts r : List Tok} {t : Tok} (heq : OQ.skipWs ts = t :: r) (h : I.Toks ts) : I.K t :=
  (heq ▸ skipWs h) t List.mem_cons_self

theorem lift {α : Type} {P : α → Prop} {o : Outcome α} {rest : List Tok}
    (h : Res (fun a _ => P a) I.Q (liftOutcome o rest)) (hr : I.Toks rest) : I.R P (liftOutcome o rest) := by
  cases o
  · exact ⟨h, hr⟩
  all_goals exact h

theorem finish {lexErr : Bool} {f : Ident} {args : Exprs} {rest : List Tok} (hf : I.K (.ident f))
    (ha : args = .nil ∨ I.Items args ∨ I.Named args) (hr : I.Toks rest) :
    I.R I.E (finishCall lexErr f args rest) := by
  unfold finishCall
  split
  · split
    · exact I.err _ nofun
    · exact lift (I.call f args hf ha _) hr
  · split
    · exact lift (I.call f args hf ha _) hr
    · exact I.err _ nofun

variable (I) (lexErr : Bool)

/-- what `parse_induct` establishes at fuel `f`, one clause per parser function -/
def At (f : Nat) : Prop :=
  (∀ min ts, I.Toks ts → I.R I.E (parseExpr lexErr f min ts)) ∧
  (∀ min lhs ts, I.E lhs → I.Toks ts → I.R I.E (parseLoop lexErr f min lhs ts)) ∧
  (∀ ts, I.Toks ts → I.R I.E (parsePrefix lexErr f ts)) ∧
  (∀ ts, I.Toks ts → I.R I.E (parseParen lexErr f ts)) ∧
  (∀ acc ts, I.Items acc → I.Toks ts → I.R I.Items (parseItems lexErr f acc ts)) ∧
  (∀ ts, I.Toks ts → I.R I.L (parseListExpr lexErr f ts)) ∧
  (∀ i ts, I.K (.ident i) → I.Toks ts → I.R I.E (parseCallArgs lexErr f i ts)) ∧
  (∀ i acc ts, I.K (.ident i) → I.Named acc → I.Toks ts → I.R I.E (parseNamedRest lexErr f i acc ts)) ∧
  (∀ i ts, I.K (.ident i) → I.Toks ts → I.R I.Path (parsePath lexErr f i ts)) ∧
  (∀ ts, I.Toks ts → I.R I.Lam (parseLambda lexErr f ts))

theorem at_zero : I.At lexErr 0 :=
  have h : I.Q .fuel := I.err _ nofun
  ⟨fun _ _ _ => h, fun _ _ _ _ _ => h, fun _ _ => h, fun _ _ => h, fun _ _ _ _ => h, fun _ _ => h,
   fun _ _ _ _ => h, fun _ _ _ _ _ _ => h, fun _ _ _ _ => h, fun _ _ => h⟩

theorem at_succ (f : Nat) (ih : I.At lexErr f) : I.At lexErr (f + 1) := by
  obtain ⟨ihE, ihL, ihP, ihPar, ihI, ihLE, ihCA, ihNR, ihPath, ihLam⟩ := ih
  have fail : ∀ ts, I.Q (failAt lexErr ts) := fun ts => I.err _ (failAt_ne_exc _ _)
  refine ⟨?_, ?_, ?_, ?_, ?_, ?_, ?_, ?_, ?_, ?_⟩
  · intro min ts hts
    simp only [parseExpr]
    exact Res.bind (ihP ts hts) fun lhs r h => ihL min lhs r h.1 h.2
  · intro min lhs ts hl hts
    simp only [parseLoop]
    split
    · split
      · exact Res.bind (ihE _ _ (tail hts)) fun rhs r' h => ihL _ _ r' (I.boolop _ _ _ hl h.1) h.2
      · exact And.intro hl hts
    · split
      · exact Res.bind (ihLE _ (tail hts)) fun rhs r' h => ihL _ _ r' (I.isIn _ _ hl h.1) h.2
      · exact And.intro hl hts
    · rename_i o r hne
      split
      · exact Res.bind (ihE _ _ (tail hts)) fun rhs r' h =>
          ihL _ _ r' (I.compare _ _ _ (fun e => hne (e ▸ rfl)) hl h.1) h.2
      · exact And.intro hl hts
    · split
      · exact Res.bind (ihE _ _ (tail hts)) fun rhs r' h => ihL _ _ r' (I.binop _ _ _ hl h.1) h.2
      · exact And.intro hl hts
    · exact And.intro hl hts
  · intro ts hts
    simp only [parsePrefix]
    split
    · exact Res.bind (ihE _ _ (tail hts)) fun e r' h => And.intro (I.unary _ _ h.1) h.2
    · exact Res.bind (ihE _ _ (skipWs (tail hts))) fun e r' h => And.intro (I.unary _ _ h.1) h.2
    · exact And.intro (I.lit _ _ (hts _ List.mem_cons_self)) (tail hts)
    · exact ihPar _ (skipWs (tail hts))
    · exact finish (hts _ List.mem_cons_self) (.inl rfl) (tail (tail (tail hts)))
    · exact ihCA _ _ (hts _ List.mem_cons_self) (skipWs (tail (tail hts)))
    · exact Res.mono (ihPath _ _ (hts _ List.mem_cons_self) (tail hts))
        (fun e r h => And.intro (I.ofPath _ h.1) h.2) fun _ h => h
    · exact fail _
  · intro ts hts
    simp only [parseParen]
    refine Res.bind (ihE _ _ hts) fun e r h => ?_
    dsimp only
    split
    · rename_i heq
      exact And.intro h.1 (skip heq h.2)
    · rename_i r' heq
      split
      · rename_i heq'
        exact And.intro (I.ofList _ (I.list _ (I.one _ h.1))) (skip heq' (skip heq h.2))
      · exact Res.bind (ihI _ _ (I.one _ h.1) (skipWs (skip heq h.2))) fun items r3 h3 =>
          And.intro (I.ofList _ (I.list _ h3.1)) h3.2
    · exact fail _
  · intro acc ts hacc hts
    simp only [parseItems]
    refine Res.bind (ihE _ _ hts) fun e r h => ?_
    dsimp only
    split
    · rename_i heq
      exact And.intro (I.snoc _ _ hacc h.1) (skip heq h.2)
    · rename_i r' heq
      exact ihI _ _ (I.snoc _ _ hacc h.1) (skipWs (skip heq h.2))
    · exact fail _
  · intro ts hts
    simp only [parseListExpr]
    split
    · refine Res.bind (ihE _ _ (skipWs (tail hts))) fun e r h => ?_
      dsimp only
      split
      · rename_i r' heq
        split
        · rename_i heq'
          exact And.intro (I.list _ (I.one _ h.1)) (skip heq' (skip heq h.2))
        · exact Res.bind (ihI _ _ (I.one _ h.1) (skipWs (skip heq h.2))) fun items r3 h3 =>
            And.intro (I.list _ h3.1) h3.2
      · exact fail _
    · exact fail _
  · intro i ts hi hts
    simp only [parseCallArgs]
    split
    · exact Res.bind (ihE _ _ (tail (tail hts))) fun e r1 h =>
        ihNR _ _ r1 hi (I.named _ _ (hts _ List.mem_cons_self) h.1) h.2
    · refine Res.bind (ihE _ _ hts) fun e r h => ?_
      dsimp only
      split
      · rename_i heq
        exact finish hi (.inr (.inl (I.one _ h.1))) (skip heq h.2)
      · rename_i r' heq
        split
        · rename_i heq'
          exact finish hi (.inr (.inl (I.one _ h.1))) (skip heq' (skip heq h.2))
        · exact Res.bind (ihI _ _ (I.one _ h.1) (skipWs (skip heq h.2))) fun items r4 h4 =>
            finish hi (.inr (.inl h4.1)) h4.2
      · exact fail _
  · intro i acc ts hi hacc hts
    simp only [parseNamedRest]
    split
    · rename_i heq
      exact finish hi (.inr (.inr hacc)) (skip heq hts)
    · rename_i r heq
      split
      · rename_i heq'
        exact Res.bind (ihE _ _ (tail (skip heq' (skip heq hts)))) fun e r1 h =>
          ihNR _ _ r1 hi (I.namedSnoc _ _ _ (skipHead heq' (skip heq hts)) hacc h.1) h.2
      · exact fail _
      · exact fail _
    · exact fail _
  · intro i ts hi hts
    simp only [parsePath]
    have close : ∀ (op : CollOp) {x : Except PErr (OptLam × List Tok)}, I.R I.Lam x →
        I.R I.Path (x >>= fun p => do
          let r3 ← expectRp lexErr (OQ.skipWs p.2)
          pure (Expr.coll (.ident i) op p.1, r3)) := by
      intro op x hx
      refine Res.bind hx fun lam r2 h2 => ?_
      rcases expectRp_cases lexErr (OQ.skipWs r2) with ⟨r3, h3, h4⟩ | ⟨e, _, he, h4⟩
      · rw [h4]; exact And.intro (I.pathColl i op lam hi h2.1) (skip h3 h2.2)
      · rw [h4]; exact I.err e he
    split
    · exact Res.bind (ihPath _ _ (hts _ (by simp)) (tail (tail hts))) fun tl r' ht =>
        lift (I.pathCons i tl hi ht.1 r') ht.2
    · split
      · rename_i heq
        exact And.intro (I.pathAny i hi) (skip heq (tail (tail (tail hts))))
      · exact close .any (ihLam _ (skipWs (tail (tail (tail hts)))))
    · exact close .all (ihLam _ (skipWs (tail (tail (tail hts)))))
    · exact fail _
    · exact fail _
    · exact fail _
    · exact And.intro (I.pathIdent i hi) hts
  · intro ts hts
    simp only [parseLambda]
    split
    · split
      · rename_i heq
        exact Res.bind (ihE _ _ (skipWs (skip heq (tail hts)))) fun e r1 h =>
          And.intro (I.lam _ _ (hts _ List.mem_cons_self) h.1) h.2
      · exact fail _
    · exact fail _

end ParseInv

theorem parse_induct (I : ParseInv) (lexErr : Bool) : ∀ f, I.At lexErr f
  | 0 => I.at_zero lexErr
  | f + 1 => I.at_succ lexErr f (parse_induct I lexErr f)

theorem parseToks_ok {lexErr : Option Nat} {ts : List Tok} {e : Expr} (h : parseToks lexErr ts = .ok e) :
    parseExpr lexErr.isSome (parseFuel ts) 0 ts = .ok (e, []) := by
  unfold parseToks at h
  split at h
  · rename_i heq
    split at h
    · cases h
    · cases h; exact heq
  all_goals cases h

theorem ParseInv.parseToks (I : ParseInv) {lexErr : Option Nat} {ts : List Tok} {e : Expr} (hts : I.Toks ts)
    (h : parseToks lexErr ts = .ok e) : I.E e := by
  have := (parse_induct I lexErr.isSome (parseFuel ts)).1 0 ts hts
  rw [parseToks_ok h] at this
  exact this.1

end OQ
