/- Lemmas/LitValue.lean — the `py_val` model reads the well-formed spellings of Spec/LitSpell.lean back (value half of
   Props/C06Value.lean): digits, dates, clocks, offsets, GUIDs, strings, identifiers. -/
import ODataVerif.Model.Lexer
import ODataVerif.Model.PyVal
import ODataVerif.Spec.LitSpell
import ODataVerif.Props.C06
namespace OQ.LitValue
open OQ.LitSpell
set_option linter.unusedSimpArgs false

theorem digitChar_ind (P : Char → Prop) (h : ∀ k, k < 10 → P (Char.ofNat (48 + k))) (n : Nat) : P (digitChar n) :=
  h _ (Nat.mod_lt _ (by decide))

theorem pad_all (P : Char → Prop) (h : ∀ k, k < 10 → P (Char.ofNat (48 + k))) (w n : Nat) : ∀ c ∈ pad w n, P c := by
  induction w generalizing n with
  | zero => simp [pad]
  | succ w ih =>
    intro c hc
    simp only [pad, List.mem_append, List.mem_singleton] at hc
    rcases hc with hc | rfl
    · exact ih _ c hc
    · exact digitChar_ind P h _

theorem frac_all (P : Char → Prop) (h : ∀ k, k < 10 → P (Char.ofNat (48 + k))) (fs : List Nat) : ∀ c ∈ fracText fs, P c := by
  intro c hc
  obtain ⟨d, _, rfl⟩ := List.mem_map.1 hc
  exact digitChar_ind P h d

theorem fracText_ne_nil {fs : List Nat} (h : fs ≠ []) : fracText fs ≠ [] := by simpa [fracText] using h

theorem asciiDigit_digitChar (n : Nat) : asciiDigit? (digitChar n) = some (n % 10) := by
  have : ∀ k, k < 10 → asciiDigit? (Char.ofNat (48 + k)) = some k := by decide
  exact this _ (Nat.mod_lt _ (by decide))

abbrev dstep : Option Nat → Char → Option Nat := fun acc c => match acc, asciiDigit? c with
                                 | some a, some d => some (a * 10 + d)
                                 | _, _ => none

theorem natOfDigits_ne_nil {cs : List Char} (h : cs ≠ []) : natOfDigits cs = cs.foldl dstep (some 0) := by
  cases cs with
  | nil => exact absurd rfl h
  | cons c t => rfl

/-- one more digit `n % b` behind `n / b` written in `w` digits, in base `b` -/
theorem radix_step (b a w n : Nat) : (a * b ^ w + n / b) * b + n % b = a * b ^ (w + 1) + n := by
  rw [Nat.add_mul, Nat.add_assoc, Nat.div_add_mod', Nat.pow_succ, Nat.mul_assoc]

theorem radix_lt {b w n : Nat} (h : n < b ^ (w + 1)) : n / b < b ^ w :=
  Nat.div_lt_of_lt_mul (by rwa [Nat.pow_succ, Nat.mul_comm] at h)

theorem foldl_pad : ∀ (w n a : Nat), n < 10 ^ w → (pad w n).foldl dstep (some a) = some (a * 10 ^ w + n)
  | 0, n, a, h => by simp at h; simp [pad, h]
  | w + 1, n, a, h => by
      simp only [pad, List.foldl_append, foldl_pad w (n / 10) a (radix_lt h), List.foldl_cons, List.foldl_nil, dstep,
        asciiDigit_digitChar, radix_step]

theorem pad_ne_nil (w n : Nat) : pad (w + 1) n ≠ [] := by simp [pad]

theorem natOfDigits_pad (w n : Nat) (h : n < 10 ^ (w + 1)) : natOfDigits (pad (w + 1) n) = some n := by
  rw [natOfDigits_ne_nil (pad_ne_nil w n), foldl_pad _ _ _ h]; simp

theorem pad2 (n : Nat) : pad 2 n = [digitChar (n / 10), digitChar n] := rfl
theorem pad4 (n : Nat) : pad 4 n = [digitChar (n / 10 / 10 / 10), digitChar (n / 10 / 10), digitChar (n / 10), digitChar n] := rfl

theorem nod2 {n : Nat} (h : n < 100) : natOfDigits [digitChar (n / 10), digitChar n] = some n :=
  natOfDigits_pad 1 n h
theorem nod4 {n : Nat} (h : n < 10000) :
    natOfDigits [digitChar (n / 10 / 10 / 10), digitChar (n / 10 / 10), digitChar (n / 10), digitChar n] = some n :=
  natOfDigits_pad 3 n h

theorem pad_head (w n : Nat) : ∃ t, pad (w + 1) n = digitChar (n / 10 ^ w) :: t := by
  induction w generalizing n with
  | zero => exact ⟨[], by simp [pad]⟩
  | succ w ih =>
    obtain ⟨t, ht⟩ := ih (n / 10)
    refine ⟨t ++ [digitChar n], ?_⟩
    rw [pad, ht, Nat.div_div_eq_div_mul, Nat.pow_succ, Nat.mul_comm]; rfl

theorem digitChar_ne_minus (n : Nat) : digitChar n ≠ '-' := digitChar_ind (· ≠ '-') (by decide) n
theorem digitChar_ne_plus (n : Nat) : digitChar n ≠ '+' := digitChar_ind (· ≠ '+') (by decide) n
theorem digitChar_ne_colon (n : Nat) : digitChar n ≠ ':' := digitChar_ind (· ≠ ':') (by decide) n
theorem digitChar_ne_dot (n : Nat) : digitChar n ≠ '.' := digitChar_ind (· ≠ '.') (by decide) n

theorem pyInt_pad (w n : Nat) (h : n < 10 ^ (w + 1)) : pyInt (pad (w + 1) n) = .ok (.int n) := by
  obtain ⟨t, ht⟩ := pad_head w n
  have h1 := natOfDigits_pad w n h
  rw [ht] at h1 ⊢
  unfold pyInt
  split
  · rename_i heq; simp at heq; exact absurd heq.1 (digitChar_ne_minus _)
  · rename_i heq; simp at heq; exact absurd heq.1 (digitChar_ne_plus _)
  · simp [h1]

theorem monthLen_eq (y m : Nat) : monthLen y m = daysInMonth y m := by
  unfold monthLen daysInMonth leap isLeap
  split <;> simp_all

theorem pyDate_iso (y m d : Nat) (hy : y < 10000) (hm : m < 100) (hd : d < 100) :
    pyDate (isoDate y m d) =
      if 1 ≤ y ∧ 1 ≤ m ∧ m ≤ 12 ∧ 1 ≤ d ∧ d ≤ daysInMonth y m then .ok (.date y m d) else .foreign "ValueError" := by
  simp [isoDate, pad4, pad2, pyDate, nod4 hy, nod2 hm, nod2 hd]

theorem monthLen_le (y m : Nat) : monthLen y m ≤ 31 := by
  unfold monthLen; split <;> try split
  all_goals omega

theorem date_value (y m d : Nat) (h : validDate y m d) : pyVal .date (isoDate y m d) = .ok (.date y m d) := by
  obtain ⟨h1, h2, h3, h4, h5, h6⟩ := h
  have := monthLen_le y m
  simp only [pyVal]
  rw [pyDate_iso y m d (by omega) (by omega) (by omega), if_pos]
  rw [← monthLen_eq]; exact ⟨h1, h3, h4, h5, h6⟩

theorem date_no_value (y m d : Nat) (hy : y ≤ 9999) (hm : m ≤ 99) (hd : d ≤ 99) (h : ¬ validDate y m d) :
    pyVal .date (isoDate y m d) = .foreign "ValueError" := by
  simp only [pyVal]
  rw [pyDate_iso y m d (by omega) (by omega) (by omega), if_neg]
  rw [← monthLen_eq]; intro ⟨h1, h3, h4, h5, h6⟩; exact h ⟨h1, hy, h3, h4, h5, h6⟩

abbrev isD : Char → Bool := fun c => (asciiDigit? c).isSome

theorem pad_isD (w n : Nat) : ∀ c ∈ pad w n, isD c = true := pad_all _ (by decide) w n

theorem takeWhile_all (p : Char → Bool) : ∀ (ds r : Str), (∀ c ∈ ds, p c = true) → (∀ c t, r = c :: t → p c = false) →
    (ds ++ r).takeWhile p = ds
  | [], [], _, _ => rfl
  | [], c :: t, _, hr => by simp [List.takeWhile, hr c t rfl]
  | d :: ds, r, hd, hr => by
    simp only [List.cons_append, List.takeWhile, hd d (by simp)]
    exact congrArg _ (takeWhile_all p ds r (fun c hc => hd c (List.mem_cons_of_mem _ hc)) hr)

theorem takeWhile_frac (fs : List Nat) (r : List Char) (hr : ∀ c t, r = c :: t → isD c = false) :
    (fracText fs ++ r).takeWhile isD = fracText fs :=
  takeWhile_all isD _ r (frac_all _ (by decide) fs) hr

theorem takeWhile_digits (ds : Str) (c : Char) (r : Str) (hds : ∀ x ∈ ds, isD x = true) (hc : isD c = false) :
    (ds ++ c :: r).takeWhile isD = ds :=
  takeWhile_all isD ds (c :: r) hds (by intro x t e; cases e; exact hc)


theorem foldl_frac (fs : List Nat) (a : Nat) :
    (fracText fs).foldl dstep (some a) = some (fs.foldl (fun a d => a * 10 + d % 10) a) := by
  induction fs generalizing a with
  | nil => rfl
  | cons d fs ih => exact (congrArg (fun o => (fracText fs).foldl dstep o) (by simp only [dstep, asciiDigit_digitChar])).trans (ih _)

theorem natOfDigits_frac {fs : List Nat} (h : fs ≠ []) : natOfDigits (fracText fs) = some (digitsVal fs) := by
  rw [natOfDigits_ne_nil (fracText_ne_nil h), foldl_frac]; rfl

theorem digitsVal_zeros (l : List Nat) (k : Nat) : digitsVal (l ++ List.replicate k 0) = digitsVal l * 10 ^ k := by
  induction k with
  | zero => simp
  | succ k ih =>
    rw [List.replicate_succ', ← List.append_assoc, digitsVal, List.foldl_append, ← digitsVal, ih]
    simp only [List.foldl_cons, List.foldl_nil, Nat.zero_mod, Nat.add_zero, Nat.pow_succ, Nat.mul_assoc]

theorem microsOf_frac (fs : List Nat) : microsOf (fracText fs) = some (fracMicros fs) := by
  have hz : ['0', '0', '0', '0', '0', '0'] = fracText (List.replicate 6 0) := rfl
  have ht : (fs ++ List.replicate 6 0).take 6 = fs.take 6 ++ List.replicate (6 - min 6 fs.length) 0 := by
    rw [List.take_append, List.take_replicate]; congr 2; omega
  have hne : (fs ++ List.replicate 6 0).take 6 ≠ [] := by
    intro h; have := congrArg List.length h; simp at this
  rw [microsOf, hz, fracText, fracText, ← List.map_append, ← List.map_take, ← fracText, natOfDigits_frac hne, ht, digitsVal_zeros]
  rfl
/-- what may follow a clock: nothing that continues it -/
def ClockEnd (r : Str) : Prop := ∀ c t, r = c :: t → c ≠ ':' ∧ c ≠ '.' ∧ isD c = false

theorem fracText_length (fs : List Nat) : (fracText fs).length = fs.length := by simp [fracText]

theorem parseClock_text (h mi : Nat) (sc : Secs) (r : Str) (hh : h < 100) (hmi : mi < 100) (hs : sc.ok) (hr : ClockEnd r) :
    parseClock (clockText h mi sc ++ r) = some (h, mi, sc.s, sc.us, r) := by
  cases sc with
  | none =>
    cases r with
    | nil => simp [clockText, Secs.text, Secs.s, Secs.us, pad2, parseClock, nod2 hh, nod2 hmi]
    | cons c t => simp [clockText, Secs.text, Secs.s, Secs.us, pad2, parseClock, nod2 hh, nod2 hmi, (hr c t rfl).1]
  | whole s =>
    have hs' : s < 100 := Nat.lt_trans hs (by decide)
    cases r with
    | nil => simp [clockText, Secs.text, Secs.s, Secs.us, pad2, parseClock, nod2 hh, nod2 hmi, nod2 hs']
    | cons c t => simp [clockText, Secs.text, Secs.s, Secs.us, pad2, parseClock, nod2 hh, nod2 hmi, nod2 hs', (hr c t rfl).2.1]
  | frac s fs =>
    obtain ⟨h1, h2, h3⟩ := hs
    have hs' : s < 100 := Nat.lt_trans h1 (by decide)
    have htw : List.takeWhile (fun c => (asciiDigit? c).isSome) (fracText fs ++ r) = fracText fs :=
      takeWhile_frac fs r (fun c t e => (hr c t e).2.2)
    have hne := fracText_ne_nil h2
    simp only [clockText, Secs.text, Secs.s, Secs.us, parseClock, pad2, ↓Char.isValue, List.cons_append, List.nil_append,
      List.append_assoc, nod2 hh, nod2 hmi, nod2 hs', List.isEmpty_iff, htw, microsOf_frac, hne, ↓reduceIte, fracText_length,
      List.drop_left']

theorem clockEnd_nil : ClockEnd [] := by intro c t h; cases h

theorem time_value (h mi : Nat) (sc : Secs) (hh : h < 24) (hmi : mi < 60) (hs : sc.ok) :
    pyVal .time (clockText h mi sc) = .ok (.time h mi sc.s sc.us) := by
  have h1 := parseClock_text h mi sc [] (by omega) (by omega) hs clockEnd_nil
  rw [List.append_nil] at h1
  have h2 : sc.s < 60 := by
    cases sc with
    | none => simp [Secs.s]
    | whole s => exact hs
    | frac s fs => exact hs.1
  simp [pyVal, pyTime, h1, hh, hmi, h2]

theorem clockEnd_off (o : Off) : ClockEnd o.text := by
  intro c t h
  cases o with
  | naive => cases h
  | z u => cases u <;> · simp [Off.text] at h; obtain ⟨rfl, _⟩ := h; decide
  | hm neg a b => cases neg <;> · simp [Off.text] at h; obtain ⟨rfl, _⟩ := h; decide

theorem datetime_value (y mo d h mi : Nat) (sep : Char) (sc : Secs) (o : Off) (hd : validDate y mo d)
    (hh : h < 24) (hmi : mi < 60) (hs : sc.ok) (ho : o.ok) :
    pyVal .datetime (dateTimeText y mo d sep h mi sc o) = .ok (.datetime y mo d h mi sc.s sc.us o.minutes) := by
  obtain ⟨h1, h2, h3, h4, h5, h6⟩ := hd
  have hml := monthLen_le y mo
  have hc := parseClock_text h mi sc o.text (by omega) (by omega) hs (clockEnd_off o)
  have hdm : d ≤ daysInMonth y mo := by rw [← monthLen_eq]; exact h6
  have hy : y < 10000 := by omega
  have hmo : mo < 100 := by omega
  have hd' : d < 100 := by omega
  simp only [pyVal, dateTimeText, isoDate, pad4, pad2, List.cons_append, List.nil_append, pyDateTime, nod4 hy, nod2 hmo,
    nod2 hd', hc]
  simp only [h1, h3, h4, h5, hdm, and_self, not_true_eq_false, if_false]
  cases o with
  | naive => simp only [Off.text, Off.minutes]
  | z u =>
    cases u <;> simp only [Off.text, Bool.false_eq_true, ↓reduceIte, ↓Char.isValue, Char.reduceBEq, BEq.rfl, Bool.or_true, Bool.or_false,
      Off.minutes]
  | hm neg a b =>
    have ha : a < 100 := by have := ho.1; omega
    have hb : b < 100 := by have := ho.2; omega
    cases neg <;> simp only [Off.text, Bool.false_eq_true, ↓reduceIte, ↓Char.isValue, pad2, List.cons_append, List.nil_append, nod2 ha,
      nod2 hb, Char.reduceBEq, BEq.rfl, Int.natCast_add, Int.natCast_mul, Int.cast_ofNat_Int, Off.minutes]


theorem hexChar_mod (u : Bool) (n : Nat) : hexChar u n = hexChar u (n % 16) := by simp [hexChar, Nat.mod_mod]

theorem hexChar_ind (P : Char → Prop) (h : ∀ k, k < 16 → ∀ u, P (hexChar u k)) (u : Bool) (n : Nat) : P (hexChar u n) := by
  rw [hexChar_mod]; exact h _ (Nat.mod_lt _ (by decide)) u

theorem hexDigit_hexChar (u : Bool) (n : Nat) : hexDigit? (hexChar u n) = some (n % 16) := by
  have : ∀ k, k < 16 → ∀ u, hexDigit? (hexChar u k) = some k := by decide
  rw [hexChar_mod]; exact this _ (Nat.mod_lt _ (by decide)) u

abbrev hstep : Option Nat → Char → Option Nat := fun acc c => match acc, hexDigit? c with
                         | some a, some d => some (a * 16 + d)
                         | _, _ => none

theorem foldl_hexPad (up : Nat → Bool) : ∀ (w n a : Nat), n < 16 ^ w → (hexPad up w n).foldl hstep (some a) = some (a * 16 ^ w + n)
  | 0, n, a, h => by simp at h; simp [hexPad, h]
  | w + 1, n, a, h => by
      simp only [hexPad, List.foldl_append, foldl_hexPad up w (n / 16) a (radix_lt h), List.foldl_cons, List.foldl_nil, hstep,
        hexDigit_hexChar, radix_step]

theorem natOfHex_hexPad (up : Nat → Bool) (w n : Nat) (h : n < 16 ^ w) : natOfHex (hexPad up w n) = some n := by
  have := foldl_hexPad up w n 0 h
  rw [Nat.zero_mul, Nat.zero_add] at this
  exact this

theorem hexPad_length (up : Nat → Bool) (w n : Nat) : (hexPad up w n).length = w := by
  induction w generalizing n with
  | zero => rfl
  | succ w ih => simp [hexPad, ih]

theorem hexPad_all (P : Char → Prop) (h : ∀ k, k < 16 → ∀ u, P (hexChar u k)) (up : Nat → Bool) (w n : Nat) :
    ∀ c ∈ hexPad up w n, P c := by
  induction w generalizing n with
  | zero => simp [hexPad]
  | succ w ih =>
    intro c hc
    simp only [hexPad, List.mem_append, List.mem_singleton] at hc
    rcases hc with hc | rfl
    · exact ih _ c hc
    · exact hexChar_ind P h _ _

theorem filter_guid (h : List Char) (hh : ∀ c ∈ h, c ≠ '-') :
    (h.take 8 ++ '-' :: (h.drop 8).take 4 ++ '-' :: (h.drop 12).take 4 ++ '-' :: (h.drop 16).take 4 ++ '-' :: h.drop 20).filter (· != '-') = h := by
  have hf : ∀ l : List Char, (∀ c ∈ l, c ∈ h) → l.filter (· != '-') = l := by
    intro l hl
    rw [List.filter_eq_self]
    intro c hc
    simpa using hh c (hl c hc)
  simp only [List.filter_append, List.filter_cons]
  rw [hf _ (fun c hc => List.mem_of_mem_take hc),
    hf _ (fun c hc => List.mem_of_mem_drop (List.mem_of_mem_take hc)),
    hf _ (fun c hc => List.mem_of_mem_drop (List.mem_of_mem_take hc)),
    hf _ (fun c hc => List.mem_of_mem_drop (List.mem_of_mem_take hc)),
    hf _ (fun c hc => List.mem_of_mem_drop hc)]
  simp only [bne_self_eq_false, Bool.false_eq_true, if_false]
  have key : ∀ (i j : Nat), h.drop i = (h.drop i).take j ++ h.drop (i + j) := by
    intro i j
    have : h.drop (i + j) = (h.drop i).drop j := by simp
    rw [this, List.take_append_drop]
  simp only [List.append_assoc]
  conv => rhs; rw [← List.take_append_drop 8 h, key 8 4, key 12 4, key 16 4]

theorem guid_value (up : Nat → Bool) (n : Nat) (h : n < 2 ^ 128) : pyVal .guid (guidText up n) = .ok (.guid n) := by
  have h16 : n < 16 ^ 32 := by
    have : (16 : Nat) ^ 32 = 2 ^ 128 := by decide
    omega
  simp only [pyVal, pyGuid, guidText, filter_guid _ (hexPad_all (· ≠ '-') (by decide) up 32 n), natOfHex_hexPad up 32 n h16]


theorem bool_value (v : Str) :
    (v.map asciiLower = "true".toList → pyVal .bool v = .ok (.bool true)) ∧
    (v.map asciiLower = "false".toList → pyVal .bool v = .ok (.bool false)) := by
  constructor
  · intro h; simp [pyVal, h]
  · intro h; simp [pyVal, h]

def esc (s : Str) : Str := s.flatMap (fun c => if c = '\'' then ['\'', '\''] else [c])

theorem quoteText_eq (s : Str) : quoteText s = '\'' :: esc s ++ ['\''] := rfl

theorem esc_cons (c : Char) (s : Str) : esc (c :: s) = (if c = '\'' then ['\'', '\''] else [c]) ++ esc s := by simp [esc]

theorem strBody_esc (s rest : Str) (hr : ∀ t, rest ≠ '\'' :: t) : strBody (esc s ++ '\'' :: rest) = some (esc s, rest) := by
  induction s with
  | nil =>
    cases rest with
    | nil => simp [esc, strBody]
    | cons c t =>
      have : c ≠ '\'' := by rintro rfl; exact hr t rfl
      simp [esc, strBody, this]
  | cons c s ih =>
    rw [esc_cons]
    by_cases hc : c = '\''
    · subst hc; simp [strBody, ih]
    · simp only [hc, if_false, List.cons_append, List.nil_append]
      rw [strBody.eq_def]
      simp [hc, ih]

theorem unescape_esc (s : Str) : unescape (esc s) = s := by
  induction s with
  | nil => simp [esc, unescape]
  | cons c s ih =>
    rw [esc_cons]
    by_cases hc : c = '\''
    · subst hc; simp [unescape, ih]
    · simp only [hc, if_false, List.cons_append, List.nil_append]
      rw [unescape.eq_def]
      simp [hc, ih]

theorem scanString_quote (s rest : Str) (hr : ∀ t, rest ≠ '\'' :: t) : scanString (quoteText s ++ rest) = some (s, rest) := by
  simp [quoteText_eq, scanString, strBody_esc s rest hr, unescape_esc]

theorem splitDots_nodot (s : Str) (h : '.' ∉ s) : splitDots s = [s] := C06.splitDots_nodot s h

theorem splitDots_dot (s t : Str) (h : '.' ∉ s) : splitDots (s ++ '.' :: t) = s :: splitDots t := by
  induction s with
  | nil => simp [splitDots]
  | cons c s ih =>
    simp only [List.mem_cons, not_or] at h
    have hc : c ≠ '.' := fun e => h.1 e.symm
    rw [List.cons_append, splitDots.eq_def]
    simp [hc, ih h.2]

theorem splitDots_dotted (segs : List Str) (last : Str) (h : ∀ s ∈ segs ++ [last], '.' ∉ s) :
    splitDots (dotted (segs ++ [last])) = segs ++ [last] := by
  induction segs with
  | nil => simpa [dotted] using splitDots_nodot last (h last (by simp))
  | cons a segs ih =>
    have ha : '.' ∉ a := h a (by simp)
    have ih' := ih (fun s hs => h s (List.mem_cons_of_mem _ hs))
    have e : dotted (a :: segs ++ [last]) = a ++ '.' :: dotted (segs ++ [last]) := by
      cases segs <;> simp [dotted, List.intersperse]
    rw [e, splitDots_dot _ _ ha, ih']; rfl

theorem ident_namespaces (segs : List Str) (last : Str) (h : ∀ s ∈ segs ++ [last], '.' ∉ s) :
    identOfText (dotted (segs ++ [last])) = ⟨last, segs⟩ := by
  simp [identOfText, splitDots_dotted segs last h]


theorem durComponent_eq (l : Char) (ds : Str) (c : Char) (r : Str) (hne : ds ≠ []) (hds : ∀ x ∈ ds, isD x = true)
    (hc : isD c = false) :
    durComponent l (ds ++ c :: r) = if c == l then (natOfDigits ds, r) else (none, ds ++ c :: r) := by
  have htw : List.takeWhile (fun c => (asciiDigit? c).isSome) (ds ++ c :: r) = ds := takeWhile_digits ds c r hds hc
  unfold durComponent
  simp only [htw, List.drop_left]

/-- `cs` does not begin with a `<digits>l` component -/
def NotComp (l : Char) (cs : Str) : Prop := durComponent l cs = (none, cs)

theorem notComp_nil (l : Char) : NotComp l [] := by simp [NotComp, durComponent]

theorem notComp_cons (l c : Char) (t : Str) (hc : isD c = false) : NotComp l (c :: t) := by
  have hc' : (asciiDigit? c).isSome = false := hc
  simp [NotComp, durComponent, List.takeWhile, hc']

theorem notComp_digits (l : Char) (ds : Str) (c : Char) (r : Str) (hds : ∀ x ∈ ds, isD x = true)
    (hc : isD c = false) (hcl : c ≠ l) : NotComp l (ds ++ c :: r) := by
  cases ds with
  | nil => exact notComp_cons l c r hc
  | cons d ds =>
    unfold NotComp
    rw [durComponent_eq l (d :: ds) c r (by simp) hds hc]
    simp [hcl]

theorem notComp_comp (l l' : Char) (c : Option (Nat × Nat)) (r : Str) (hne : l' ≠ l) (hl' : isD l' = false)
    (hr : NotComp l r) : NotComp l (compText l' c ++ r) := by
  cases c with
  | none => simpa [compText] using hr
  | some p =>
    obtain ⟨w, n⟩ := p
    simp only [compText, List.append_assoc, List.singleton_append]
    exact notComp_digits l _ l' r (pad_isD _ _) hl' hne

theorem durComponent_comp (l : Char) (hl : isD l = false) (c : Option (Nat × Nat)) (hc : compOk c) (r : Str)
    (hr : NotComp l r) : durComponent l (compText l c ++ r) = (c.map Prod.snd, r) := by
  cases c with
  | none => simpa [compText, NotComp] using hr
  | some p =>
    obtain ⟨w, n⟩ := p
    simp only [compText, List.append_assoc, List.singleton_append]
    rw [durComponent_eq l _ l r (pad_ne_nil w n) (pad_isD _ _) hl]
    simp [natOfDigits_pad w n hc]

theorem getD_comp (c : Option (Nat × Nat)) : (c.map Prod.snd).getD 0 = compVal c := by
  cases c <;> rfl


theorem isD_S : isD 'S' = false := by decide
theorem isD_dot : isD '.' = false := by decide

theorem durSeconds_text (s : DSecs) (hs : s.ok) :
    durSecondsMicros s.text = some ((match s with | .none => none | _ => some s.micros), []) := by
  cases s with
  | none => simp only [durSecondsMicros, DSecs.text, List.takeWhile_nil, List.length_nil, List.drop_nil]
  | whole w n =>
    have htw : List.takeWhile (fun c => (asciiDigit? c).isSome) (pad (w + 1) n ++ ['S']) = pad (w + 1) n :=
      takeWhile_digits _ 'S' [] (pad_isD _ _) isD_S
    obtain ⟨t, ht⟩ := pad_head w n
    have hn := natOfDigits_pad w n hs
    unfold durSecondsMicros
    simp only [DSecs.text, htw, List.drop_left]
    rw [ht] at hn ⊢
    simp only [↓Char.isValue, hn, Option.map_some, DSecs.micros]
  | frac w n fs =>
    obtain ⟨h1, h2, h3, h4⟩ := hs
    have htw : List.takeWhile (fun c => (asciiDigit? c).isSome) (pad (w + 1) n ++ '.' :: (fracText fs ++ ['S'])) = pad (w + 1) n :=
      takeWhile_digits _ '.' _ (pad_isD _ _) isD_dot
    have htw2 : List.takeWhile (fun c => (asciiDigit? c).isSome) (fracText fs ++ ['S']) = fracText fs :=
      takeWhile_frac fs ['S'] (by intro c t h; simp at h; rw [← h.1]; exact isD_S)
    have hne := fracText_ne_nil h2
    obtain ⟨t, ht⟩ := pad_head w n
    have hn := natOfDigits_pad w n h1
    unfold durSecondsMicros
    simp only [DSecs.text, List.append_assoc, List.cons_append, htw, List.drop_left]
    rw [ht] at hn ⊢
    simp only [↓Char.isValue, htw2, fracText_length, List.drop_left', gt_iff_lt, List.isEmpty_iff, hne, or_false,
      hn, microsOf_frac, DSecs.micros, ite_eq_right_iff, reduceCtorEq, imp_false, Nat.not_lt, ge_iff_le]
    exact h3


def tpText (tp : Option (Option (Nat × Nat) × Option (Nat × Nat) × DSecs)) : Str :=
  match tp with
  | none => []
  | some (h, mi, s) => 'T' :: (compText 'H' h ++ (compText 'M' mi ++ s.text))

theorem durText_eq (sg : Sign) (y mo d : Option (Nat × Nat)) (tp : Option (Option (Nat × Nat) × Option (Nat × Nat) × DSecs)) :
    durText sg y mo d tp = sg.text ++ 'P' :: (compText 'Y' y ++ (compText 'M' mo ++ (compText 'D' d ++ tpText tp))) := by
  rcases tp with _ | ⟨h, mi, s⟩ <;> simp [durText, tpText, List.append_assoc]

theorem notComp_tp (l : Char) (tp) : NotComp l (tpText tp) := by
  rcases tp with _ | ⟨h, mi, s⟩
  · exact notComp_nil l
  · exact notComp_cons l 'T' _ (by decide)

theorem notComp_secs (l : Char) (hl : l ≠ 'S') (hl2 : l ≠ '.') (s : DSecs) : NotComp l s.text := by
  cases s with
  | none => exact notComp_nil l
  | whole w n => exact notComp_digits l _ 'S' [] (pad_isD _ _) isD_S (Ne.symm hl)
  | frac w n fs =>
    simp only [DSecs.text, List.append_assoc, List.cons_append]
    exact notComp_digits l _ '.' _ (pad_isD _ _) isD_dot (Ne.symm hl2)

/-- `timedelta` is given the days first; the text has them third -/
theorem secs_order (a b c e f : Nat) : a + b + c + e + f = b + c + a + (e + f) := by omega

theorem pyDuration_unsigned (y mo d : Option (Nat × Nat)) (tp : Option (Option (Nat × Nat) × Option (Nat × Nat) × DSecs))
    (hy : compOk y) (hmo : compOk mo) (hd : compOk d)
    (ht : ∀ h mi s, tp = some (h, mi, s) → compOk h ∧ compOk mi ∧ s.ok) :
    pyDuration ('P' :: (compText 'Y' y ++ (compText 'M' mo ++ (compText 'D' d ++ tpText tp)))) =
      .ok (.duration (durMicros .none y mo d tp)) := by
  have e1 := durComponent_comp 'Y' (by decide) y hy (compText 'M' mo ++ (compText 'D' d ++ tpText tp))
    (notComp_comp _ _ _ _ (by decide) (by decide) (notComp_comp _ _ _ _ (by decide) (by decide) (notComp_tp _ _)))
  have e2 := durComponent_comp 'M' (by decide) mo hmo (compText 'D' d ++ tpText tp)
    (notComp_comp _ _ _ _ (by decide) (by decide) (notComp_tp _ _))
  have e3 := durComponent_comp 'D' (by decide) d hd (tpText tp) (notComp_tp _ _)
  simp only [pyDuration, ↓Char.isValue, List.cons.injEq, Char.reduceEq, false_and, imp_self, implies_true, e1, e2, e3, getD_comp,
    durMicros, Sign.neg, Bool.false_eq_true, if_false]
  rcases tp with _ | ⟨h, mi, s⟩
  · simp only [tpText, Option.getD_some, secs_order]
  · obtain ⟨hh, hmi, hs⟩ := ht h mi s rfl
    have e4 := durComponent_comp 'H' (by decide) h hh (compText 'M' mi ++ s.text)
      (notComp_comp _ _ _ _ (by decide) (by decide) (notComp_secs _ (by decide) (by decide) s))
    have e5 := durComponent_comp 'M' (by decide) mi hmi s.text (notComp_secs _ (by decide) (by decide) s)
    simp only [tpText, e4, e5, durSeconds_text s hs, getD_comp, secs_order]
    cases s <;> simp only [Option.getD_some, Option.getD_none, DSecs.micros]
theorem pyDuration_minus {X : Str} {u : Int} (h : pyDuration ('P' :: X) = .ok (.duration u)) :
    pyDuration ('-' :: 'P' :: X) = .ok (.duration (-u)) := by
  simp only [pyDuration, ↓Char.isValue, List.cons.injEq, Char.reduceEq, false_and, imp_self, implies_true] at h ⊢
  split at h
  · rename_i heq
    simp only [Bool.false_eq_true, if_false, Outcome.ok.injEq, PyValue.duration.injEq] at h
    rw [← h, if_pos trivial]
  · cases h
  · cases h

theorem durMicros_sign (sg : Sign) (y mo d : Option (Nat × Nat)) (tp : Option (Option (Nat × Nat) × Option (Nat × Nat) × DSecs)) :
    durMicros sg y mo d tp = if sg.neg then -durMicros .none y mo d tp else durMicros .none y mo d tp := by
  cases sg <;> simp only [durMicros, Sign.neg, Bool.false_eq_true, if_false, if_true]

theorem duration_value (sg : Sign) (y mo d : Option (Nat × Nat)) (tp : Option (Option (Nat × Nat) × Option (Nat × Nat) × DSecs))
    (hy : compOk y) (hmo : compOk mo) (hd : compOk d)
    (ht : ∀ h mi s, tp = some (h, mi, s) → compOk h ∧ compOk mi ∧ s.ok) :
    pyVal .duration (durText sg y mo d tp) = .ok (.duration (durMicros sg y mo d tp)) := by
  rw [durText_eq, durMicros_sign]
  have h := pyDuration_unsigned y mo d tp hy hmo hd ht
  generalize durMicros .none y mo d tp = u at h ⊢
  generalize compText 'Y' y ++ (compText 'M' mo ++ (compText 'D' d ++ tpText tp)) = X at h ⊢
  cases sg
  · exact h
  · exact h
  · rw [if_pos (show Sign.minus.neg = true from rfl)]; exact pyDuration_minus h
end OQ.LitValue
