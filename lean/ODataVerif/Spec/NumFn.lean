/-
  Reference semantics of the rounding functions `floor`, `ceiling`, `round` on FRACTIONAL values
  (OData 4.01 Part 2 §5.1.1.9: floor = greatest integer not above, ceiling = least integer not below, round = nearest integer,
  the mid-point away from zero).  Values are exact binary fractions `q / 4` (quarters), which every engine here stores and
  computes exactly, so the comparison with the real backends involves no rounding error.

  The typed grammar of Spec/ODataSem.lean is integer / string / Boolean; this module extends the JUDGE of C01 / C02 / C03 to
  `fn(column) cmp integer` over a fractional column.  It is not inside `C01.sound` / `C02.sound` / `C03.sound` (which are
  theorems about the integer / string / Boolean grammar): the checks evaluate THIS specification in Lean on the rows and
  compare the real result with it on every run (DESIGN §0.2, "numeric stream").
-/
import ODataVerif.Spec.ODataSem
namespace OQ.Spec

inductive RoundFn | floor | ceiling | round
  deriving DecidableEq, Repr

/-- `fn (q / 4)` -/
def roundQ (f : RoundFn) (q : Int) : Int :=
  match f with
  | .floor => q / 4                         -- Int `/` rounds toward −∞ for a positive divisor
  | .ceiling => -((-q) / 4)
  | .round => if 0 ≤ q then (q + 2) / 4 else -((-q + 2) / 4)

theorem floor_spec (q : Int) : 4 * roundQ .floor q ≤ q ∧ q < 4 * (roundQ .floor q + 1) := by
  simp only [roundQ]; omega
theorem ceiling_spec (q : Int) : q ≤ 4 * roundQ .ceiling q ∧ 4 * (roundQ .ceiling q - 1) < q := by
  simp only [roundQ]; omega
theorem round_near (q : Int) : 4 * roundQ .round q - q ≤ 2 ∧ q - 4 * roundQ .round q ≤ 2 := by
  simp only [roundQ]; split <;> omega
theorem round_midpoint (k : Int) : roundQ .round (4 * k + 2) = if 0 ≤ k then k + 1 else k := by
  simp only [roundQ]; split <;> split <;> omega
theorem round_integral (f : RoundFn) (k : Int) : roundQ f (4 * k) = k := by
  cases f <;> simp only [roundQ] <;> (try split) <;> omega
theorem ceiling_floor (q : Int) : roundQ .ceiling q = if q % 4 = 0 then roundQ .floor q else roundQ .floor q + 1 := by
  simp only [roundQ]; split <;> omega

/-- `fn(col) cmp n` on a row whose column holds `q / 4` (or NULL): three-valued -/
def numFnHolds (f : RoundFn) (k : CmpK) (n : Int) (cell : Option Int) : V3 :=
  match cell with
  | none => .unk
  | some q => V3.ofBool (cmpInt k (roundQ f q) n)

/-! KNOWN FINDING C01-sqlite-round-negative: what `TRUNC(x + 0.5)` (SQLite dialect, sql/sqlite.py `sqlfunc_round`) computes -/
/-- truncation toward zero of (q + 2) / 4, i.e. TRUNC(q/4 + 0.5) -/
def truncShiftQ (q : Int) : Int := if 0 ≤ q + 2 then (q + 2) / 4 else -((-(q + 2)) / 4)
/-- right for every x > −0.5 … -/
theorem kf_trunc_shift_ok (q : Int) (h : -1 ≤ q) : truncShiftQ q = roundQ .round q := by
  simp only [truncShiftQ, roundQ]; split <;> split <;> omega
/-- … and exactly one too high for every x ≤ −0.5 -/
theorem kf_trunc_shift_wrong (q : Int) (h : q ≤ -2) : truncShiftQ q = roundQ .round q + 1 := by
  simp only [truncShiftQ, roundQ]; split <;> split <;> omega
example : truncShiftQ (-5) = 0 ∧ roundQ .round (-5) = -1 := by decide

example : roundQ .ceiling (-6) = -1 ∧ roundQ .floor (-6) = -2 ∧ roundQ .round (-6) = -2 ∧ roundQ .round 6 = 2 ∧ roundQ .ceiling (-2) = 0 := by decide
end OQ.Spec
